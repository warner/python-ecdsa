import Proofs.ThreadsKeys
import Proofs.ThreadsRep
import Props.C19g
/-! # Proofs.ThreadsValue — every accepted result has ONE observable value

`Op.acc` (the conclusion of `linearizable`) says: the result is the sequential function applied to admissible snapshots
(initial or scaled triple, empty or complete table, any allowed referent of a key).  Here the alternatives are collapsed:
for shared objects that are stored points of ⟨G⟩ (`Valid`), every admissible alternative has the same OBSERVABLE value —
the canonical affine pair / INFINITY for point results (`GroupInterface.canon`), the integer, the Boolean, the pair — and
that value is a function of the group elements the objects denote (`sval`).  Sources: the C06/C07 theorems through
`Proofs/GroupInterface.lean` and `C19g.rep_indep` (representation independence of `Model/Curve.lean`). -/
namespace ThreadProgs
open WeierstrassCurve Curve Jac GroupInterface Threads Access

variable {p : ℕ} [hp : Fact p.Prime] {a b : ℤ}

inductive ObsV
  | none
  | int (n : ℤ)
  | bool (b : Bool)
  | pt (v : Option (ℤ × ℤ))          -- a point: `none` = INFINITY, else the canonical affine pair
  | pair (a b : ℤ)
deriving DecidableEq, Repr

/-- the observable value of a result; `id0` = the object a pickled state belongs to.  A returned shared object is
observed through the value it holds; the table of a pickled state is not observable. -/
def obs (E : Env) (id0 : Nat) : Res Out → Res ObsV
  | .error e => .error e
  | .ok .none => .ok .none
  | .ok (.int n) => .ok (.int n)
  | .ok (.bool b) => .ok (.bool b)
  | .ok (.pair x y) => .ok (.pair x y)
  | .ok (.pt R) => (canon R).map .pt
  | .ok (.obj id) => (canon (.jac (mkPJ (E.info id) (E.c0 id)))).map .pt
  | .ok (.state c _) => (canon (.jac (mkPJ (E.info id0) c))).map .pt

/-- the shared objects are stored points of ⟨G⟩: object `id` denotes `g id` -/
structure Valid (C : Ctx p a b) (E : Env) (g : Nat → Grp (a : ZMod p) (b : ZMod p)) : Prop where
  rep : ∀ id, PJRep p a b C.H (mkPJ (E.info id) (E.c0 id)) (g id)
  ord : ∀ id, (E.info id).order = some C.n ∨ ((E.info id).order = none ∧ (E.info id).generator = false)
  scale : ∀ id, pjScale (mkPJ (E.info id) (E.c0 id)) = .ok (mkPJ (E.info id) (E.cS id))
  table : ∀ id, (E.info id).generator = true → precomputeTable (mkPJ (E.info id) (E.c0 id)) = .ok (E.tF id)
  notable : ∀ id, (E.info id).generator = false → E.tF id = []
  /-- all allowed referents of a key denote the same point -/
  targets : ∀ kid t t', E.targets kid t → E.targets kid t' → g t = g t'

section
variable {C : Ctx p a b} {E : Env} {g : Nat → Grp (a : ZMod p) (b : ZMod p)}

theorem Valid.objOK (hv : Valid C E g) (id : Nat) : ObjOK E id := by
  apply objOK_of_rep C.n2t E id (g id) (hv.rep id) (hv.scale id)
  · intro hg
    rcases hv.ord id with ho | ⟨_, hf⟩
    · exact ⟨C.n, by simp [ho, truthy, ne_of_gt C.hpos], C.hpos, hv.table id hg⟩
    · rw [hf] at hg; cases hg
  · exact hv.notable id

theorem Valid.repS (hv : Valid C E g) (id : Nat) : PJRep p a b C.H (mkPJ (E.info id) (E.cS id)) (g id) := by
  obtain ⟨S, hS, hrep, _⟩ := pjScale_correct (hv.rep id)
  rw [hv.scale id] at hS
  cases hS
  exact hrep

theorem Valid.repGood (hv : Valid C E g) {id : Nat} {c : Coords} (hc : GoodC E id c) :
    PJRep p a b C.H (mkPJ (E.info id) c) (g id) := by
  rcases hc with rfl | rfl
  · exact hv.rep id
  · exact hv.repS id

theorem Valid.orderOK (hv : Valid C E g) (id : Nat) (c : Coords) : OrderOK C (mkPJ (E.info id) c) := hv.ord id

def Valid.gH (hv : Valid C E g) (id : Nat) : C.H := ⟨g id, (hv.rep id).mem⟩

theorem Valid.genOK (hv : Valid C E g) (id : Nat) (c : Coords) : PointObj.GenOK (mkPJ (E.info id) c) := by
  intro hg
  rcases hv.ord id with ho | ⟨_, hf⟩
  · exact ⟨C.n, (congrArg truthy ho).trans (C19g.truthy_n C)⟩
  · exact nomatch hf.symm.trans hg

/-- every admissible (snapshot, table) pair is a hidden state of the same value in the sense of C19 -/
theorem Valid.hiddenState (hp2 : p ≠ 2) (hv : Valid C E g) {id : Nat} {c : Coords} (hc : GoodC E id c) {t : Table}
    (ht : t = [] ∨ t = E.tF id) : C19g.HS C (mkPJ (E.info id) c) t (hv.gH id) := by
  have h0 : C19g.HS C (mkPJ (E.info id) c) [] (hv.gH id) :=
    ⟨hv.repGood hc, (hv.ord id).imp (fun h => h) And.left, Or.inl rfl⟩
  rcases ht with rfl | rfl
  · exact h0
  refine (Bool.eq_false_or_eq_true (E.info id).generator).elim (fun hg => ?_) fun hg => ?_
  · -- the complete table is what `_maybe_precompute` leaves, which C19 shows to be a table of the same value
    let _ : DecidableEq C.H := Classical.decEq _
    obtain ⟨t', et, hst, _⟩ := (C19g.rep_indep hp2 C (E.info id).curve (hv.rep id).1).hs_precompute h0 (hv.genOK id c)
    have hpre : maybePrecompute (mkPJ (E.info id) c) [] = .ok (E.tF id) :=
      (if_neg (by rw [show (mkPJ (E.info id) c).generator = true from hg]; exact Bool.false_ne_true)).trans
        (precompute_good (hv.objOK id) hg hc)
    cases hpre.symm.trans et
    exact hst
  · rw [hv.notable id hg]
    exact h0

theorem seqX_val (hv : Valid C E g) {id : Nat} {c : Coords} (hc : GoodC E id c) :
    seqX (E.info id) c = .ok (.int (xOf (g id))) :=
  congrArg (Except.map Out.int) (C19g.xyOf_spec (hv.repGood hc)).1

theorem seqY_val (hv : Valid C E g) {id : Nat} {c : Coords} (hc : GoodC E id c) :
    seqY (E.info id) c = .ok (.int (C19g.yOf (g id))) :=
  congrArg (Except.map Out.int) (C19g.xyOf_spec (hv.repGood hc)).2

theorem canon_obj (hv : Valid C E g) (id : Nat) {c : Coords} (hc : GoodC E id c) :
    canon (.jac (mkPJ (E.info id) c)) = .ok (canonOf (g id)) :=
  canon_spec (show PtRep p a b C.H (.jac (mkPJ (E.info id) c)) (g id) from hv.repGood hc)

theorem obs_pt {R : Pt} {v} (h : PtRep p a b C.H R v) (id0 : Nat) : obs E id0 (.ok (.pt R)) = .ok (.pt (canonOf v)) :=
  congrArg (Except.map ObsV.pt) (canon_spec h)

theorem seqToAffine_val (hv : Valid C E g) {id : Nat} {c : Coords} (hc : GoodC E id c) (id0 : Nat) :
    obs E id0 (seqToAffine (E.info id) c) = .ok (.pt (canonOf (g id))) := by
  obtain ⟨A, e, hA, _⟩ := GroupInterface.to_affine (hv.repGood hc)
  rw [seqToAffine, e]
  exact obs_pt (R := .aff A) hA id0

theorem seqDouble_val (hv : Valid C E g) {id : Nat} {c : Coords} (hc : GoodC E id c) (id0 : Nat) :
    obs E id0 (seqDouble (E.info id) c) = .ok (.pt (canonOf (g id + g id))) :=
  obs_pt (GroupInterface.double C (hv.repGood hc)) id0

theorem seqNeg_val (hv : Valid C E g) {id : Nat} {c : Coords} (hc : GoodC E id c) (id0 : Nat) :
    obs E id0 (seqNeg (E.info id) c) = .ok (.pt (canonOf (-(g id)))) :=
  obs_pt (R := .jac _) (GroupInterface.neg (hv.repGood hc)) id0

theorem isInf_good_false (hv : Valid C E g) {id : Nat} {c : Coords} (hc : GoodC E id c) : isInfC c = false :=
  pjEqInf_false (hv.repGood hc)

open Classical in
theorem seqEq_val (hv : Valid C E g) {s o : Nat} {ca cb : Coords} (ha : GoodC E s ca) (hb : GoodC E o cb) :
    seqEq (E.info s) ca (E.info o) cb = .ok (.bool (decide (g s = g o))) := by
  have hP := hv.repGood ha
  have hQ := hv.repGood hb
  have heqv : (!(E.info s).curve.eqv (E.info o).curve) = false := congrArg not (hP.1.eqv hQ.1)
  have hinf : ¬ (isInfC ca || isInfC cb) = true := by
    rw [isInf_good_false hv ha, isInf_good_false hv hb]; exact Bool.false_ne_true
  -- neither point is the identity and the curves agree: `==` of the model is the comparison of the coordinates
  have hpt : ptEq (.jac (mkPJ (E.info s) ca)) (.jac (mkPJ (E.info o) cb)) =
      coordsEq (E.info s).curve.p ca.1 ca.2.1 ca.2.2 cb.1 cb.2.1 cb.2.2 :=
    (if_neg (heqv ▸ Bool.false_ne_true)).trans (if_neg fun h => hinf ((isInfC_or ca cb).symm.trans h))
  rw [(seqEq_eqv heqv).trans (if_neg hinf), ← hpt]
  have hiff := ptEq_iff C.n2t (show PtRep p a b C.H (.jac (mkPJ (E.info s) ca)) (g s) from hP)
    (show PtRep p a b C.H (.jac (mkPJ (E.info o) cb)) (g o) from hQ)
  exact congrArg (fun b => Except.ok (Out.bool b)) (Bool.eq_iff_iff.mpr (hiff.trans (decide_eq_true_iff).symm))

/-- a result value denotes a group element: the shared object `i` itself (then it is that object's value), INFINITY,
or a freshly created stored point -/
inductive OutDen (C : Ctx p a b) (g : Nat → Grp (a : ZMod p) (b : ZMod p)) : Out → Grp (a : ZMod p) (b : ZMod p) → Prop
  | obj (i : Nat) : OutDen C g (.obj i) (g i)
  | inf : OutDen C g (.pt .infinity) 0
  | jac {J : PJ} {v} : PJRep p a b C.H J v → OutDen C g (.pt (.jac J)) v

theorem OutDen.obs (hv : Valid C E g) {o : Out} {v} (h : OutDen C g o v) (id0 : Nat) :
    obs E id0 (.ok o) = .ok (.pt (canonOf v)) := by
  cases h with
  | obj i => exact congrArg (Except.map ObsV.pt) (canon_obj hv i (Or.inl rfl))
  | inf => rfl
  | jac h => exact obs_pt (R := .jac _) h id0

theorem outDen_coordsOut {c : CurveFp} {o : Option ℤ} {t : ℤ × ℤ × ℤ} {v}
    (h : PtRep p a b C.H (coordsOut c o t) v) : OutDen C g (.pt (coordsOut c o t)) v := by
  unfold coordsOut at h ⊢
  split
  · next hi => rw [if_pos hi] at h; cases (show v = 0 from h); exact .inf
  · next hi => rw [if_neg hi] at h; exact .jac h

/-- what an operand of `+` (a shared object or a call result) denotes -/
def OpDen (C : Ctx p a b) (g : Nat → Grp (a : ZMod p) (b : ZMod p)) (s : Loc) (o : Obj) (v : Grp (a : ZMod p) (b : ZMod p)) : Prop :=
  match s.fresh o with
  | .shared => v = g (s.obj o)
  | .inf => v = 0
  | .pj P => PJRep p a b C.H P v

theorem OutDen.opDen {o : Out} {v} (h : OutDen C g o v) {s : Loc} {ob : Obj} (hf : s.fresh ob = freshOf o)
    (hs : ∀ i, o = .obj i → s.obj ob = i) : OpDen C g s ob v := by
  unfold OpDen
  rw [hf]
  cases h with
  | obj i => exact congrArg g (hs i rfl).symm
  | inf => rfl
  | jac h => exact h

theorem opDen_retOperand {s : Loc} {o : Obj} {v} (h : OpDen C g s o v) : OutDen C g (retOperand s o) v := by
  unfold OpDen at h
  unfold retOperand
  cases hf : s.fresh o with
  | shared => rw [hf] at h; cases h; exact .obj _
  | inf => rw [hf] at h; cases h; exact .inf
  | pj P => rw [hf] at h; exact .jac h

theorem opDen_snapshot (hv : Valid C E g) {s : Loc} {o : Obj} {v} (h : OpDen C g s o v) {c : Coords}
    (hc : GoodOp E s o c) :
    (isInfC c = true ∧ v = 0) ∨ (isInfC c = false ∧ PJRep p a b C.H (mkPJ (infoOf E.info s o) c) v) := by
  unfold OpDen at h
  unfold GoodOp at hc
  unfold infoOf
  cases hf : s.fresh o with
  | shared =>
    rw [hf] at h hc
    cases h
    exact Or.inr ⟨isInf_good_false hv hc, hv.repGood hc⟩
  | inf =>
    rw [hf] at h hc
    cases hc
    exact Or.inl ⟨rfl, h⟩
  | pj P =>
    rw [hf] at h hc
    cases hc
    exact Or.inr ⟨pjEqInf_false h, h⟩

/-- `A + B` on shared objects or call results: every accepted result is a value, and it denotes the sum -/
theorem addG_den (hp2 : p ≠ 2) (hv : Valid C E g) {s : Loc} {va vb} (ha : OpDen C g s .self va) (hb : OpDen C g s .other vb)
    {r : Res Out} (h : accAddG E s r) : ∃ o, r = .ok o ∧ OutDen C g o (va + vb) := by
  obtain ⟨ca, cb, hca, hcb, rfl⟩ := h
  rcases opDen_snapshot hv ha hca with ⟨hia, rfl⟩ | ⟨hia, hP⟩
  · exact ⟨_, if_pos hia, (zero_add vb).symm ▸ opDen_retOperand hb⟩
  rcases opDen_snapshot hv hb hcb with ⟨hib, rfl⟩ | ⟨hib, hQ⟩
  · exact ⟨_, (if_neg (hia ▸ Bool.false_ne_true)).trans (if_pos hib), (add_zero va).symm ▸ opDen_retOperand ha⟩
  obtain ⟨R, e, hR⟩ := pjAddCore_correct hp2 C.n2t hP hQ
  refine ⟨.pt R, ?_, ?_⟩
  · rw [seqAddG_fin hia hib, if_neg (congrArg not (hP.1.eqv hQ.1) ▸ Bool.false_ne_true), e]; rfl
  · -- the sum comes out of `coordsOut`: INFINITY or a Jacobian point
    unfold pjAddCore at e
    split at e
    · cases e
    · cases e; exact outDen_coordsOut hR

/-- `P * k`: every accepted result denotes `k • g` (the object itself for k = 1), and `*` never raises -/
theorem mul_den (hp2 : p ≠ 2) (hv : Valid C E g) {id : Nat} {k : ℤ} {r : Res Out} (h : accMul E id k r) :
    ∃ o, r = .ok o ∧ OutDen C g o (k • g id) ∧ (∀ i, o = .obj i → i = id) := by
  obtain ⟨c, t, hc, ht, rfl⟩ := h
  have hy : (c.2.1 == 0) = false := beq_eq_false_iff_ne.mpr (hv.repGood hc).y_ne
  by_cases hk0 : k = 0
  · subst hk0
    exact ⟨_, if_pos (by rw [hy]; rfl), zero_smul ℤ (g id) ▸ .inf, fun _ h => nomatch h⟩
  have h0 : ¬ (c.2.1 == 0 || k == 0) = true := by rw [hy, beq_eq_false_iff_ne.mpr hk0]; exact Bool.false_ne_true
  by_cases hk1 : k = 1
  · subst hk1
    exact ⟨_, (if_neg h0).trans (if_pos rfl), one_smul ℤ (g id) ▸ .obj id, fun _ h => (Out.obj.inj h).symm⟩
  let _ : DecidableEq C.H := Classical.decEq _
  obtain ⟨v, ev, hvv⟩ := (C19g.rep_indep hp2 C (E.info id).curve (hv.rep id).1).hs_mul k (hv.hiddenState hp2 hc ht)
    (hv.genOK id c) hk0 hk1
  have hr : seqMul (E.info id) id c t k = .ok (.pt v) := by
    rw [seqMul, if_neg h0, if_neg (beq_eq_false_iff_ne.mpr hk1 ▸ Bool.false_ne_true), ev]; rfl
  refine ⟨_, hr, ?_, fun _ h => nomatch h⟩
  -- the product is INFINITY (then `k • g = 0`) or a fresh stored point of `k • g`
  rcases hvv with ⟨rfl, e⟩ | ⟨J, rfl, _, hJ, _, _⟩
  · have e : k • g id = 0 := congrArg Subtype.val e
    exact e.symm ▸ .inf
  · exact .jac hJ.1

theorem accBind_elim {A : Res Out → Prop} {F : Out → Res Out → Prop} {Q : Out → Prop} {r : Res Out}
    (hA : ∀ r, A r → ∃ o, r = .ok o ∧ Q o) (h : accBind A F r) : ∃ o, Q o ∧ F o r := by
  rcases h with ⟨e, he, _⟩ | ⟨o, ho, hF⟩
  · obtain ⟨_, h, _⟩ := hA _ he
    cases h
  · obtain ⟨_, h, hq⟩ := hA _ ho
    cases h
    exact ⟨o, hq, hF⟩

/-- `self * ka + other * kb` (the fall-back paths of `mul_add`) denotes `ka • g_self + kb • g_other` -/
theorem sum_den (hp2 : p ≠ 2) (hv : Valid C E g) {a' b' : Nat} {ka kb : ℤ} {r : Res Out} (h : accSum E a' b' ka kb r) :
    ∃ o, r = .ok o ∧ OutDen C g o (ka • g a' + kb • g b') := by
  have h : accBind (accMul E a' ka) (fun o1 r => accBind (accMul E b' kb) (fun o2 r =>
      accAddG E (sumLoc a' b' o1 o2) r) r) r := h
  obtain ⟨o1, ⟨d1, i1⟩, h⟩ := accBind_elim (fun _ => mul_den hp2 hv) h
  obtain ⟨o2, ⟨d2, i2⟩, h⟩ := accBind_elim (fun _ => mul_den hp2 hv) h
  exact addG_den hp2 hv (s := sumLoc a' b' o1 o2) (d1.opDen rfl fun i hi => (i1 i hi).symm)
    (d2.opDen rfl fun i hi => (i2 i hi).symm) h

theorem redMA_smul (hv : Valid C E g) (id : Nat) (k : ℤ) {h : Grp (a : ZMod p) (b : ZMod p)} (hh : h ∈ C.H) :
    redMA (E.info id) k • h = k • h := by
  unfold redMA
  rcases hv.ord id with ho | ⟨ho, _⟩
  · rw [ho, C19g.truthy_n C]
    exact (congrArg (· • h) (Int.fmod_eq_emod_of_nonneg k (le_of_lt C.hpos))).trans (C.smul_mod hh k)
  · rw [ho]; rfl

/-- `a.mul_add(ka, b, kb)`: every accepted result denotes `ka • g_a + kb • g_b` -/
theorem mulAdd_den (hp2 : p ≠ 2) (hv : Valid C E g) {s o : Nat} {ka kb : ℤ} {r : Res Out} (h : accMulAdd E s o ka kb r) :
    ∃ out, r = .ok out ∧ OutDen C g out (ka • g s + kb • g o) := by
  have hred : redMA (E.info s) ka • g s + redMA (E.info s) kb • g o = ka • g s + kb • g o := by
    rw [redMA_smul hv s ka (hv.rep s).mem, redMA_smul hv s kb (hv.rep o).mem]
  rcases h with ⟨hc, hm⟩ | ⟨_, hk, hm⟩ | ⟨_, _, _, hsum⟩ | ⟨_, _, _, _, hsum⟩ | ⟨_, _, _, hpab, rfl⟩
  · -- `b` is not the identity, so `kb = 0`
    rw [isInf_good_false hv (Or.inl rfl)] at hc
    obtain ⟨out, e, d, _⟩ := mul_den hp2 hv hm
    exact ⟨out, e, by rw [of_decide_eq_true hc, zero_smul, add_zero]; exact d⟩
  · obtain ⟨out, e, d, _⟩ := mul_den hp2 hv hm
    exact ⟨out, e, by rw [of_decide_eq_true hk, zero_smul, zero_add]; exact d⟩
  · exact sum_den hp2 hv hsum
  · exact hred ▸ sum_den hp2 hv hsum
  · -- the joint loop on the scaled triples, whose sum is not the identity
    have hne : g s + g o ≠ 0 := fun h0 =>
      Bool.false_ne_true (hpab.symm.trans ((C19g.sumInf_iff hp2 C (hv.repS s) (hv.repS o)).mpr h0))
    exact ⟨_, rfl, hred ▸ outDen_coordsOut (C19g.mulAddLoop_rep hp2 C (hv.repS s) (hv.repS o) (hv.objOK s).zS
      (hv.objOK o).zS hne _ _)⟩

theorem x_val (hv : Valid C E g) {id : Nat} {r : Res Out} (h : accXat E id r) : r = .ok (.int (xOf (g id))) := by
  obtain ⟨c, hc, rfl⟩ := GoodC.of_or h
  exact seqX_val hv hc

theorem y_val (hv : Valid C E g) {id : Nat} {r : Res Out} (h : accYat E id r) : r = .ok (.int (C19g.yOf (g id))) := by
  obtain ⟨c, hc, rfl⟩ := GoodC.of_or h
  exact seqY_val hv hc

open Classical in
theorem eq_val (hv : Valid C E g) {s o : Nat} {r : Res Out} (h : accEq E s o r) :
    r = .ok (.bool (decide (g s = g o))) := by
  obtain ⟨ca, cb, ha, hb, rfl⟩ := h
  exact seqEq_val hv ha hb

theorem obs_den (hv : Valid C E g) {r : Res Out} {v} (h : ∃ o, r = .ok o ∧ OutDen C g o v) (id0 : Nat) :
    obs E id0 r = .ok (.pt (canonOf v)) := by
  obtain ⟨o, rfl, d⟩ := h
  exact d.obs hv id0

theorem add_val (hp2 : p ≠ 2) (hv : Valid C E g) {s o : Nat} {r : Res Out} (h : accAdd E s o r) (id0 : Nat) :
    obs E id0 r = .ok (.pt (canonOf (g s + g o))) :=
  obs_den hv (addG_den hp2 hv (s := { self := s, other := o }) (va := g s) (vb := g o) rfl rfl h) id0

theorem mul_val (hp2 : p ≠ 2) (hv : Valid C E g) {id : Nat} {k : ℤ} {r : Res Out} (h : accMul E id k r) (id0 : Nat) :
    obs E id0 r = .ok (.pt (canonOf (k • g id))) := by
  obtain ⟨o, e, d, _⟩ := mul_den hp2 hv h
  exact obs_den hv ⟨o, e, d⟩ id0

theorem fromAffine_val (hp2 : p ≠ 2) (hv : Valid C E g) {id : Nat} {gen : ℤ} {r : Res Out}
    (h : accFromAffine E id gen r) (id0 : Nat) : obs E id0 r = .ok (.pt (canonOf (g id))) := by
  obtain ⟨ca, cb, hca, hcb, rfl⟩ := h
  rw [seqX_val hv hca, seqY_val hv hcb]
  let _ : DecidableEq C.H := Classical.decEq _
  exact obs_pt (R := .jac _) ((C19g.rep_indep hp2 C (E.info id).curve (hv.rep id).1).hs_fromXY (gen != 0)
    (hv.hiddenState hp2 (id := id) (Or.inl rfl) (Or.inl rfl))).1 id0

/-- the encoders: x() and y() of (possibly different, but equal-valued) referents of the key -/
theorem keyXY_val (hv : Valid C E g) {kid : Nat} {f : Out → ℤ → ℤ} {r : Res Out} {t0 : Nat} (ht0 : E.targets kid t0)
    (h : accKeyXY E kid (fun ox oy r => r = pairOf ox oy (f oy)) r) :
    r = .ok (.pair (xOf (g t0)) (f (.int (C19g.yOf (g t0))) (C19g.yOf (g t0)))) := by
  obtain ⟨t1, ht1, h⟩ := h
  obtain ⟨_, rfl, t2, ht2, h⟩ := accBind_elim (Q := (· = .int (xOf (g t1)))) (fun _ hx => ⟨_, x_val hv hx, rfl⟩) h
  obtain ⟨_, rfl, rfl⟩ := accBind_elim (Q := (· = .int (C19g.yOf (g t2)))) (fun _ hy => ⟨_, y_val hv hy, rfl⟩) h
  rw [hv.targets kid t1 t0 ht1 ht0, hv.targets kid t2 t0 ht2 ht0]
  rfl

theorem keyPrecompute_val (hp2 : p ≠ 2) (hv : Valid C E g) {kid : Nat} {lz : Bool} {r : Res Out}
    (h : accKeyPrecompute E kid lz r) : r = .ok .none := by
  obtain ⟨t1, ht1, h⟩ := h
  obtain ⟨_, _, h⟩ := accBind_elim (Q := fun _ => True) (fun r hr => by
    have := fromAffine_val hp2 hv (gen := 1) hr 0
    cases r with
    | error e => cases this
    | ok o => exact ⟨o, rfl, trivial⟩) h
  cases lz with
  | true => exact h
  | false =>
    obtain ⟨t2, _, h⟩ := h
    obtain ⟨_, _, h⟩ := accBind_elim (fun _ => mul_den hp2 hv) h
    exact h

/-- x() of a call result of the generator: the affine x of what it denotes (0 for INFINITY, as the model computes) -/
theorem xofRes_val (hv : Valid C E g) {G : Nat} {o : Out} {v} (hd : OutDen C g o v)
    {rx : Res Out} (h : accXofRes E G o rx) : ∃ ox, rx = .ok ox ∧ ox = .int (xOf v) := by
  obtain ⟨c, hc, rfl⟩ := h
  refine ⟨_, ?_, rfl⟩
  cases hd with
  | obj i => exact seqX_val hv hc
  | inf => cases (show c = (0, 0, 1) from hc); rfl
  | @jac J _ hJ =>
    -- `x()` reads the coordinates of the local point, the field prime of `G`'s curve
    cases (show c = _ from hc)
    exact congrArg (Except.map Out.int) (C19g.xyOf_spec (J := mkPJ (E.info G) (J.x, J.y, J.z)) ⟨(hv.rep G).1, hJ.2.1, hJ.2.2⟩).1

/-- `Private_key.sign`: THE signature (or the one exception) determined by the nonce, the hash, the secret and the
element the generator denotes -/
theorem keySign_val (hp2 : p ≠ 2) (hv : Valid C E g) {G : Nat} {hash rk d : ℤ} {r : Res Out}
    (h : accKeySign E G hash rk d r) :
    r = signPost (orderOf (E.info G)) (pmod rk (orderOf (E.info G))) hash d
      (.int (xOf (signMult (orderOf (E.info G)) rk • g G))) := by
  obtain ⟨o, ⟨d', _⟩, h⟩ := accBind_elim (fun _ => mul_den hp2 hv) h
  obtain ⟨_, rfl, h⟩ := accBind_elim (fun _ => xofRes_val hv d') h
  exact h

open Classical in
/-- is the result of `G.mul_add` the identity? -/
theorem infOfRes_val (hv : Valid C E g) {G : Nat} {o : Out} {v} (hd : OutDen C g o v)
    {rb : Res Out} (h : accInfOfRes E G o rb) : ∃ ob, rb = .ok ob ∧ ob = .bool (decide (v = 0)) := by
  obtain ⟨c, hc, rfl⟩ := h
  refine ⟨_, rfl, congrArg Out.bool ?_⟩
  rcases opDen_snapshot hv (hd.opDen (s := { self := objOf o G, otherInf := true, selfFresh := freshOf o }) rfl
    (by rintro i rfl; rfl)) hc with ⟨hi, h0⟩ | ⟨hi, hP⟩
  · rw [hi, decide_eq_true h0]
  · rw [hi, decide_eq_false (good_ne_zero hP.2.2)]

open Classical in
/-- the verdict of `verifies` as a function of the denoted elements -/
noncomputable def verifyVal (n hash r s : ℤ) (gG gT : Grp (a : ZMod p) (b : ZMod p)) : Res Out :=
  if r < 1 || r > n - 1 then .ok (.bool false)
  else if s < 1 || s > n - 1 then .ok (.bool false)
  else match inverseMod s n with
    | .error e => .error e
    | .ok c =>
      let v := pmod (hash * c) n • gG + pmod (r * c) n • gT
      if v = 0 then .ok (.bool false) else verifyPost n r (.int (xOf v))

open Classical in
/-- `Public_key.verifies`: THE verdict determined by hash, (r, s) and the elements the generator and the key's point
denote (all allowed referents of the key denote the same element) -/
theorem keyVerifies_val (hp2 : p ≠ 2) (hv : Valid C E g) {kid G : Nat} {hash r s : ℤ} {res : Res Out} {t0 : Nat}
    (ht0 : E.targets kid t0) (h : accKeyVerifies E kid G hash r s res) :
    res = verifyVal (orderOf (E.info G)) hash r s (g G) (g t0) := by
  unfold accKeyVerifies at h
  unfold verifyVal
  dsimp only at h ⊢
  -- the range checks and the inverse are the same on both sides
  by_cases h1 : (decide (r < 1) || decide (r > orderOf (E.info G) - 1)) = true
  · rw [if_pos h1] at h ⊢; exact h
  rw [if_neg h1] at h ⊢
  by_cases h2 : (decide (s < 1) || decide (s > orderOf (E.info G) - 1)) = true
  · rw [if_pos h2] at h ⊢; exact h
  rw [if_neg h2] at h ⊢
  cases hc : inverseMod s (orderOf (E.info G)) with
  | error e => rw [hc] at h; exact h
  | ok c =>
    rw [hc] at h
    dsimp only at h ⊢
    obtain ⟨t, ht, h⟩ := h
    obtain ⟨o, d, h⟩ := accBind_elim (fun _ => mulAdd_den hp2 hv) h
    rw [hv.targets kid t t0 ht ht0] at d
    obtain ⟨_, rfl, h⟩ := accBind_elim (fun _ => infOfRes_val hv d) h
    by_cases hz : pmod (hash * c) (orderOf (E.info G)) • g G + pmod (r * c) (orderOf (E.info G)) • g t0 = 0
    · rw [if_pos hz]
      exact (if_pos (decide_eq_true hz)).mp h
    · rw [if_neg hz]
      rw [decide_eq_false hz] at h
      obtain ⟨_, rfl, h⟩ := accBind_elim (fun _ => xofRes_val hv d) ((if_neg Bool.false_ne_true).mp h)
      exact h

end
end ThreadProgs
