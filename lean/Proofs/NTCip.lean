import Proofs.NTCip2
/-!
# NTCip — `square_root_mod_prime(a, p)`, last branch (`p ≡ 1 (mod 8)`): the `for b in xrange(2, p)` search

Some `b` with `2 ≤ b < p` has `b² − 4a` a non-residue (so "No b found" is unreachable); the loop stops at the first such `b`
and returns a reduced square root of `a`.  Only `p ≡ 1 (mod 4)` is used.
-/
namespace NTCip
open NT NTProofs

variable {p : ℕ} [hp : Fact p.Prime]

/-- otherwise (with `−1` a square, so that `b = 0` and `b = ±1` are covered too) the squares would be closed under
`x ↦ x − 4A`, hence be everything -/
theorem exists_b_zmod (hp4 : p % 4 = 1) (A : ZMod p) (hA : A ≠ 0) (hsq : IsSquare A) :
    ∃ b : ZMod p, b ≠ 0 ∧ b ≠ 1 ∧ ¬ IsSquare (b ^ 2 - 4 * A) := by
  by_contra h
  push Not at h
  have hp2 : p ≠ 2 := by omega
  have h2 : (2 : ZMod p) ≠ 0 := two_ne_zero' hp2
  have h4A : 4 * A ≠ 0 := by
    rw [show (4 : ZMod p) = 2 * 2 by norm_num]
    exact mul_ne_zero (mul_ne_zero h2 h2) hA
  obtain ⟨r, hr⟩ := hsq
  obtain ⟨i, hi⟩ : IsSquare (-1 : ZMod p) := ZMod.exists_sq_eq_neg_one_iff.mpr (by omega)
  have all : ∀ b : ZMod p, IsSquare (b ^ 2 - 4 * A) := by
    intro b
    by_cases hb0 : b = 0
    · exact ⟨i * (2 * r), by rw [hb0, hr]; linear_combination (4 * r * r) * hi⟩
    by_cases hb1 : b = 1
    · have := h (-1) (neg_ne_zero.mpr one_ne_zero) fun h => h2 (by linear_combination -h)
      rwa [neg_one_sq, ← one_pow 2, ← hb1] at this
    exact h b hb0 hb1
  have mult : ∀ k : ℕ, IsSquare (-(k : ZMod p) * (4 * A)) := by
    intro k
    induction k with
    | zero => rw [Nat.cast_zero, neg_zero, zero_mul]; exact IsSquare.zero
    | succ k ih =>
      obtain ⟨s, hs⟩ := ih
      have := all s
      rwa [pow_two, ← hs, show -(k : ZMod p) * (4 * A) - 4 * A = -((k + 1 : ℕ) : ZMod p) * (4 * A) by
        push_cast; ring] at this
  obtain ⟨x, hx⟩ := FiniteField.exists_nonsquare (F := ZMod p) (by rwa [ZMod.ringChar_zmod_n])
  have := mult (-x / (4 * A)).val
  rw [ZMod.natCast_zmod_val, neg_div, neg_neg, div_mul_cancel₀ _ h4A] at this
  exact hx this
theorem exists_nonresidue_disc (hp4 : p % 4 = 1) (a : ℤ) (ha0 : 0 < a) (hap : a < p)
    (hsq : IsSquare ((a : ℤ) : ZMod p)) :
    ∃ b : ℤ, 2 ≤ b ∧ b < p ∧ legendreSym p (b * b - 4 * a) = -1 := by
  obtain ⟨b, hb0, hb1, hns⟩ := exists_b_zmod hp4 ((a : ℤ) : ZMod p) (cast_ne_zero ha0 hap) hsq
  have hval : ((b.val : ℕ) : ZMod p) = b := ZMod.natCast_zmod_val b
  have hlt : b.val < p := ZMod.val_lt b
  have hv0 : b.val ≠ 0 := by
    intro h; rw [h] at hval; exact hb0 (by simpa using hval.symm)
  have hv1 : b.val ≠ 1 := by
    intro h; rw [h] at hval; exact hb1 (by simpa using hval.symm)
  refine ⟨(b.val : ℤ), by omega, by omega, ?_⟩
  rw [legendreSym.eq_neg_one_iff]
  convert hns using 1
  push_cast
  rw [hval, pow_two]

theorem sqrtSearch_spec (hp4 : p % 4 = 1) (a : ℤ) (hsq : IsSquare ((a : ℤ) : ZMod p)) :
    ∀ (cnt : ℕ) (b : ℤ), (∃ b' : ℤ, b ≤ b' ∧ b' < b + cnt ∧ legendreSym p (b' * b' - 4 * a) = -1) →
      ∃ r : ℤ, sqrtSearch a p cnt b = .ok r ∧ 0 ≤ r ∧ r < p ∧ (r * r) % p = a % p
  | 0, b, ⟨b', h1, h2, _⟩ => by simp at h2; omega
  | cnt+1, b, ⟨b', h1, h2, h3⟩ => by
    unfold sqrtSearch
    simp only [jacobi_prime (show p ≠ 2 by omega), bind, Except.bind]
    by_cases hb : legendreSym p (b * b - 4 * a) = -1
    · obtain ⟨f0, hf, r0, r1, r2⟩ := sqrt_step hp4 a b hsq hb
      simp only [hb, ↓reduceIte, hf]
      exact ⟨f0, by simp, r0, r1, r2⟩
    · simp only [hb, ↓reduceIte]
      have hne : b' ≠ b := by rintro rfl; exact hb h3
      exact sqrtSearch_spec hp4 a hsq cnt (b + 1) ⟨b', by omega, by push_cast at h2; omega, h3⟩

theorem sqrtSearch_root (hp4 : p % 4 = 1) (a : ℤ) (ha0 : 0 < a) (hap : a < p) (hsq : IsSquare ((a : ℤ) : ZMod p)) :
    ∃ r : ℤ, NT.sqrtSearch a p ((p : ℤ) - 2).toNat 2 = .ok r ∧ 0 ≤ r ∧ r < p ∧ (r * r) % p = a % p := by
  obtain ⟨b, hb2, hbp, hb⟩ := exists_nonresidue_disc hp4 a ha0 hap hsq
  exact sqrtSearch_spec hp4 a hsq _ 2 ⟨b, hb2, by omega, hb⟩

theorem sqrt_1mod8 (hp8 : p % 8 = 1) (a : ℤ) (ha0 : 0 < a) (hap : a < p)
    (hsq : IsSquare ((a : ℤ) : ZMod p))
    (hj : ∀ x : ℤ, NT.jacobi x p = .ok (jacobiSym x p)) :
    ∃ r : ℤ, NT.sqrtSearch a p ((p : ℤ) - 2).toNat 2 = .ok r ∧ 0 ≤ r ∧ r < p ∧ (r * r) % p = a % p :=
  sqrtSearch_root (by omega) a ha0 hap hsq

theorem sqrt_1mod8' (hp8 : p % 8 = 1) (a : ℤ) (ha0 : 0 < a) (hap : a < p)
    (hsq : ∃ r : ZMod p, r * r = ((a : ℤ) : ZMod p))
    (hj : ∀ x : ℤ, NT.jacobi x p = .ok (jacobiSym x p)) :
    ∃ r : ℤ, NT.sqrtSearch a p ((p : ℤ) - 2).toNat 2 = .ok r ∧ 0 ≤ r ∧ r < p ∧ (r * r) % p = a % p :=
  sqrt_1mod8 hp8 a ha0 hap (by obtain ⟨r, hr⟩ := hsq; exact ⟨r, hr.symm⟩) hj

/-- non-vacuity: `p = 17`, `a = 2 = 6²`: the loop stops at `b = 6` and returns `6` -/
example : NT.sqrtSearch 2 17 ((17 : ℤ) - 2).toNat 2 = .ok 6 := by decide +kernel
example : IsSquare (((2 : ℤ) : ZMod 17)) := ⟨6, by decide⟩
example : NT.polyExpMod [0, 1] 9 [2, -6, 1] 17 = .ok [6, 0] := by decide +kernel

end NTCip
