import Proofs.GroupObj
/-!
# Proofs.Legacy — the legacy affine `Point` class (`double`, `-`, `+`, `==`) and the dispatching operators on any
point value (`ptAdd`, `ptDouble`, `ptEq`, `ptIsInf`)
-/
namespace Jac
open WeierstrassCurve WeierstrassCurve.Jacobian Curve

variable {p : ℕ} [hp : Fact p.Prime]

theorem InRange.cast_inj {x y : ℤ} (hx : InRange p x) (hy : InRange p y) :
    ((x : ZMod p) = (y : ZMod p)) ↔ x = y := by
  constructor
  · intro h
    have hz : ZT p (x - y) := zt_of_range (by have := hx.1; have := hy.2; omega) (by have := hx.2; have := hy.1; omega)
    have : x - y = 0 := hz (by push_cast; rw [h, sub_self])
    omega
  · rintro rfl; rfl

variable {a b : ℤ} {H : AddSubgroup (Grp (a : ZMod p) (b : ZMod p))}

theorem pjXY_unique {P P' : PJ} {g} (hP : PJRep p a b H P g) (hP' : PJRep p a b H P' g) :
    pjX P = pjX P' ∧ pjY P = pjY P' := by
  obtain ⟨x, y, ex, ey, rx, ry, hn, hg⟩ := pjXY_correct hP
  obtain ⟨x', y', ex', ey', rx', ry', hn', hg'⟩ := pjXY_correct hP'
  have e := hg.symm.trans hg'
  rw [Affine.Point.some.injEq] at e
  rw [ex, ey, ex', ey', (InRange.cast_inj rx rx').mp e.1, (InRange.cast_inj ry ry').mp e.2]
  exact ⟨rfl, rfl⟩

theorem AffRep.ne_zero {A : AffPt} {g} (h : AffRep p a b H A g) : g ≠ 0 := by
  obtain ⟨_, _, _, _, hn, rfl⟩ := h
  exact Affine.Point.some_ne_zero _

theorem mkPoint_rep {c : CurveFp} (hc : OnCurve p a b c) {x y : ℤ} (hx : InRange p x) (hy : InRange p y)
    {X Y : ZMod p} (hn : (shortW (a : ZMod p) (b : ZMod p)).toAffine.Nonsingular X Y)
    (ex : X = (x : ZMod p)) (ey : Y = (y : ZMod p)) (hm : Affine.Point.some X Y hn ∈ H) (o : Option ℤ) :
    mkPoint c x y o = .ok ⟨c, x, y, o⟩ ∧ AffRep p a b H ⟨c, x, y, o⟩ (Affine.Point.some X Y hn) := by
  obtain ⟨h', e⟩ := some_congr ex ey hn
  refine ⟨?_, hc, hx, hy, hm, h', e.symm⟩
  simp only [mkPoint, containsPoint_of hc h', if_true]

/-- the chord-and-tangent step that `double()` and `__add__` share, from the slope `l` and `x3 ≡ l² − x₁ − x₂` -/
theorem affChord_rep {c : CurveFp} (hc : OnCurve p a b c) {x1 y1 x2 y2 : ℤ}
    {hn : (shortW (a : ZMod p) (b : ZMod p)).toAffine.Nonsingular (x1 : ZMod p) (y1 : ZMod p)}
    {hn' : (shortW (a : ZMod p) (b : ZMod p)).toAffine.Nonsingular (x2 : ZMod p) (y2 : ZMod p)}
    (hxy : ¬((x1 : ZMod p) = x2 ∧ (y1 : ZMod p) = (shortW (a : ZMod p) (b : ZMod p)).toAffine.negY x2 y2))
    (hm : Affine.Point.some _ _ hn + Affine.Point.some _ _ hn' ∈ H) {l x3 : ℤ}
    (hl : (shortW (a : ZMod p) (b : ZMod p)).toAffine.slope (x1 : ZMod p) x2 y1 y2 = (l : ZMod p))
    (hx3 : (x3 : ZMod p) = (l : ZMod p) ^ 2 - x1 - x2) (rx : InRange p x3) :
    mkPoint c x3 (pmod (l * (x1 - x3) - y1) p) none = .ok ⟨c, x3, pmod (l * (x1 - x3) - y1) p, none⟩ ∧
      AffRep p a b H ⟨c, x3, pmod (l * (x1 - x3) - y1) p, none⟩
        (Affine.Point.some _ _ hn + Affine.Point.some _ _ hn') := by
  rw [Affine.Point.add_some hxy] at hm ⊢
  refine mkPoint_rep hc rx (inRange_fmod _) _ ?_ ?_ hm none
  · rw [hl, hx3]; simp only [Affine.addX, shortW, zero_mul, add_zero, sub_zero]
  · push_cast
    rw [hl, hx3]
    simp only [Affine.addY, Affine.negY, Affine.negAddY, Affine.addX, shortW, zero_mul, add_zero, sub_zero]
    ring

theorem affDouble_correct (hp2 : p ≠ 2) (hH : NoOrder2 H) {A : AffPt} {g} (hA : AffRep p a b H A g) :
    ∃ R, affDouble A = .ok R ∧ PtRep p a b H R (g + g) := by
  have hyf : (A.y : ZMod p) ≠ 0 := (hA.good hH).y_ne
  obtain ⟨hc, hx, hy, hm, hn, rfl⟩ := hA
  have h2y : ((2 * A.y : ℤ) : ZMod p) ≠ 0 := by push_cast; exact mul_ne_zero (two_ne_zero_of hp2) hyf
  obtain ⟨zi, hzi, _, _, hcst⟩ := InvMod.inverseMod_prime_cast p (2 * A.y) h2y
  have hne : (A.y : ZMod p) ≠ (shortW (a : ZMod p) (b : ZMod p)).toAffine.negY (A.x : ZMod p) (A.y : ZMod p) := by
    intro e
    simp only [Affine.negY, shortW, zero_mul, sub_zero] at e
    apply h2y; push_cast; linear_combination e
  -- the tangent slope (3x² + a) / 2y
  have hl : (shortW (a : ZMod p) (b : ZMod p)).toAffine.slope (A.x : ZMod p) A.x A.y A.y =
      ((pmod ((3 * A.x * A.x + a) * zi) p : ℤ) : ZMod p) := by
    rw [Affine.slope_of_Y_ne rfl hne]
    simp only [pmod, Affine.negY, shortW, zero_mul, sub_zero, mul_zero, add_zero]
    push_cast; rw [hcst]; push_cast; rw [div_eq_mul_inv]; ring
  obtain ⟨hmk, hrep⟩ := affChord_rep hc (fun e => hne e.2) (H.add_mem hm hm) hl
    (x3 := pmod (pmod ((3 * A.x * A.x + a) * zi) p * pmod ((3 * A.x * A.x + a) * zi) p - 2 * A.x) p)
    (by simp only [pmod]; push_cast; ring) (inRange_fmod _)
  exact ⟨.aff _, by simp only [affDouble, hc.1, hc.2.1, hzi, ok_bind, hmk], hrep⟩

/-- `Point.__neg__` stores `p - y`, which is reduced because y ≠ 0 under N2T -/
theorem affNeg_correct (hH : NoOrder2 H) {A : AffPt} {g} (hA : AffRep p a b H A g) :
    ∃ N, affNeg A = .ok N ∧ AffRep p a b H N (-g) ∧ N.order = none := by
  have hy0 := hA.y_ne hH
  obtain ⟨hc, hx, hy, hm, hn, rfl⟩ := hA
  have hmem := H.neg_mem hm
  rw [Affine.Point.neg_some] at hmem ⊢
  obtain ⟨hmk, hrep⟩ := mkPoint_rep (x := A.x) (y := A.curve.p - A.y) hc hx
    (by rw [hc.1]; have := hy.1; have := hy.2; exact ⟨by omega, by omega⟩) _ rfl
    (by rw [hc.1]; simp [Affine.negY, shortW]) hmem none
  exact ⟨_, hmk, hrep, rfl⟩

theorem affAdd_correct (hp2 : p ≠ 2) (hH : NoOrder2 H) {A : AffPt} {other : Pt} {g h}
    (hA : AffRep p a b H A g) (hQ : PtRep p a b H other h) :
    ∃ R, affAdd A other = .ok R ∧ PtRep p a b H R (g + h) := by
  cases other with
  | infinity =>
    simp only [PtRep] at hQ
    exact ⟨_, rfl, by rw [hQ, add_zero]; exact hA⟩
  | jac Q =>
    obtain ⟨R, h1, h2⟩ := pjAdd_correct hp2 hH (other := .aff A) hQ hA
    exact ⟨R, h1, by rw [add_comm]; exact h2⟩
  | aff Q =>
    have hQ' : AffRep p a b H Q h := hQ
    simp only [affAdd, hA.onCurve.eqv hQ'.onCurve, Bool.not_true, Bool.false_eq_true, if_false]
    by_cases hxx : A.x = Q.x
    · simp only [hxx, if_true]
      have hxf : (A.x : ZMod p) = (Q.x : ZMod p) := by rw [hxx]
      -- the code's test `(y₁ + y₂) % p == 0` is Mathlib's `y₁ = negY x₂ y₂`
      have hneg : pmod (A.y + Q.y) A.curve.p = 0 ↔
          (A.y : ZMod p) = (shortW (a : ZMod p) (b : ZMod p)).toAffine.negY Q.x Q.y := by
        simp only [pmod, hA.onCurve.p_eq, fmod_eq_zero_iff, Affine.negY, shortW, zero_mul, sub_zero]
        push_cast
        exact add_eq_zero_iff_eq_neg
      by_cases hyy : pmod (A.y + Q.y) A.curve.p = 0
      · -- Q = −P: INFINITY
        simp only [hyy, beq_self_eq_true, if_true]
        refine ⟨_, rfl, ?_⟩
        obtain ⟨hc, hx, hy, hm, hn, rfl⟩ := hA
        obtain ⟨hc', hx', hy', hm', hn', rfl⟩ := hQ'
        exact Affine.Point.add_of_Y_eq hxf (hneg.mp hyy)
      · -- same x and y₁ + y₂ ≢ 0 force Q = P, so the call of `double()` is right
        have hb : (pmod (A.y + Q.y) A.curve.p == 0) = false := by simpa using hyy
        simp only [hb, Bool.false_eq_true, if_false]
        have hgh : g = h := by
          obtain ⟨hc, hx, hy, hm, hn, rfl⟩ := hA
          obtain ⟨hc', hx', hy', hm', hn', rfl⟩ := hQ'
          rw [Affine.Point.some.injEq]
          exact ⟨hxf, Affine.Y_eq_of_Y_ne hn.left hn'.left hxf (mt hneg.mpr hyy)⟩
        rw [← hgh]
        exact affDouble_correct hp2 hH hA
    · simp only [hxx, if_false]
      obtain ⟨hc, hx, hy, hm, hn, rfl⟩ := hA
      obtain ⟨hc', hx', hy', hm', hn', rfl⟩ := hQ'
      have hxf : (A.x : ZMod p) ≠ (Q.x : ZMod p) := fun e => hxx ((hx.cast_inj hx').mp e)
      have hd : ((Q.x - A.x : ℤ) : ZMod p) ≠ 0 := by
        push_cast; exact sub_ne_zero.mpr (Ne.symm hxf)
      obtain ⟨zi, hzi, _, _, hcst⟩ := InvMod.inverseMod_prime_cast p (Q.x - A.x) hd
      -- the chord slope (y₂ − y₁) / (x₂ − x₁)
      have hl : (shortW (a : ZMod p) (b : ZMod p)).toAffine.slope (A.x : ZMod p) Q.x A.y Q.y =
          ((pmod ((Q.y - A.y) * zi) p : ℤ) : ZMod p) := by
        rw [Affine.slope_of_X_ne hxf]; simp only [pmod]; push_cast; rw [hcst]; push_cast
        rw [← neg_sub (Q.y : ZMod p), ← neg_sub (Q.x : ZMod p), neg_div_neg_eq, div_eq_mul_inv]
      obtain ⟨hmk, hrep⟩ := affChord_rep hc (fun e => hxf e.1) (H.add_mem hm hm') hl
        (x3 := pmod (pmod ((Q.y - A.y) * zi) p * pmod ((Q.y - A.y) * zi) p - A.x - Q.x) p)
        (by simp only [pmod]; push_cast; ring) (inRange_fmod _)
      exact ⟨.aff _, by simp only [hc.1, hzi, ok_bind, hmk], hrep⟩

theorem affEq_iff (hH : NoOrder2 H) {A : AffPt} {other : Pt} {g h}
    (hA : AffRep p a b H A g) (hQ : PtRep p a b H other h) : affEq A other = true ↔ g = h := by
  cases other with
  | infinity =>
    simp only [PtRep] at hQ
    simp only [affEq, Bool.false_eq_true, false_iff, hQ]
    exact hA.ne_zero
  | jac Q =>
    simp only [affEq]
    rw [pjEq_iff hH (other := .aff A) hQ hA, eq_comm]
  | aff Q =>
    have hQ' : AffRep p a b H Q h := hQ
    simp only [affEq, hA.1.eqv hQ'.1, Bool.true_and, Bool.and_eq_true, beq_iff_eq]
    obtain ⟨hc, hx, hy, hm, hn, rfl⟩ := hA
    obtain ⟨hc', hx', hy', hm', hn', rfl⟩ := hQ'
    rw [Affine.Point.some.injEq, hx.cast_inj hx', hy.cast_inj hy']

theorem ptAdd_correct (hp2 : p ≠ 2) (hH : NoOrder2 H) {A B : Pt} {g h}
    (hA : PtRep p a b H A g) (hB : PtRep p a b H B h) :
    ∃ R, ptAdd A B = .ok R ∧ PtRep p a b H R (g + h) := by
  cases A with
  | jac P => exact pjAdd_correct hp2 hH hA hB
  | aff P => exact affAdd_correct hp2 hH hA hB
  | infinity =>
    simp only [PtRep] at hA
    subst hA
    rw [zero_add]
    cases B with
    | infinity => exact ⟨_, rfl, hB⟩
    | aff Q => exact ⟨_, rfl, hB⟩
    | jac Q =>
      obtain ⟨R, h1, h2⟩ := pjAdd_correct hp2 hH (other := .infinity) (h := 0) hB rfl
      exact ⟨R, h1, by rw [add_zero] at h2; exact h2⟩

theorem ptDouble_correct (hp2 : p ≠ 2) (hH : NoOrder2 H) {A : Pt} {g} (hA : PtRep p a b H A g) :
    ∃ R, ptDouble A = .ok R ∧ PtRep p a b H R (g + g) := by
  cases A with
  | jac P => exact ⟨_, rfl, pjDouble_correct hH hA⟩
  | aff P => exact affDouble_correct hp2 hH hA
  | infinity =>
    simp only [PtRep] at hA
    subst hA
    exact ⟨_, rfl, by simp [PtRep]⟩

theorem ptEq_iff (hH : NoOrder2 H) {A B : Pt} {g h}
    (hA : PtRep p a b H A g) (hB : PtRep p a b H B h) : ptEq A B = true ↔ g = h := by
  cases A with
  | jac P => exact pjEq_iff hH hA hB
  | aff P => exact affEq_iff hH hA hB
  | infinity =>
    simp only [PtRep] at hA
    subst hA
    cases B with
    | infinity => simp only [PtRep] at hB; simp [ptEq, hB]
    | aff Q =>
      have := AffRep.ne_zero (show AffRep p a b H Q h from hB)
      simp only [ptEq, Bool.false_eq_true, false_iff]
      exact fun e => this e.symm
    | jac Q =>
      simp only [ptEq]
      rw [pjEq_iff hH (other := .infinity) (h := 0) hB rfl, eq_comm]

theorem ptIsInf_iff {A : Pt} {g} (hA : PtRep p a b H A g) : ptIsInf A = true ↔ g = 0 := by
  cases A with
  | infinity => simp only [PtRep] at hA; simp [ptIsInf, hA]
  | jac P =>
    simp only [ptIsInf, pjEqInf_false hA, Bool.false_eq_true, false_iff]
    exact good_ne_zero (PJRep.good hA)
  | aff P =>
    simp only [ptIsInf, Bool.false_eq_true, false_iff]
    exact AffRep.ne_zero hA

end Jac
