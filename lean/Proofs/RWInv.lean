import Model.RWSem
/-! # Proofs.RWInv — the counting invariant of the generated RWLock programs and its preservation

Each clause of `RInv` is a sum of thread counts over a set of program points.  A step moves one thread from `p` to `q`,
so a sum over `A` changes by `bal A p q`, and the invariant survives when the instruction changes each mutex and counter
by the balance of its set: a finite check on the instruction lists (`GP_fits`).  Only the light switch, `min 1 (…)`, is
not linear. -/
namespace RW

/-- the programs translated from the current `_rwlock.py` -/
abbrev GP : Progs := Gen.RW.progs

/-- a program point is a role and an index into its round.  Reader: 0–7 `reader_acquire`, 8 inside, 8–11
`reader_release`; writer: 0–4 `writer_acquire`, 5 inside, 5–9 `writer_release` -/
theorem GP_rounds :
    GP.round .reader = [.acq .RQ, .acq .NR, .acq .RM, .inc .rc, .ifeq .rc 1 (.acq .NW), .rel .RM, .rel .NR, .rel .RQ,
      .acq .RM, .dec .rc, .ifeq .rc 0 (.rel .NW), .rel .RM] ∧
    GP.round .writer = [.acq .WM, .inc .wc, .ifeq .wc 1 (.acq .NR), .rel .WM, .acq .NW,
      .rel .NW, .acq .WM, .dec .wc, .ifeq .wc 0 (.rel .NR), .rel .WM] :=
  ⟨rfl, rfl⟩

/-- the linear invariant (aₖ = `s.cnt .reader k`, bₖ = `s.cnt .writer k`) -/
def RInv (s : CS) : Prop :=
  s.sh.RQ = s.cnt .reader 1 + s.cnt .reader 2 + s.cnt .reader 3 + s.cnt .reader 4 + s.cnt .reader 5 + s.cnt .reader 6 + s.cnt .reader 7 ∧
  s.sh.RM = s.cnt .reader 3 + s.cnt .reader 4 + s.cnt .reader 5 + s.cnt .reader 9 + s.cnt .reader 10 + s.cnt .reader 11 ∧
  s.sh.WM = s.cnt .writer 1 + s.cnt .writer 2 + s.cnt .writer 3 + s.cnt .writer 7 + s.cnt .writer 8 + s.cnt .writer 9 ∧
  s.sh.rc = ((s.cnt .reader 4 + s.cnt .reader 5 + s.cnt .reader 6 + s.cnt .reader 7 + s.cnt .reader 8 + s.cnt .reader 9 : Nat) : Int) ∧
  s.sh.wc = ((s.cnt .writer 2 + s.cnt .writer 3 + s.cnt .writer 4 + s.cnt .writer 5 + s.cnt .writer 6 + s.cnt .writer 7 : Nat) : Int) ∧
  s.sh.NR = s.cnt .reader 2 + s.cnt .reader 3 + s.cnt .reader 4 + s.cnt .reader 5 + s.cnt .reader 6
            + min 1 (s.cnt .writer 3 + s.cnt .writer 4 + s.cnt .writer 5 + s.cnt .writer 6 + s.cnt .writer 7 + s.cnt .writer 8) ∧
  s.sh.NW = s.cnt .writer 5
            + min 1 (s.cnt .reader 5 + s.cnt .reader 6 + s.cnt .reader 7 + s.cnt .reader 8 + s.cnt .reader 9 + s.cnt .reader 10) ∧
  s.sh.RQ ≤ 1 ∧ s.sh.RM ≤ 1 ∧ s.sh.WM ≤ 1 ∧ s.sh.NR ≤ 1 ∧ s.sh.NW ≤ 1

theorem cstep_some {P : Progs} {r k nxt} {s : CS} {res : SRes CS} (h : cstep P ⟨r, k, nxt⟩ s = res)
    (hne : res ≠ .none) : s.cnt r k ≠ 0 ∧ ∃ ins, (P.round r)[k]? = some ins ∧
      res = match exec ins s.sh with
        | .ok sh' => .ok ⟨sh', move s.cnt (r, k) (dest P r k nxt)⟩
        | .blocked => .blocked
        | .err => .err := by
  unfold cstep at h
  split at h
  · exact absurd h.symm hne
  · rename_i hc
    split at h
    · exact absurd h.symm hne
    · rename_i ins hins
      exact ⟨hc, ins, hins, h.symm⟩

theorem cstep_ok' {P : Progs} {r k nxt} {s s' : CS} (h : cstep P ⟨r, k, nxt⟩ s = .ok s') :
    s.cnt r k ≠ 0 ∧ ∃ ins sh', (P.round r)[k]? = some ins ∧ exec ins s.sh = .ok sh' ∧
      s' = ⟨sh', move s.cnt (r, k) (dest P r k nxt)⟩ := by
  obtain ⟨hc, ins, hins, e⟩ := cstep_some h nofun
  refine ⟨hc, ins, ?_⟩
  cases hex : exec ins s.sh <;> rw [hex] at e <;> cases e
  exact ⟨_, hins, rfl, rfl⟩

theorem cstep_err {P : Progs} {r k nxt} {s : CS} (h : cstep P ⟨r, k, nxt⟩ s = .err) :
    s.cnt r k ≠ 0 ∧ ∃ ins, (P.round r)[k]? = some ins ∧ exec ins s.sh = .err := by
  obtain ⟨hc, ins, hins, e⟩ := cstep_some h nofun
  cases hex : exec ins s.sh <;> rw [hex] at e <;> cases e
  exact ⟨hc, ins, hins, hex⟩

theorem doAct_ok (a : Act) (sh sh' : Shared) : doAct a sh = .ok sh' ↔
    match a with
    | .acq m => sh.mtx m = 0 ∧ sh' = sh.setM m 1
    | .rel m => sh.mtx m ≠ 0 ∧ sh' = sh.setM m 0 := by
  cases a <;> simp only [doAct] <;> split <;> simp_all [eq_comm]

theorem exec_ok (ins : Instr) (sh sh' : Shared) : exec ins sh = .ok sh' ↔
    match ins with
    | .acq m => sh.mtx m = 0 ∧ sh' = sh.setM m 1
    | .rel m => sh.mtx m ≠ 0 ∧ sh' = sh.setM m 0
    | .inc c => sh' = sh.setC c (sh.ctr c + 1)
    | .dec c => sh' = sh.setC c (sh.ctr c - 1)
    | .ifeq c k (.acq m) => (sh.ctr c = k ∧ sh.mtx m = 0 ∧ sh' = sh.setM m 1) ∨ (sh.ctr c ≠ k ∧ sh' = sh)
    | .ifeq c k (.rel m) => (sh.ctr c = k ∧ sh.mtx m ≠ 0 ∧ sh' = sh.setM m 0) ∨ (sh.ctr c ≠ k ∧ sh' = sh) := by
  cases ins with
  | acq m => exact doAct_ok (.acq m) sh sh'
  | rel m => exact doAct_ok (.rel m) sh sh'
  | inc c => simp [exec, eq_comm]
  | dec c => simp [exec, eq_comm]
  | ifeq c k a =>
    cases a <;> simp only [exec] <;> split <;> simp_all [doAct_ok, eq_comm]

theorem mtx_setM (sh : Shared) (m m' : Mutex) (v : Nat) : (sh.setM m v).mtx m' = if m' = m then v else sh.mtx m' := by
  cases m <;> cases m' <;> rfl
theorem ctr_setM (sh : Shared) (m : Mutex) (v : Nat) (c : Ctr) : (sh.setM m v).ctr c = sh.ctr c := by
  cases m <;> cases c <;> rfl
theorem mtx_setC (sh : Shared) (c : Ctr) (v : Int) (m : Mutex) : (sh.setC c v).mtx m = sh.mtx m := by
  cases c <;> cases m <;> rfl
theorem ctr_setC (sh : Shared) (c c' : Ctr) (v : Int) : (sh.setC c v).ctr c' = if c' = c then v else sh.ctr c' := by
  cases c <;> cases c' <;> rfl

/-! `rw_case hs nxt` proves `RInv s'` from `h : RInv s` and `hs : cstep GP ⟨r, k, nxt⟩ s = .ok s'` for literal `r`, `k` by
unfolding everything and calling `omega`.  No proof calls it. -/

macro "rw_fin" : tactic => `(tactic| (
  simp only [RInv, move, Shared.setC, Shared.setM, Shared.ctr, Shared.mtx, Prod.mk.injEq, Option.some.injEq, reduceCtorEq,
    false_and, and_false, true_and, and_true, ite_true, ite_false, Nat.reduceEqDiff, Nat.add_zero,
    Option.map_none, Option.map_some, ne_eq, implies_true, and_self] at * <;>
  omega))

set_option hygiene false in
macro "rw_close" : tactic => `(tactic| first
  | (subst hex; rw_fin)
  | (obtain ⟨h1, hex⟩ := hex; subst hex; rw_fin)
  | (rcases hex with ⟨h0, h1, hex⟩ | ⟨h0, hex⟩ <;> subst hex <;> rw_fin))

set_option hygiene false in
macro "rw_case " hs:ident nxt:ident : tactic => `(tactic| (
  obtain ⟨hc, ins, sh', hins, hex, hs'⟩ := cstep_ok' $hs
  subst hs'
  clear $hs
  simp only [GP, Gen.RW.progs, Progs.round, Progs.acq, Progs.rel, Gen.RW.reader_acquire, Gen.RW.reader_release,
    Gen.RW.writer_acquire, Gen.RW.writer_release, List.cons_append, List.nil_append, List.getElem?_cons_succ,
    List.getElem?_cons_zero, List.getElem?_nil, Option.some.injEq, reduceCtorEq] at hins
  subst hins
  simp only [exec_ok] at hex
  simp +decide only [dest, ite_true, ite_false]
  first
    | rw_close
    | (rcases $nxt:ident with _ | _ | _ <;> rw_close)))

abbrev Pt := Role × Nat

def pts (r : Role) (lo hi : Nat) : List Pt := (List.range' lo (hi + 1 - lo)).map (r, ·)

def tot (cnt : Role → Nat → Nat) (A : List Pt) : Nat := (A.map fun p => cnt p.1 p.2).sum

theorem tot_cons (cnt : Role → Nat → Nat) (x : Pt) (A : List Pt) : tot cnt (x :: A) = cnt x.1 x.2 + tot cnt A := rfl

/-- after the thread's `acq`, up to its `rel` -/
def holders : Mutex → List Pt
  | .RQ => pts .reader 1 7
  | .NR => pts .reader 2 6
  | .NW => [(.writer, 5)]
  | .RM => pts .reader 3 5 ++ pts .reader 9 11
  | .WM => pts .writer 1 3 ++ pts .writer 7 9
/-- the group holding the mutex through a light switch: after the conditional acquire, up to the conditional release -/
def group : Mutex → List Pt
  | .NR => pts .writer 3 8
  | .NW => pts .reader 5 10
  | _ => []
/-- after the thread's `inc`, up to its `dec` -/
def counted : Ctr → List Pt
  | .rc => pts .reader 4 9
  | .wc => pts .writer 2 7

def MInv (s : CS) (m : Mutex) : Prop :=
  s.sh.mtx m = tot s.cnt (holders m) + min 1 (tot s.cnt (group m)) ∧ s.sh.mtx m ≤ 1
def CInv (s : CS) (c : Ctr) : Prop := s.sh.ctr c = tot s.cnt (counted c)

theorem forall_mutex {p : Mutex → Prop} : (∀ m, p m) ↔ p .RQ ∧ p .NR ∧ p .NW ∧ p .RM ∧ p .WM :=
  ⟨fun h => ⟨h _, h _, h _, h _, h _⟩, fun ⟨h1, h2, h3, h4, h5⟩ m => by cases m <;> assumption⟩
theorem forall_ctr {p : Ctr → Prop} : (∀ c, p c) ↔ p .rc ∧ p .wc :=
  ⟨fun h => ⟨h _, h _⟩, fun ⟨h1, h2⟩ c => by cases c <;> assumption⟩
theorem forall_nxt {p : Option Role → Prop} : (∀ n, p n) ↔ p none ∧ p (some .reader) ∧ p (some .writer) :=
  ⟨fun h => ⟨h _, h _, h _⟩, fun ⟨h1, h2, h3⟩ n => by rcases n with _ | _ | _ <;> assumption⟩

theorem rinv_iff (s : CS) : RInv s ↔ (∀ m, MInv s m) ∧ ∀ c, CInv s c := by
  simp only [forall_mutex, forall_ctr, RInv, MInv, CInv, holders, group, counted, pts, tot, Shared.mtx, Shared.ctr,
    Nat.reduceAdd, Nat.reduceSub, List.range', List.map, List.cons_append, List.nil_append, List.sum_cons,
    List.sum_nil, Nat.add_zero, ← Nat.add_assoc, Nat.min_zero]
  constructor
  · rintro ⟨h1, h2, h3, h4, h5, h6, h7, h8, h9, h10, h11, h12⟩
    exact ⟨⟨⟨h1, h8⟩, ⟨h6, h11⟩, ⟨h7, h12⟩, ⟨h2, h9⟩, ⟨h3, h10⟩⟩, h4, h5⟩
  · rintro ⟨⟨⟨h1, h8⟩, ⟨h6, h11⟩, ⟨h7, h12⟩, ⟨h2, h9⟩, ⟨h3, h10⟩⟩, h4, h5⟩
    exact ⟨h1, h2, h3, h4, h5, h6, h7, h8, h9, h10, h11, h12⟩

theorem rinv_mtx {s : CS} (h : RInv s) (m : Mutex) : MInv s m := ((rinv_iff s).mp h).1 m

theorem le_tot (cnt : Role → Nat → Nat) {A : List Pt} {p : Pt} (hp : p ∈ A) : cnt p.1 p.2 ≤ tot cnt A := by
  induction A with
  | nil => cases hp
  | cons x A ih =>
    rw [tot_cons]
    rcases List.mem_cons.mp hp with rfl | hp
    · exact Nat.le_add_right _ _
    · exact Nat.le_trans (ih hp) (Nat.le_add_left _ _)

theorem add_le_tot (cnt : Role → Nat → Nat) {A : List Pt} {p p' : Pt} (hp : p ∈ A) (hp' : p' ∈ A) (hne : p ≠ p') :
    cnt p.1 p.2 + cnt p'.1 p'.2 ≤ tot cnt A := by
  induction A with
  | nil => cases hp
  | cons x A ih =>
    rw [tot_cons]
    rcases List.mem_cons.mp hp with rfl | h <;> rcases List.mem_cons.mp hp' with rfl | h'
    · exact absurd rfl hne
    · have := le_tot cnt h'
      omega
    · have := le_tot cnt h
      omega
    · have := ih h h'
      omega

theorem holders_excl {s : CS} (h : RInv s) {m : Mutex} {p p' : Pt} (hp : p ∈ holders m) (hp' : p' ∈ holders m)
    (hne : p ≠ p') (hc : s.cnt p.1 p.2 ≠ 0) : s.cnt p'.1 p'.2 = 0 := by
  obtain ⟨hm, hb⟩ := rinv_mtx h m
  have := add_le_tot s.cnt hp hp' hne
  omega

variable {s : CS} {sh' : Shared} {p e : Pt} {q : Option Pt} {m ms : Mutex} {c : Ctr}

/-- what the count at `x` gains when one thread goes from `p` to `q` -/
def gain (p : Pt) (q : Option Pt) (x : Pt) : Int :=
  (if q = some x then 1 else 0) - (if x = p then 1 else 0)

def bal (A : List Pt) (p : Pt) (q : Option Pt) : Int := (A.map (gain p q)).sum

theorem move_gain {cnt : Role → Nat → Nat} {p : Pt} (q : Option Pt) (hc : cnt p.1 p.2 ≠ 0)
    (x : Pt) : (move cnt p q x.1 x.2 : Int) = cnt x.1 x.2 + gain p q x := by
  obtain ⟨r, k⟩ := x
  unfold move gain
  by_cases hx : (r, k) = p
  · subst hx
    have hc : cnt r k ≠ 0 := hc
    simp only [if_true]
    split <;> omega
  · simp only [hx, if_false]
    split <;> omega

theorem tot_move {cnt : Role → Nat → Nat} {p : Pt} (q : Option Pt) (hc : cnt p.1 p.2 ≠ 0) :
    ∀ A : List Pt, (tot (move cnt p q) A : Int) = tot cnt A + bal A p q
  | [] => rfl
  | x :: A => by
    have ih := tot_move q hc A
    have hx := move_gain q hc x
    simp only [tot, bal, List.map_cons, List.sum_cons] at ih ⊢
    omega

theorem minv_step (h : MInv s m) (hc : s.cnt p.1 p.2 ≠ 0) (hg : bal (group m) p q = 0)
    (hm : (sh'.mtx m : Int) = s.sh.mtx m + bal (holders m) p q) (hb : sh'.mtx m ≤ 1) :
    MInv ⟨sh', move s.cnt p q⟩ m := by
  have h1 := tot_move q hc (holders m)
  have h2 := tot_move q hc (group m)
  unfold MInv at h ⊢
  simp only
  omega

theorem cinv_step (h : CInv s c) (hc : s.cnt p.1 p.2 ≠ 0)
    (hm : sh'.ctr c = s.sh.ctr c + bal (counted c) p q) :
    CInv ⟨sh', move s.cnt p q⟩ c := by
  have h1 := tot_move q hc (counted c)
  unfold CInv at h ⊢
  simp only
  omega

def actDelta : Act → Mutex → Int
  | .acq m, m' => if m' = m then 1 else 0
  | .rel m, m' => if m' = m then -1 else 0
def mtxDelta : Instr → Mutex → Int
  | .acq m => actDelta (.acq m)
  | .rel m => actDelta (.rel m)
  | _ => fun _ => 0
/-- what the lock operation of a conditional instruction adds to each mutex, when its test succeeds -/
def groupDelta : Instr → Mutex → Int
  | .ifeq _ _ a => actDelta a
  | _ => fun _ => 0
def ctrDelta : Instr → Ctr → Int
  | .inc c, c' => if c' = c then 1 else 0
  | .dec c, c' => if c' = c then -1 else 0
  | _, _ => 0

theorem exec_ctr {ins : Instr} {sh sh' : Shared} (h : exec ins sh = .ok sh') (c : Ctr) :
    sh'.ctr c = sh.ctr c + ctrDelta ins c := by
  rw [exec_ok] at h
  rcases ins with m | m | c' | c' | ⟨c', k, m | m⟩ <;> simp only at h
  case acq => simp only [h.2, ctr_setM, ctrDelta, Int.add_zero]
  case rel => simp only [h.2, ctr_setM, ctrDelta, Int.add_zero]
  case inc => rw [h, ctr_setC, ctrDelta]; split <;> simp_all
  case dec => rw [h, ctr_setC, ctrDelta]; split <;> simp_all <;> omega
  all_goals rcases h with ⟨-, -, rfl⟩ | ⟨-, rfl⟩ <;> simp [ctr_setM, ctrDelta]

/-- the bound is needed for `release`: it takes a held mutex, value 1, to 0 -/
theorem exec_mtx {ins : Instr} {sh sh' : Shared} (h : exec ins sh = .ok sh') (m : Mutex) (hb : sh.mtx m ≤ 1)
    (hg : groupDelta ins m = 0) : (sh'.mtx m : Int) = sh.mtx m + mtxDelta ins m ∧ sh'.mtx m ≤ 1 := by
  rw [exec_ok] at h
  rcases ins with m' | m' | c' | c' | ⟨c', k, m' | m'⟩ <;> simp only at h
  case acq => rw [h.2, mtx_setM, mtxDelta, actDelta]; split <;> simp_all
  case rel => rw [h.2, mtx_setM, mtxDelta, actDelta]; split <;> simp_all <;> omega
  case inc => simp only [h, mtx_setC, mtxDelta, Int.add_zero, hb, and_self]
  case dec => simp only [h, mtx_setC, mtxDelta, Int.add_zero, hb, and_self]
  all_goals
    have hne : m ≠ m' := fun e => by simp [groupDelta, actDelta, e] at hg
    rcases h with ⟨-, -, rfl⟩ | ⟨-, rfl⟩ <;> simp [mtx_setM, mtxDelta, hne, hb]

theorem round_len_reader : (GP.round .reader).length = 12 := by decide
theorem round_len_writer : (GP.round .writer).length = 10 := by decide

theorem GP_forall {P : Role → Nat → Instr → Prop}
    (h : ∀ r ∈ [Role.reader, .writer], ∀ x ∈ (GP.round r).zipIdx, P r x.2 x.1) {r : Role} {k : Nat} {ins : Instr}
    (hins : (GP.round r)[k]? = some ins) : P r k ins :=
  h r (by cases r <;> simp) (ins, k) (List.mem_zipIdx_iff_getElem?.mpr hins)

def Fits (ins : Instr) (p : Pt) (q : Option Pt) : Prop :=
  (∀ m, bal (holders m) p q = mtxDelta ins m ∧ bal (group m) p q = groupDelta ins m) ∧ ∀ c, bal (counted c) p q = ctrDelta ins c

/-- evaluated: the 22 points of `GP_rounds`, each with the 3 possible `nxt`, against the two sets of each of the 5 mutexes
and the set of each of the 2 counters -/
theorem GP_fits : ∀ {r : Role} {k : Nat} {ins : Instr}, (GP.round r)[k]? = some ins →
    ∀ nxt, Fits ins (r, k) (dest GP r k nxt) :=
  @GP_forall _ (by simp only [Fits, forall_mutex, forall_ctr, forall_nxt]; decide +kernel)

theorem GP_cond : ∀ {r : Role} {k : Nat} {ins : Instr}, (GP.round r)[k]? = some ins → (∀ m, groupDelta ins m = 0) ∨
    (r, k, ins) ∈ [(.reader, 4, .ifeq .rc 1 (.acq .NW)), (.reader, 10, .ifeq .rc 0 (.rel .NW)),
      (.writer, 2, .ifeq .wc 1 (.acq .NR)), (.writer, 8, .ifeq .wc 0 (.rel .NR))] :=
  @GP_forall _ (by simp only [forall_mutex]; decide +kernel)

/-! The light switch: counter `c`, protected by mutex `ms`, guards `m`; the first thread in takes `m` for the group
(`ifeq c 1 (acq m)` at `p`), the last one out gives it back (`ifeq c 0 (rel m)` at `e`).  `Switch`: the group is what the
counter counts, without `p`, with `e`; and `p`, `e` are two holders of `ms`. -/

def Switch (cnt : Role → Nat → Nat) (c : Ctr) (ms m : Mutex) (p e : Pt) : Prop :=
  tot cnt (group m) + cnt p.1 p.2 = tot cnt (counted c) + cnt e.1 e.2 ∧
    cnt p.1 p.2 + cnt e.1 e.2 ≤ tot cnt (holders ms)

theorem switches (cnt : Role → Nat → Nat) : Switch cnt .rc .RM .NW (.reader, 4) (.reader, 10) ∧
    Switch cnt .wc .WM .NR (.writer, 2) (.writer, 8) := by
  simp only [Switch, holders, group, counted, pts, tot, Nat.reduceAdd, Nat.reduceSub, List.range', List.map,
    List.cons_append, List.nil_append, List.sum_cons, List.sum_nil]
  omega

theorem switch_alone (hS : MInv s ms) (hsw : Switch s.cnt c ms m p e) : s.cnt p.1 p.2 + s.cnt e.1 e.2 ≤ 1 := by
  have := hS.1
  have := hS.2
  have := hsw.2
  omega

theorem switch_enter (hS : MInv s ms) (hC : CInv s c) (hN : MInv s m) (hsw : Switch s.cnt c ms m p e)
    (hc : s.cnt p.1 p.2 ≠ 0) (hbm : bal (holders m) p q = 0) (hbg : bal (group m) p q = 1)
    (hex : exec (.ifeq c 1 (.acq m)) s.sh = .ok sh') :
    MInv ⟨sh', move s.cnt p q⟩ m := by
  have h1 := tot_move q hc (holders m)
  have h2 := tot_move q hc (group m)
  rw [hbm, Int.add_zero] at h1
  rw [hbg] at h2
  obtain ⟨hN1, hN2⟩ := hN
  rw [exec_ok] at hex
  rcases hex with ⟨-, hm0, rfl⟩ | ⟨h0, rfl⟩
  · -- test succeeds: `m` is free, so it has no holder; the thread is the first of the group
    simp only [MInv, mtx_setM, if_true]
    omega
  · -- test fails: alone at `p`, nobody at `e`; the counter counts somebody else, who is in the group already
    have hG : 1 ≤ tot s.cnt (group m) := by
      have := switch_alone hS hsw
      have hC : s.sh.ctr c = tot s.cnt (counted c) := hC
      have := hsw.1
      omega
    simp only [MInv]
    omega

theorem switch_exit (hS : MInv s ms) (hC : CInv s c) (hN : MInv s m) (hsw : Switch s.cnt c ms m p e)
    (hc : s.cnt e.1 e.2 ≠ 0) (hbm : bal (holders m) e q = 0) (hbg : bal (group m) e q = -1)
    (hex : exec (.ifeq c 0 (.rel m)) s.sh = .ok sh') :
    MInv ⟨sh', move s.cnt e q⟩ m := by
  have h1 := tot_move q hc (holders m)
  have h2 := tot_move q hc (group m)
  rw [hbm, Int.add_zero] at h1
  rw [hbg] at h2
  obtain ⟨hN1, hN2⟩ := hN
  have hC : s.sh.ctr c = tot s.cnt (counted c) := hC
  have ha := switch_alone hS hsw
  have hG := hsw.1
  rw [exec_ok] at hex
  rcases hex with ⟨h0, -, rfl⟩ | ⟨h0, rfl⟩
  · -- test succeeds: the counter counts nobody, so this thread is the whole group; `m`, held, has no other holder
    simp only [MInv, mtx_setM, if_true]
    omega
  · -- test fails: somebody the counter counts stays in the group
    simp only [MInv]
    omega

theorem rinv_cstep (l : Lbl) (s s' : CS) (h : RInv s) (hs : cstep GP l s = .ok s') : RInv s' := by
  obtain ⟨r, k, nxt⟩ := l
  obtain ⟨hc, ins, sh', hins, hex, rfl⟩ := cstep_ok' hs
  obtain ⟨fitM, fitC⟩ := GP_fits hins nxt
  rw [rinv_iff] at h ⊢
  refine ⟨fun m => ?_, fun c => cinv_step (h.2 c) hc (by rw [exec_ctr hex, fitC])⟩
  by_cases hg : groupDelta ins m = 0
  · obtain ⟨hm, hb⟩ := exec_mtx hex m (h.1 m).2 hg
    exact minv_step (h.1 m) hc (by rw [(fitM m).2, hg]) (by rw [hm, (fitM m).1]) hb
  · -- `m` is the mutex of a conditional instruction: one of the four light-switch points
    rcases GP_cond hins with h0 | hmem
    · exact absurd (h0 m) hg
    simp only [List.mem_cons, Prod.mk.injEq, List.mem_nil_iff, or_false] at hmem
    rcases hmem with ⟨rfl, rfl, rfl⟩ | ⟨rfl, rfl, rfl⟩ | ⟨rfl, rfl, rfl⟩ | ⟨rfl, rfl, rfl⟩
    all_goals
      obtain rfl : m = _ := Classical.byContradiction fun hne => hg (by simp only [groupDelta, actDelta]; exact if_neg hne)
    · exact switch_enter (h.1 .RM) (h.2 .rc) (h.1 .NW) (switches _).1 hc (fitM _).1 (fitM _).2 hex
    · exact switch_exit (h.1 .RM) (h.2 .rc) (h.1 .NW) (switches _).1 hc (fitM _).1 (fitM _).2 hex
    · exact switch_enter (h.1 .WM) (h.2 .wc) (h.1 .NR) (switches _).2 hc (fitM _).1 (fitM _).2 hex
    · exact switch_exit (h.1 .WM) (h.2 .wc) (h.1 .NR) (switches _).2 hc (fitM _).1 (fitM _).2 hex

theorem rinv_idle (s : CS) (hr : ∀ k, s.cnt .reader (k + 1) = 0) (hw : ∀ k, s.cnt .writer (k + 1) = 0) :
    RInv s ↔ s.sh = ⟨0, 0, 0, 0, 0, 0, 0⟩ := by
  simp only [RInv, hr, hw]
  obtain ⟨⟨RQ, NR, NW, RM, WM, rc, wc⟩, cnt⟩ := s
  simp only [Shared.mk.injEq]
  omega

end RW
