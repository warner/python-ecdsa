import Proofs.Bits
/-!
# Proofs.RandLoop — the rejection loop of `randrange` as a function of the chunks handed out
-/
namespace Rand

theorem oneDraw_some_range {order : Int} {c : Bytes} {k : Nat} (h : oneDraw order c = .ok (some k)) :
    1 ≤ k ∧ (k : Int) < order := by
  unfold oneDraw at h
  simp only [bind, Except.bind] at h
  split at h
  · cases h
  · split at h
    · rename_i hc
      obtain rfl := Option.some.inj (Except.ok.inj h)
      exact hc
    · cases h

theorem hist_snoc (hist : List Nat) (u i : Nat) :
    (hist ++ [u]) ++ List.replicate i u = hist ++ List.replicate (i + 1) u := by
  rw [List.append_assoc, List.replicate_succ]; rfl

theorem randrangeLoop_ok {ent : Entropy} {order : Int} {fuel : Nat} {hist : List Nat} {k : Nat} {hist' : List Nat}
    (h : randrangeLoop ent order fuel hist = some (.ok (k, hist'))) :
    ∃ j, j < fuel ∧ hist' = hist ++ List.replicate (j + 1) (upper256 order) ∧
      (∀ i, i < j → ∃ c, ent (hist ++ List.replicate (i + 1) (upper256 order)) = .ok c ∧ oneDraw order c = .ok none) ∧
      ∃ c, ent (hist ++ List.replicate (j + 1) (upper256 order)) = .ok c ∧ oneDraw order c = .ok (some k) := by
  induction fuel generalizing hist with
  | zero => simp [randrangeLoop] at h
  | succ f ih =>
    unfold randrangeLoop at h
    simp only at h
    split at h
    · cases h
    · rename_i chunk hent
      split at h
      · cases h
      · rename_i k' hd
        simp only [Option.some.injEq, Except.ok.injEq, Prod.mk.injEq] at h
        obtain ⟨rfl, rfl⟩ := h
        exact ⟨0, by omega, rfl, fun i hi => absurd hi (by omega), chunk, hent, hd⟩
      · rename_i hd
        obtain ⟨j, hj, hh, hrej, c, hc, hcd⟩ := ih h
        refine ⟨j + 1, by omega, ?_, ?_, c, ?_, hcd⟩
        · rw [hh, hist_snoc]
        · intro i hi
          cases i with
          | zero => exact ⟨chunk, hent, hd⟩
          | succ i =>
            obtain ⟨c', hc', hcd'⟩ := hrej i (by omega)
            exact ⟨c', by rw [← hist_snoc]; exact hc', hcd'⟩
        · rw [← hist_snoc]; exact hc

theorem randrangeLoop_congr {ent₁ ent₂ : Entropy} {order : Int} (fuel : Nat) (hist : List Nat)
    (h : ∀ i, ent₁ (hist ++ List.replicate (i + 1) (upper256 order)) = ent₂ (hist ++ List.replicate (i + 1) (upper256 order))) :
    randrangeLoop ent₁ order fuel hist = randrangeLoop ent₂ order fuel hist := by
  induction fuel generalizing hist with
  | zero => rfl
  | succ f ih =>
    unfold randrangeLoop
    simp only
    have h0 := h 0
    simp only [Nat.zero_add, List.replicate_one] at h0
    rw [h0]
    split
    · rfl
    · split
      · rfl
      · rfl
      · apply ih
        intro i
        rw [hist_snoc]; exact h (i + 1)

theorem streamEntropy_snoc (s : Bytes) (pre : List Nat) (size : Nat) :
    streamEntropy s (pre ++ [size]) =
      if pre.sum + size > s.length then .error .indexError else .ok ((s.drop pre.sum).take size) := by
  simp [streamEntropy, List.getLast?_append]

theorem streamEntropy_shift (s : Bytes) (hist pre : List Nat) (size : Nat) (hsum : hist.sum ≤ s.length) :
    streamEntropy s (hist ++ (pre ++ [size])) = streamEntropy (s.drop hist.sum) (pre ++ [size]) := by
  rw [← List.append_assoc, streamEntropy_snoc, streamEntropy_snoc]
  simp only [List.sum_append, List.length_drop, List.drop_drop]
  by_cases h : hist.sum + pre.sum + size > s.length
  · rw [if_pos h, if_pos (by omega)]
  · rw [if_neg h, if_neg (by omega)]

def relabel (hist : List Nat) : Option (Res (Nat × List Nat)) → Option (Res (Nat × List Nat)) :=
  Option.map (Except.map fun p => (p.1, hist ++ p.2))

theorem randrangeLoop_stream_shift (s : Bytes) (order : Int) (hist : List Nat) (hsum : hist.sum ≤ s.length) (fuel : Nat) :
    ∀ h2 : List Nat, randrangeLoop (streamEntropy s) order fuel (hist ++ h2) =
      relabel hist (randrangeLoop (streamEntropy (s.drop hist.sum)) order fuel h2) := by
  induction fuel with
  | zero => intro h2; rfl
  | succ f ih =>
    intro h2
    unfold randrangeLoop
    simp only
    rw [List.append_assoc, streamEntropy_shift s hist h2 _ hsum]
    split
    · rfl
    · split
      · rfl
      · simp [relabel, Except.map]
      · exact ih _

theorem randrangeLoop_complete {ent : Entropy} {order : Int} (j : Nat) :
    ∀ (fuel : Nat) (hist : List Nat) (k : Nat), j < fuel →
      (∀ i, i < j → ∃ c, ent (hist ++ List.replicate (i + 1) (upper256 order)) = .ok c ∧ oneDraw order c = .ok none) →
      (∃ c, ent (hist ++ List.replicate (j + 1) (upper256 order)) = .ok c ∧ oneDraw order c = .ok (some k)) →
      randrangeLoop ent order fuel hist = some (.ok (k, hist ++ List.replicate (j + 1) (upper256 order))) := by
  induction j with
  | zero =>
    intro fuel hist k hf _ hacc
    obtain ⟨f, rfl⟩ : ∃ f, fuel = f + 1 := ⟨fuel - 1, by omega⟩
    obtain ⟨c, hc, hd⟩ := hacc
    simp only [Nat.zero_add, List.replicate_one] at hc ⊢
    unfold randrangeLoop
    simp only [hc, hd]
  | succ j ih =>
    intro fuel hist k hf hrej hacc
    obtain ⟨f, rfl⟩ : ∃ f, fuel = f + 1 := ⟨fuel - 1, by omega⟩
    obtain ⟨c0, hc0, hd0⟩ := hrej 0 (by omega)
    simp only [Nat.zero_add, List.replicate_one] at hc0
    unfold randrangeLoop
    simp only [hc0, hd0]
    rw [ih f (hist ++ [upper256 order]) k (by omega), hist_snoc]
    · intro i hi
      obtain ⟨c, hc, hd⟩ := hrej (i + 1) (by omega)
      exact ⟨c, by rw [hist_snoc]; exact hc, hd⟩
    · obtain ⟨c, hc, hd⟩ := hacc
      exact ⟨c, by rw [hist_snoc]; exact hc, hd⟩

end Rand
