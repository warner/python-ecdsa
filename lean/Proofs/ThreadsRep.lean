import Proofs.ThreadsSpec
import Proofs.MulTable
import Proofs.Legacy
/-! # Proofs.ThreadsRep — the hypotheses `ObjOK` of the thread theorems hold for every stored point that denotes an
element of a subgroup without 2-torsion (the C06 / C07 results: `pjScale_correct`, `pjEqInf_false`,
`precomputeTable_correct_min`) -/
namespace ThreadProgs
open WeierstrassCurve WeierstrassCurve.Jacobian Curve Jac

variable {p : ℕ} [hp : Fact p.Prime] {a b : ℤ} {H : AddSubgroup (Grp (a : ZMod p) (b : ZMod p))}

theorem EntryRep.unique {e e' : ℤ × ℤ} {t : Grp (a : ZMod p) (b : ZMod p)} (h : EntryRep p a b H e t)
    (h' : EntryRep p a b H e' t) : e = e' := by
  obtain ⟨rx, ry, _, hn, he⟩ := h
  obtain ⟨rx', ry', _, hn', he'⟩ := h'
  have e0 := he.trans he'.symm
  rw [Affine.Point.some.injEq] at e0
  have h1 := (InRange.cast_inj rx rx').mp e0.1
  have h2 := (InRange.cast_inj ry ry').mp e0.2
  exact Prod.ext h1 h2

theorem pow_bracket_unique {x : ℤ} {m m' : ℕ} (h1 : x ≤ 2 ^ m) (h2 : 2 ^ (m - 1) < x)
    (h1' : x ≤ 2 ^ m') (h2' : 2 ^ (m' - 1) < x) : m = m' := by
  rcases lt_trichotomy m m' with hlt | rfl | hlt
  · exact absurd (h1.trans (pow_le_pow_right₀ (by decide) (Nat.le_sub_one_of_lt hlt))) (not_le.mpr h2')
  · rfl
  · exact absurd (h1'.trans (pow_le_pow_right₀ (by decide) (Nat.le_sub_one_of_lt hlt))) (not_le.mpr h2)

theorem precomputeTable_rep_indep (hH : NoOrder2 H) {P P' : PJ} {g} (hP : PJRep p a b H P g) (hP' : PJRep p a b H P' g)
    {o : ℤ} (ho : truthy P.order = some o) (ho' : truthy P'.order = some o) (hpos : 0 < o) :
    ∃ table, precomputeTable P = .ok table ∧ precomputeTable P' = .ok table ∧ table.isEmpty = false := by
  obtain ⟨T, hT, hE, m, hm, hb, hmin⟩ := precomputeTable_correct_min hH hP ho hpos
  obtain ⟨T', hT', hE', m', hm', hb', hmin'⟩ := precomputeTable_correct_min hH hP' ho' hpos
  -- same length (the least `m` with `4 o ≤ 2 ^ m`), and entry by entry the canonical pair of the same element
  have hlen : T.length = T'.length := by rw [hm, hm', pow_bracket_unique hb hmin hb' hmin']
  have heq : T = T' := List.ext_getElem hlen fun j hj hj' => EntryRep.unique (hE j hj) (hE' j hj')
  subst heq
  exact ⟨T, hT, hT', List.isEmpty_eq_false_iff.mpr (List.ne_nil_of_length_eq_add_one hm)⟩

theorem objOK_of_rep (hH : NoOrder2 H) (E : Env) (id : Nat) (g : Grp (a : ZMod p) (b : ZMod p))
    (hP : PJRep p a b H (mkPJ (E.info id) (E.c0 id)) g)
    (hS : pjScale (mkPJ (E.info id) (E.c0 id)) = .ok (mkPJ (E.info id) (E.cS id)))
    (hgen : (E.info id).generator = true → ∃ o, truthy (E.info id).order = some o ∧ 0 < o ∧
      precomputeTable (mkPJ (E.info id) (E.c0 id)) = .ok (E.tF id))
    (hnogen : (E.info id).generator = false → E.tF id = []) : ObjOK E id := by
  obtain ⟨S, hS', hSrep, hz, _, _, _⟩ := pjScale_correct hP
  cases hS.symm.trans hS'
  refine ⟨hS, hz, ?_, ?_, fun hg => ?_, hnogen⟩
  · -- neither representation is an identity
    exact (pjEqInf_false hP : isInfC (E.c0 id) = false).trans (pjEqInf_false hSrep).symm
  · exact (beq_eq_false_iff_ne.mpr hP.y_ne : ((E.c0 id).2.1 == 0) = false).trans (beq_eq_false_iff_ne.mpr hSrep.y_ne).symm
  · obtain ⟨o, ho, hpos, ht⟩ := hgen hg
    obtain ⟨T, h1, h2, hne⟩ := precomputeTable_rep_indep hH hP hSrep (o := o) ho ho hpos
    cases ht.symm.trans h1
    exact ⟨ht, h2, hne⟩

end ThreadProgs
