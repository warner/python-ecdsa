import Proofs.KeysBytes
import Mathlib.Data.Int.ModEq
import Mathlib.Data.Nat.Prime.Int
import Mathlib.Tactic.Ring
import Mathlib.Tactic.LinearCombination
/-!
# Proofs.KeysPoint — the curve equation and square roots mod `p` as the loaders use them (`SqrtSpec`), and
`from_public_point`: the four checks of `Public_key.__init__`
-/
namespace KeysP
open Keys Res

theorem onCurve_iff (c : Curve) (hp : 0 < c.p) (x y : Int) :
    onCurve c x y = true ↔ (y * y - ((x * x + c.a) * x + c.b)) % (c.p : Int) = 0 := by
  unfold onCurve Gen.Keys.contains_point
  rw [decide_eq_true_iff, Int.fmod_eq_emod_of_nonneg _ (by exact_mod_cast Nat.le_of_lt hp)]

theorem alphaOf_eq (c : Curve) (hp : 0 < c.p) (x : Nat) :
    alphaOf c x = (((x : Int) ^ 3) % (c.p : Int) + c.a * x + c.b) % (c.p : Int) := by
  have h0 : (0 : Int) ≤ (c.p : Int) := by exact_mod_cast Nat.le_of_lt hp
  unfold alphaOf pmod
  rw [Int.fmod_eq_emod_of_nonneg _ h0, Int.fmod_eq_emod_of_nonneg _ h0]

theorem alphaOf_range (c : Curve) (hp : 0 < c.p) (x : Nat) : 0 ≤ alphaOf c x ∧ alphaOf c x < c.p := by
  have h0 : (0 : Int) < (c.p : Int) := by exact_mod_cast hp
  rw [alphaOf_eq c hp]
  exact ⟨Int.emod_nonneg _ (by omega), Int.emod_lt_of_pos _ h0⟩

theorem alphaOf_modEq (c : Curve) (hp : 0 < c.p) (x : Nat) :
    alphaOf c x ≡ ((x : Int) * x + c.a) * x + c.b [ZMOD (c.p : Int)] := by
  rw [alphaOf_eq c hp]
  refine (Int.mod_modEq _ _).trans (((Int.mod_modEq _ _).add_right _).add_right _ |>.trans ?_)
  rw [show (x : Int) ^ 3 + c.a * x + c.b = ((x : Int) * x + c.a) * x + c.b by ring]

theorem onCurve_iff_alpha (c : Curve) (hp : 0 < c.p) (x : Nat) (y : Int) :
    onCurve c x y = true ↔ (y * y - alphaOf c x) % (c.p : Int) = 0 := by
  rw [onCurve_iff c hp, ← Int.emod_eq_emod_iff_emod_sub_eq_zero, ← Int.emod_eq_emod_iff_emod_sub_eq_zero,
    show alphaOf c x % (c.p : Int) = (((x : Int) * x + c.a) * x + c.b) % (c.p : Int) from alphaOf_modEq c hp x]

theorem roots_rel (p : Nat) (hp : p.Prime) (a y β : Int) (hy : 0 ≤ y ∧ y < p) (hβ : 0 ≤ β ∧ β < p)
    (h1 : (y * y - a) % (p : Int) = 0) (h2 : (β * β - a) % (p : Int) = 0) : y = β ∨ y = p - β := by
  have d1 := Int.dvd_of_emod_eq_zero h1
  have d2 := Int.dvd_of_emod_eq_zero h2
  have d : (p : Int) ∣ (y - β) * (y + β) := by
    have := Int.dvd_sub d1 d2
    rwa [show y * y - a - (β * β - a) = (y - β) * (y + β) by ring] at this
  have hpi : Prime (p : Int) := Nat.prime_iff_prime_int.mp hp
  -- a multiple of `p` strictly between `-p` and `p` is zero
  rcases hpi.dvd_or_dvd d with h | h
  · left
    have := Int.eq_zero_of_abs_lt_dvd h (by rw [abs_lt]; omega)
    omega
  · by_cases h0 : y + β = 0
    · left; omega
    · right
      have := Int.eq_zero_of_abs_lt_dvd (Int.dvd_sub h (dvd_refl _)) (by rw [abs_lt]; omega)
      omega

/-- the contract of `numbertheory.square_root_mod_prime` the loaders rely on (C15's theorem) -/
structure SqrtSpec (sqrt : Int → Int → Res Int) (p : Nat) : Prop where
  ok : ∀ a β : Int, 0 ≤ a → a < p → sqrt a p = .ok β → 0 ≤ β ∧ β < p ∧ (β * β - a) % (p : Int) = 0
  err : ∀ (a : Int) (e : PyErr), 0 ≤ a → a < p → sqrt a p = .error e →
    e = .squareRoot ∧ ∀ y : Int, (y * y - a) % (p : Int) ≠ 0

theorem ite_cases {β : Type} {R : β → Prop} {c : Prop} [Decidable c] {a b : β} (ha : c → R a) (hb : ¬ c → R b) :
    R (if c then a else b) := by
  by_cases h : c
  · rw [if_pos h]; exact ha h
  · rw [if_neg h]; exact hb h

/-- the validity predicate `Public_key.__init__` implements (with the code's subgroup test as a parameter) -/
def ValidPoint (E : Ext) (c : Curve) (x y : Nat) : Prop :=
  x < c.p ∧ y < c.p ∧ onCurve c x y = true ∧ (c.h ≠ 1 → E.subgroupOk c x y = true)

theorem fromPublicPoint_post (E : Ext) (c : Curve) (x y : Int) (v : Bool) :
    Post (fun k => (0 ≤ x ∧ x < c.p) ∧ (0 ≤ y ∧ y < c.p) ∧ (v = true → onCurve c x y = true) ∧ c.n ≠ 0 ∧
        (v = true → c.h ≠ 1 → E.subgroupOk c x.toNat y.toNat = true) ∧ k = ⟨c, x.toNat, y.toNat⟩)
      (· = .malformedPoint) (fromPublicPoint E c x y v) := by
  unfold fromPublicPoint
  refine ite_cases (fun _ => rfl) fun h1 => ?_
  refine ite_cases (fun _ => rfl) fun h2 => ?_
  refine ite_cases (fun _ => rfl) fun h3 => ?_
  refine ite_cases (fun _ => rfl) fun h4 => ?_
  exact ⟨Classical.not_not.mp fun hx => h1 (.inl hx), Classical.not_not.mp fun hy => h1 (.inr hy),
    fun hv => Classical.not_not.mp fun hc => h2 ⟨hv, hc⟩, h3,
    fun hv hh => Classical.not_not.mp fun hs => h4 ⟨hv, hh, hs⟩, rfl⟩

theorem fromPublicPoint_err (E : Ext) (c : Curve) (x y : Int) (v : Bool) (e : PyErr)
    (h : fromPublicPoint E c x y v = .error e) : e = .malformedPoint :=
  (fromPublicPoint_post E c x y v).err h

theorem fromPublicPoint_of_checks (E : Ext) (c : Curve) (x y : Int) (v : Bool) (hx : 0 ≤ x ∧ x < c.p)
    (hy : 0 ≤ y ∧ y < c.p) (hc : v = true → onCurve c x y = true) (hn : c.n ≠ 0)
    (hs : v = true → c.h ≠ 1 → E.subgroupOk c x.toNat y.toNat = true) :
    fromPublicPoint E c x y v = .ok ⟨c, x.toNat, y.toNat⟩ := by
  unfold fromPublicPoint
  rw [if_neg (fun h => h.elim (· hx) (· hy)), if_neg (fun h => h.2 (hc h.1)), if_neg hn,
    if_neg (fun h => h.2.2 (hs h.1 h.2.1))]

theorem fromPublicPoint_ok_iff (E : Ext) (c : Curve) (hn : c.n ≠ 0) (x y : Int) (k : VK) :
    fromPublicPoint E c x y true = .ok k ↔
      0 ≤ x ∧ 0 ≤ y ∧ ValidPoint E c x.toNat y.toNat ∧ k = ⟨c, x.toNat, y.toNat⟩ := by
  constructor
  · intro h
    obtain ⟨hx, hy, hc, _, hs, hk⟩ := (fromPublicPoint_post E c x y true).ok h
    have hc' := hc rfl
    rw [← Int.toNat_of_nonneg hx.1, ← Int.toNat_of_nonneg hy.1] at hc'
    exact ⟨hx.1, hy.1, ⟨by omega, by omega, hc', hs rfl⟩, hk⟩
  · rintro ⟨hx, hy, ⟨h1, h2, h3, h4⟩, hk⟩
    rw [Int.toNat_of_nonneg hx, Int.toNat_of_nonneg hy] at h3
    rw [hk]
    exact fromPublicPoint_of_checks E c x y true ⟨hx, by omega⟩ ⟨hy, by omega⟩ (fun _ => h3) hn fun _ => h4

end KeysP
