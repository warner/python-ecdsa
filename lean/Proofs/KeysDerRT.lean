import Proofs.KeysDer
/-!
# Proofs.KeysDerRT — the DER loaders.  On spec-encoded input the readers of `Model/Der.lean` undo the spec encoder node by
node, so `from_der` reduces to `from_string` of the embedded field; on any input the wrapper is refused with
`UnexpectedDER` / `UnknownCurveError`, or the result is that of the raw-string loader on a curve of the table (`DerOutcome`)
-/
namespace KeysP
open Keys Asn1Spec Res

/-! ## the readers undo the spec encoder, one node at the head of a list of nodes at a time -/

theorem removeSequence_seq (items rest : List Asn1) (h : (Asn1.encList items).length < 256 ^ 127) :
    Der.removeSequence (Asn1.encList (.seq items :: rest)) = .ok (Asn1.encList items, Asn1.encList rest) := by
  rw [encList_cons, ← encodeSequence_enc items [Asn1.encList items] (List.append_nil _) h]
  simpa using Der.removeSequence_encode [Asn1.encList items] (Asn1.encList rest) (by simpa using h)

theorem removeSequence_enc (items : List Asn1) (h : (Asn1.encList items).length < 256 ^ 127) :
    Der.removeSequence (Asn1.seq items).enc = .ok (Asn1.encList items, []) := by
  have := removeSequence_seq items [] h
  rwa [encList_cons, show Asn1.encList [] = [] from rfl, List.append_nil] at this

theorem removeInteger_int (v : Nat) (rest : List Asn1) (h : (Der.intBody v).length < 256 ^ 127) :
    Der.removeInteger (Asn1.encList (.int v :: rest)) = .ok (v, Asn1.encList rest) := by
  rw [encList_cons, enc_int v h]
  exact Der.removeInteger_encode v _ h

theorem removeObject_encodeOidList (arcs : List Nat) (e rest : Bytes) (h : encodeOidList arcs = .ok e)
    (hl : e.length < 256 ^ 127) : Der.removeObject (e ++ rest) = .ok (arcs, rest) := by
  match arcs, h with
  | first :: second :: pieces, h =>
    unfold encodeOidList at h
    obtain ⟨hd, he⟩ := Der.encodeOid_ok h
    subst he
    refine Der.removeObject_encode first second pieces rest hd ?_
    simp at hl; omega
  | [_], h => simp [encodeOidList] at h
  | [], h => simp [encodeOidList] at h

theorem removeObject_oid (arcs : List Nat) (rest : List Asn1) (h : encodeOidList arcs = .ok (Asn1.oid arcs).enc)
    (hl : (Asn1.oid arcs).enc.length < 256 ^ 127) :
    Der.removeObject (Asn1.encList (.oid arcs :: rest)) = .ok (arcs, Asn1.encList rest) :=
  removeObject_encodeOidList arcs _ _ h hl

theorem removeOctetString_octets (s : Bytes) (rest : List Asn1) (h : s.length < 256 ^ 127) :
    Der.removeOctetString (Asn1.encList (.octets s :: rest)) = .ok (s, Asn1.encList rest) := by
  rw [encList_cons, enc_octets _ h]
  exact Der.removeOctetString_encode s _ h

theorem removeConstructed_ctx (n : Nat) (t : Asn1) (rest : List Asn1) (hn : n ≤ 0x1f) (h : t.enc.length < 256 ^ 127) :
    Der.removeConstructed (Asn1.encList (.ctx n t :: rest)) = .ok (n, t.enc, Asn1.encList rest) := by
  rw [encList_cons, enc_ctx _ _ h]
  exact Der.removeConstructed_encode n t.enc _ hn h

theorem removeBitstring_bits (s : Bytes) (rest : List Asn1) (h : s.length + 1 < 256 ^ 127) :
    Der.removeBitstring (Asn1.encList (.bits 0 s :: rest)) (.some 0) = .ok (s, none, Asn1.encList rest) := by
  rw [encList_cons, enc_bits _ h]
  exact Der.removeBitstring_some_encode s _ 0 (by omega) (by simp [Der.bitsPadOK]) h

theorem isSequence_seq (items rest : List Asn1) : isSequence (Asn1.encList (.seq items :: rest)) = true := by
  simp [isSequence, Asn1.encList, Asn1.enc, tlv]

theorem isSequence_octets (s : Bytes) (rest : List Asn1) : isSequence (Asn1.encList (.octets s :: rest)) = false := by
  simp [isSequence, Asn1.encList, Asn1.enc, tlv]

theorem encodeOid_idPk : encodeOidList id_ecPublicKey = .ok (Asn1.oid id_ecPublicKey).enc :=
  oid_ecPublicKey_spec ▸ encodeOid_ecPublicKey_spec

/-- `b"\x00" * (baselen - len(s)) + s` when `s` is shorter than `baselen` (the loader's left padding) -/
def padLeft (c : Curve) (s : Bytes) : Bytes :=
  if s.length < c.baselen then List.replicate (c.baselen - s.length) 0 ++ s else s

theorem vk_fromDer_spki (E : Ext) (c : Curve) (pt : Bytes) (hoid : encodeOidList c.oid = .ok (Asn1.oid c.oid).enc)
    (hfind : findCurve c.oid = .ok c) (hraw : pt.length ≠ c.vkLen) (h : (spki c.oid pt).enc.length < 256 ^ 127) :
    VK.fromDer E (spki c.oid pt).enc = VK.fromString E c pt true := by
  have h1 := lt_of_seq h
  obtain ⟨h2, h3⟩ := lt_of_cons h1
  obtain ⟨ho1, h4⟩ := lt_of_cons (lt_of_seq h2)
  unfold VK.fromDer
  refine Res.bind_eq_of_ok (removeSequence_enc _ h1) ?_
  refine (if_neg (fun hh => hh rfl)).trans ?_
  refine Res.bind_eq_of_ok (removeSequence_seq _ _ (lt_of_seq h2)) ?_
  refine Res.bind_eq_of_ok (removeObject_oid _ _ encodeOid_idPk ho1) ?_
  refine Res.bind_eq_of_ok (removeObject_oid _ _ hoid (lt_of_cons h4).1) ?_
  refine (if_neg (fun hh => hh rfl)).trans ?_
  refine (if_neg (fun hh => hh oid_ecPublicKey_spec.symm)).trans ?_
  refine Res.bind_eq_of_ok hfind ?_
  refine Res.bind_eq_of_ok (removeBitstring_bits _ _ (lt_of_bits (lt_of_cons h3).1)) ?_
  refine (if_neg (fun hh => hh rfl)).trans ?_
  exact if_neg hraw

theorem ecPrivateKeyTail_ssleay (E : Ext) (c : Curve) (d : Bytes) (rest : List Asn1)
    (hoid : encodeOidList c.oid = .ok (Asn1.oid c.oid).enc) (hfind : findCurve c.oid = .ok c)
    (h : (Asn1.encList (.octets d :: .ctx 0 (.oid c.oid) :: rest)).length < 256 ^ 127) :
    SK.ecPrivateKeyTail E 1 (Asn1.encList (.octets d :: .ctx 0 (.oid c.oid) :: rest)) none
      = SK.fromString E c (padLeft c d) := by
  obtain ⟨h1, h2⟩ := lt_of_cons h
  have ho := lt_of_ctx (lt_of_cons h2).1
  unfold SK.ecPrivateKeyTail
  refine (if_neg (fun hh => hh rfl)).trans ?_
  refine Res.bind_eq_of_ok (removeOctetString_octets _ _ (lt_of_octets h1)) ?_
  refine Res.bind_eq_of_ok (a := c) ?_ rfl
  refine Res.bind_eq_of_ok (removeConstructed_ctx 0 _ _ (by decide) ho) ?_
  refine (if_neg (fun hh => hh rfl)).trans ?_
  refine Res.bind_eq_of_ok (a := (c.oid, [])) ?_ ?_
  · rw [← List.append_nil (Asn1.oid c.oid).enc]
    exact removeObject_encodeOidList _ _ _ hoid ho
  · exact (if_neg (fun hh => hh rfl)).trans hfind

theorem ecPrivateKeyTail_pkcs8 (E : Ext) (c : Curve) (d : Bytes) (rest : List Asn1)
    (h : (Asn1.encList (.octets d :: rest)).length < 256 ^ 127) :
    SK.ecPrivateKeyTail E 1 (Asn1.encList (.octets d :: rest)) (some c) = SK.fromString E c (padLeft c d) := by
  unfold SK.ecPrivateKeyTail
  refine (if_neg (fun hh => hh rfl)).trans ?_
  exact Res.bind_eq_of_ok (removeOctetString_octets _ _ (lt_of_octets (lt_of_cons h).1)) rfl

theorem oneAsymmetricKey_eq_general (d : Bytes) (curveOid : List Nat) (pt : Bytes) :
    oneAsymmetricKey d curveOid pt =
      oneAsymmetricKeyG 1 d curveOid [.ctx 0 (.oid curveOid), .ctx 1 (.bits 0 pt)] [] := rfl

theorem ecPrivateKey_eq_general (d : Bytes) (curveOid : List Nat) (pt : Bytes) :
    ecPrivateKey d curveOid pt = ecPrivateKeyG d [.ctx 0 (.oid curveOid), .ctx 1 (.bits 0 pt)] := rfl

theorem sk_fromDer_ssleay_general (E : Ext) (c : Curve) (hoid : encodeOidList c.oid = .ok (Asn1.oid c.oid).enc)
    (hfind : findCurve c.oid = .ok c) (d : Bytes) (rest : List Asn1)
    (h : (ecPrivateKeyG d (.ctx 0 (.oid c.oid) :: rest)).enc.length < 256 ^ 127) :
    SK.fromDer E (ecPrivateKeyG d (.ctx 0 (.oid c.oid) :: rest)).enc = SK.fromString E c (padLeft c d) := by
  have h1 := lt_of_seq h
  unfold SK.fromDer
  refine Res.bind_eq_of_ok (removeSequence_enc _ h1) ?_
  refine (if_neg (fun hh => hh rfl)).trans ?_
  refine Res.bind_eq_of_ok (removeInteger_int 1 _ intBody_one_lt) ?_
  refine (if_neg (by rw [isSequence_octets]; exact Bool.false_ne_true)).trans ?_
  exact ecPrivateKeyTail_ssleay E c d rest hoid hfind (lt_of_cons h1).2

theorem sk_fromDer_pkcs8_general (E : Ext) (c : Curve) (hoid : encodeOidList c.oid = .ok (Asn1.oid c.oid).enc)
    (hfind : findCurve c.oid = .ok c) (v : Nat) (hv : v = 0 ∨ v = 1) (d : Bytes) (opts tail : List Asn1)
    (h : (oneAsymmetricKeyG v d c.oid opts tail).enc.length < 256 ^ 127) :
    SK.fromDer E (oneAsymmetricKeyG v d c.oid opts tail).enc = SK.fromString E c (padLeft c d) := by
  have h1 := lt_of_seq h
  obtain ⟨halg, h2⟩ := lt_of_cons (lt_of_cons h1).2
  obtain ⟨ho1, h3⟩ := lt_of_cons (lt_of_seq halg)
  have hec := lt_of_octets (lt_of_cons h2).1
  unfold SK.fromDer
  refine Res.bind_eq_of_ok (removeSequence_enc _ h1) ?_
  refine (if_neg (fun hh => hh rfl)).trans ?_
  refine Res.bind_eq_of_ok (removeInteger_int v _ (Der.intBody_length_lt v (by rcases hv with rfl | rfl <;> decide))) ?_
  refine (if_pos (isSequence_seq _ _)).trans ?_
  refine (if_neg (fun hh => by omega)).trans ?_
  refine Res.bind_eq_of_ok (removeSequence_seq _ _ (lt_of_seq halg)) ?_
  refine Res.bind_eq_of_ok (removeObject_oid _ _ encodeOid_idPk ho1) ?_
  refine Res.bind_eq_of_ok (removeObject_oid _ _ hoid (lt_of_cons h3).1) ?_
  refine Res.bind_eq_of_ok hfind ?_
  refine (if_neg (fun hh => hh.1 oid_ecPublicKey_spec.symm)).trans ?_
  refine (if_neg (fun hh => hh rfl)).trans ?_
  refine Res.bind_eq_of_ok (removeOctetString_octets _ _ hec) ?_
  refine Res.bind_eq_of_ok (removeSequence_enc _ (lt_of_seq hec)) ?_
  refine (if_neg (fun hh => hh rfl)).trans ?_
  refine Res.bind_eq_of_ok (removeInteger_int 1 _ intBody_one_lt) ?_
  exact ecPrivateKeyTail_pkcs8 E c d opts (lt_of_cons (lt_of_seq hec)).2

theorem vk_fromDer_spec (E : Ext) (c : Curve) (hc : c ∈ Gen.curveTable) (pt : Bytes)
    (hpt : pt.length ≤ 133) (hraw : pt.length ≠ c.vkLen) :
    VK.fromDer E (spki c.oid pt).enc = VK.fromString E c pt true :=
  vk_fromDer_spki E c pt (table_encodedOid c hc) (table_findCurve c hc) hraw
    (lt_pow127_of_lt_65536 _ (by have := (table_sizes c hc [] pt (Nat.zero_le _) hpt).1; omega))

theorem sk_fromDer_spec (E : Ext) (c : Curve) (hc : c ∈ Gen.curveTable) (d pt : Bytes) (hd : d.length ≤ 66)
    (hpt : pt.length ≤ 133) :
    SK.fromDer E (ecPrivateKey d c.oid pt).enc = SK.fromString E c (padLeft c d) ∧
    SK.fromDer E (oneAsymmetricKey d c.oid pt).enc = SK.fromString E c (padLeft c d) := by
  obtain ⟨_, l1, l2⟩ := table_sizes c hc d pt hd hpt
  exact ⟨sk_fromDer_ssleay_general E c (table_encodedOid c hc) (table_findCurve c hc) d _
      (lt_pow127_of_lt_65536 (ecPrivateKey d c.oid pt).enc.length (by omega)),
    sk_fromDer_pkcs8_general E c (table_encodedOid c hc) (table_findCurve c hc) 1 (.inr rfl) d _ []
      (lt_pow127_of_lt_65536 (oneAsymmetricKey d c.oid pt).enc.length (by omega))⟩

theorem encBytes_not_raw_len (k : VK) (enc : PointEnc) (henc : enc ≠ .raw) (hl : Util.orderlen k.curve.p ≠ 1) :
    (encBytes k enc).length ≠ k.curve.vkLen := by
  have hl0 := Util.orderlen_pos k.curve.p
  have := encBytes_length k enc
  rw [vkLen_eq]
  cases enc
  · exact absurd rfl henc
  · simp only at this; omega
  · simp only at this; omega
  · simp only at this; omega

theorem beVal_replicate_zero (n : Nat) (s : Bytes) : beVal (List.replicate n 0 ++ s) = beVal s := by
  induction n with
  | zero => simp
  | succ n ih => rw [List.replicate_succ, List.cons_append, Der.beVal_zero_cons, ih]

theorem padLeft_spec (c : Curve) (s : Bytes) :
    beVal (padLeft c s) = beVal s ∧ (padLeft c s).length = max s.length c.baselen := by
  unfold padLeft
  split
  · refine ⟨beVal_replicate_zero _ _, ?_⟩
    simp; omega
  · exact ⟨rfl, by omega⟩

/-- the documented exceptions of the key loaders -/
def Documented (e : PyErr) : Prop := e = .unexpectedDER ∨ e = .malformedPoint ∨ e = .unknownCurve

theorem removeObject_ok_enc {s rest : Bytes} {arcs : List Nat} (h : Der.removeObject s = .ok (arcs, rest)) :
    ∃ e, encodeOidList arcs = .ok e ∧ s = e ++ rest := by
  obtain ⟨first, second, pieces, ha, hd, hl, hs⟩ := Der.removeObject_ok h
  subst ha
  exact ⟨_, Der.encodeOid_eq first second pieces hd hl, hs⟩

theorem findCurve_post (oid : List Nat) :
    Post (fun c => c ∈ Gen.curveTable ∧ c.oid = oid) (· = .unknownCurve) (findCurve oid) := by
  unfold findCurve findCurveIn
  split
  · rename_i c hf
    exact ⟨List.mem_of_find?_eq_some hf, by simpa using List.find?_some hf⟩
  · rfl

/-- outcome of a DER key loader: the wrapper is refused (`UnexpectedDER`, `UnknownCurveError`), or the result is what
the raw-string loader `inner` makes of a payload `bs` on a curve `c` of the table, where `W c bs` records what was read -/
def DerOutcome {α : Type} (inner : Curve → Bytes → Res α) (W : Curve → Bytes → Prop) (r : Res α) : Prop :=
  r = .error .unexpectedDER ∨ r = .error .unknownCurve ∨ ∃ c ∈ Gen.curveTable, ∃ bs, W c bs ∧ r = inner c bs

theorem DerOutcome.der {α : Type} {inner : Curve → Bytes → Res α} {W : Curve → Bytes → Prop} {e : PyErr}
    (h : e = .unexpectedDER) : DerOutcome inner W (.error e) := .inl (h ▸ rfl)

theorem DerOutcome.curve {α : Type} {inner : Curve → Bytes → Res α} {W : Curve → Bytes → Prop} {e : PyErr}
    (h : e = .unknownCurve) : DerOutcome inner W (.error e) := .inr (.inl (h ▸ rfl))

theorem DerOutcome.documented {α : Type} {inner : Curve → Bytes → Res α} {W : Curve → Bytes → Prop} {r : Res α}
    (h : DerOutcome inner W r) (hin : ∀ c ∈ Gen.curveTable, ∀ bs e, inner c bs = .error e → e = .malformedPoint)
    (e : PyErr) (hr : r = .error e) : Documented e := by
  rcases h with h | h | ⟨c, hc, bs, _, h⟩
  · exact .inl (Except.error.inj (hr.symm.trans h))
  · exact .inr (.inr (Except.error.inj (hr.symm.trans h)))
  · exact .inr (.inl (hin c hc bs e (h.symm.trans hr)))

theorem DerOutcome.ok {α : Type} {inner : Curve → Bytes → Res α} {W : Curve → Bytes → Prop} {r : Res α} {k : α}
    (h : DerOutcome inner W r) (hr : r = .ok k) : ∃ c ∈ Gen.curveTable, ∃ bs, W c bs ∧ inner c bs = .ok k := by
  rcases h with h | h | ⟨c, hc, bs, hw, h⟩
  · exact nomatch hr.symm.trans h
  · exact nomatch hr.symm.trans h
  · exact ⟨c, hc, bs, hw, h.symm.trans hr⟩

/- One `refine` per statement of the parser: a failing reader or test ends in `UnexpectedDER`, an unknown OID in
`UnknownCurveError`, and the last statement is the call of the raw-string loader. -/
theorem ecPrivateKeyTail_outcome (E : Ext) (version : Nat) (s : Bytes) (curve : Option Curve)
    (hcv : ∀ c, curve = some c → c ∈ Gen.curveTable) :
    DerOutcome (SK.fromString E) (fun _ _ => True) (SK.ecPrivateKeyTail E version s curve) := by
  unfold SK.ecPrivateKeyTail
  refine ite_cases (fun _ => .der rfl) fun _ => ?_
  refine bind_cases (fun _ h => .der (Der.removeOctetString_err h)) fun ⟨privkeyStr, s'⟩ _ => ?_
  -- the curve: the wrapper's, or the `[0]` field looked up in the table
  refine bind_post (Q := (· ∈ Gen.curveTable)) (P := fun e => e = .unexpectedDER ∨ e = .unknownCurve) ?_
    (fun _ h => h.elim .der .curve) fun c hc => .inr (.inr ⟨c, hc, _, trivial, rfl⟩)
  cases curve with
  | some c => exact hcv c rfl
  | none =>
    refine bind_cases (fun _ h => .inl (Der.removeConstructed_err h)) fun ⟨tag, curveOidStr, _⟩ _ => ?_
    refine ite_cases (fun _ => .inl rfl) fun _ => ?_
    refine bind_cases (fun _ h => .inl (Der.removeObject_err h)) fun ⟨curveOid, empty⟩ _ => ?_
    refine ite_cases (fun _ => .inl rfl) fun _ => ?_
    cases h : findCurve curveOid with
    | error e => exact .inr ((findCurve_post curveOid).err h)
    | ok c => exact ((findCurve_post curveOid).ok h).1

theorem sk_fromDer_outcome (E : Ext) (s : Bytes) :
    DerOutcome (SK.fromString E) (fun _ _ => True) (SK.fromDer E s) := by
  unfold SK.fromDer
  refine bind_cases (fun _ h => .der (Der.removeSequence_err h)) fun ⟨s1, empty⟩ _ => ?_
  refine ite_cases (fun _ => .der rfl) fun _ => ?_
  refine bind_cases (fun _ h => .der (Der.removeInteger_err h)) fun ⟨version, s2⟩ _ => ?_
  refine ite_cases (fun _ => ?_) fun _ => ecPrivateKeyTail_outcome E version s2 none (fun _ h => nomatch h)
  refine ite_cases (fun _ => .der rfl) fun _ => ?_
  refine bind_cases (fun _ h => .der (Der.removeSequence_err h)) fun ⟨sequence, s3⟩ _ => ?_
  refine bind_cases (fun _ h => .der (Der.removeObject_err h)) fun ⟨algorithmOid, algorithmIdentifier⟩ _ => ?_
  refine bind_cases (fun _ h => .der (Der.removeObject_err h)) fun ⟨curveOid, empty2⟩ _ => ?_
  refine bind_post (findCurve_post curveOid) (fun _ => .curve) fun curve hcv => ?_
  refine ite_cases (fun _ => .der rfl) fun _ => ?_
  refine ite_cases (fun _ => .der rfl) fun _ => ?_
  refine bind_cases (fun _ h => .der (Der.removeOctetString_err h)) fun ⟨s4, _⟩ _ => ?_
  refine bind_cases (fun _ h => .der (Der.removeSequence_err h)) fun ⟨s5, empty3⟩ _ => ?_
  refine ite_cases (fun _ => .der rfl) fun _ => ?_
  refine bind_cases (fun _ h => .der (Der.removeInteger_err h)) fun ⟨version2, s6⟩ _ => ?_
  exact ecPrivateKeyTail_outcome E version2 s6 (some curve) fun c h => Option.some.inj h ▸ hcv.1

/-- what `from_der` has read when it hands the point string `pt` to `from_string`: the input is the canonical
SubjectPublicKeyInfo of the curve `c` around `pt`, and `pt` is not of the raw length -/
def SpkiAround (s : Bytes) (c : Curve) (pt : Bytes) : Prop :=
  s = (spki c.oid pt).enc ∧ pt.length ≠ c.vkLen ∧ ∃ bits, Der.removeBitstring bits (.some 0) = .ok (pt, none, [])

theorem vk_fromDer_outcome (E : Ext) (s : Bytes) :
    DerOutcome (fun c pt => VK.fromString E c pt true) (SpkiAround s) (VK.fromDer E s) := by
  unfold VK.fromDer
  refine bind_cases (fun _ h => .der (Der.removeSequence_err h)) fun ⟨s1, empty⟩ h1 => ?_
  refine ite_cases (fun _ => .der rfl) fun hnil1 => ?_
  refine bind_cases (fun _ h => .der (Der.removeSequence_err h)) fun ⟨s2, bitstr⟩ h2 => ?_
  refine bind_cases (fun _ h => .der (Der.removeObject_err h)) fun ⟨oidPk, rest⟩ h3 => ?_
  refine bind_cases (fun _ h => .der (Der.removeObject_err h)) fun ⟨oidCurve, empty2⟩ h4 => ?_
  refine ite_cases (fun _ => .der rfl) fun hnil2 => ?_
  refine ite_cases (fun _ => .der rfl) fun hpk => ?_
  refine bind_post (findCurve_post oidCurve) (fun _ => .curve) fun curve ⟨hcm, hco⟩ => ?_
  refine bind_cases (fun _ h => .der (Der.removeBitstring_err h)) fun ⟨pointStr, o, empty3⟩ h6 => ?_
  refine ite_cases (fun _ => .der rfl) fun hnil3 => ?_
  refine ite_cases (fun _ => .der rfl) fun hraw => ?_
  -- reassemble the input from what the readers returned, innermost first
  obtain ⟨q1, l1⟩ := Der.removeSequence_ok h1
  obtain ⟨q2, l2⟩ := Der.removeSequence_ok h2
  obtain ⟨idpk, hidpk, q3⟩ := removeObject_ok_enc h3
  obtain ⟨coid, hcoid, q4⟩ := removeObject_ok_enc h4
  obtain ⟨ho, _, _, _, l5, q5⟩ := Der.removeBitstring_some_ok h6
  rw [Classical.not_not.mp hnil1, List.append_nil] at q1
  rw [Classical.not_not.mp hnil2, List.append_nil] at q4
  rw [Classical.not_not.mp hnil3, List.append_nil, Int.toNat_zero] at q5
  rw [Classical.not_not.mp hpk, encodeOid_ecPublicKey_spec] at hidpk
  rw [← hco, ← Curve.encodedOid, table_encodedOid _ hcm] at hcoid
  have hs2 : s2 = Asn1.encList [.oid id_ecPublicKey, .oid curve.oid] := by
    rw [q3, q4, ← Except.ok.inj hidpk, ← Except.ok.inj hcoid]
    exact congrArg _ (List.append_nil _).symm
  have hs1 : s1 = Asn1.encList [.seq [.oid id_ecPublicKey, .oid curve.oid], .bits 0 pointStr] := by
    rw [q2, q5, encodeSequence_enc _ [s2] (by rw [hs2, List.flatten_cons, List.flatten_nil, List.append_nil]) (hs2 ▸ l2),
      ← enc_bits _ l5]
    exact congrArg _ (List.append_nil _).symm
  refine .inr (.inr ⟨curve, hcm, pointStr, ⟨?_, hraw, bitstr, ?_⟩, rfl⟩)
  · rw [q1]
    exact encodeSequence_enc _ [s1] (by rw [hs1, List.flatten_cons, List.flatten_nil, List.append_nil]) (hs1 ▸ l1)
  · rw [h6, ho, Classical.not_not.mp hnil3]

theorem vk_fromDer_err (E : Ext) (hsq : ∀ c ∈ Gen.curveTable, SqrtSpec E.sqrtModP c.p) (s : Bytes) (e : PyErr)
    (h : VK.fromDer E s = .error e) : Documented e :=
  (vk_fromDer_outcome E s).documented (fun c hc pt e => fromString_err E c (table_p_pos _ hc) (hsq _ hc) pt true e) e h

/-- for every `Ext`: since F14 `SK.fromString` fails only with `MalformedPointError` whatever the point arithmetic does -/
theorem sk_fromDer_err (E : Ext) (s : Bytes) (e : PyErr) (h : SK.fromDer E s = .error e) : Documented e :=
  (sk_fromDer_outcome E s).documented (fun c _ bs e => sk_fromString_err E c bs e) e h

theorem vk_fromDer_curve_mem (E : Ext) (s : Bytes) (k : VK) (h : VK.fromDer E s = .ok k) : k.curve ∈ Gen.curveTable := by
  obtain ⟨c, hc, pt, _, hfs⟩ := (vk_fromDer_outcome E s).ok h
  rw [(fromString_ok_fields E c pt true k hfs).1]; exact hc

theorem sk_fromDer_curve_mem (E : Ext) (s : Bytes) (k : SK) (h : SK.fromDer E s = .ok k) : k.curve ∈ Gen.curveTable := by
  obtain ⟨c, hc, bs, _, hfs⟩ := (sk_fromDer_outcome E s).ok h
  rw [sk_fromString_curve E c bs k hfs]; exact hc

end KeysP
