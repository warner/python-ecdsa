import Proofs.MulNaf
/-!
# Proofs.Toy — concrete instances for the non-vacuity examples: the curve y² = x³ + x + 6 over F₁₁
(x³ + x + 6 has no root, so no point of order two; G = (2, 7) with 13 • G = 0).
-/
namespace Jac
open WeierstrassCurve WeierstrassCurve.Jacobian Curve

instance fact11 : Fact (Nat.Prime 11) := ⟨by decide⟩

variable {p : ℕ} [hp : Fact p.Prime]

theorem noOrder2_top_of_no_root (hp2 : p ≠ 2) {a b : ZMod p} (hroot : ∀ x : ZMod p, x ^ 3 + a * x + b ≠ 0) :
    NoOrder2 (⊤ : AddSubgroup (Grp a b)) := by
  intro g _ hg
  cases g with
  | zero => rfl
  | some x y h =>
    exfalso
    by_cases hy : y = (shortW a b).toAffine.negY x y
    · have h2 := two_ne_zero_of hp2
      have y0 : y = 0 := by
        simp only [Affine.negY, shortW, Jacobian.toAffine] at hy
        exact (mul_eq_zero.mp (show (2 : ZMod p) * y = 0 by linear_combination hy)).resolve_left h2
      have e := (Affine.equation_iff _ _).mp h.left
      simp only [shortW, Jacobian.toAffine] at e
      apply hroot x
      rw [y0] at e
      linear_combination -e
    · rw [Affine.Point.add_self_of_Y_ne hy] at hg
      exact Affine.Point.some_ne_zero _ hg

theorem nonsingular_of (hp2 : p ≠ 2) {a b x y : ZMod p} (he : y ^ 2 = x ^ 3 + a * x + b) (hy : y ≠ 0) :
    (shortW a b).toAffine.Nonsingular x y := by
  rw [Affine.nonsingular_iff']
  refine ⟨?_, Or.inr ?_⟩
  · rw [Affine.equation_iff]; simp only [shortW, Jacobian.toAffine]; linear_combination he
  · simp only [shortW, Jacobian.toAffine]
    have h2 := two_ne_zero_of hp2
    intro h
    exact hy ((mul_eq_zero.mp (show (2 : ZMod p) * y = 0 by linear_combination h)).resolve_left h2)

theorem pjRep_of_affine (hp2 : p ≠ 2) {a b : ℤ} (c : CurveFp) (hc : OnCurve p a b c) (x y : ℤ)
    (hx : InRange p x) (hy : InRange p y) (he : ((y : ZMod p)) ^ 2 = (x : ZMod p) ^ 3 + a * x + b)
    (hy0 : (y : ZMod p) ≠ 0) (o : Option ℤ) (gen : Bool) :
    PJRep p a b ⊤ ⟨c, x, y, 1, o, gen⟩ (Affine.Point.some _ _ (nonsingular_of hp2 he hy0)) :=
  ⟨hc, ⟨hx, hy, inRange_one⟩, by
    simpa using good_of_affine (H := ⊤) (nonsingular_of hp2 he hy0) (AddSubgroup.mem_top _) hy0⟩

def toyC : CurveFp := ⟨11, 1, 6, some 1⟩

theorem toyC_on : OnCurve 11 1 6 toyC := ⟨rfl, rfl, rfl⟩

theorem toy_n2t : NoOrder2 (⊤ : AddSubgroup (Grp ((1 : ℤ) : ZMod 11) ((6 : ℤ) : ZMod 11))) :=
  noOrder2_top_of_no_root (by decide) (by decide)

/-- G = (2, 7) -/
def toyG : PJ := ⟨toyC, 2, 7, 1, none, false⟩
/-- Q = (3, 6) -/
def toyQ : PJ := ⟨toyC, 3, 6, 1, none, false⟩

theorem toyG_rep : ∃ g, PJRep 11 1 6 ⊤ toyG g :=
  ⟨_, pjRep_of_affine (by decide) toyC toyC_on 2 7 ⟨by decide, by decide⟩ ⟨by decide, by decide⟩ (by decide) (by decide) none false⟩

theorem toyQ_rep : ∃ g, PJRep 11 1 6 ⊤ toyQ g :=
  ⟨_, pjRep_of_affine (by decide) toyC toyC_on 3 6 ⟨by decide, by decide⟩ ⟨by decide, by decide⟩ (by decide) (by decide) none false⟩

theorem toy_inRange3 {x y z : ℤ} (h : (0 ≤ x ∧ x < 11) ∧ (0 ≤ y ∧ y < 11) ∧ (0 ≤ z ∧ z < 11)) :
    InRange3 11 (x, y, z) := h

theorem toyG_with {g} (hg : PJRep 11 1 6 ⊤ toyG g) (o : Option ℤ) (gen : Bool) :
    PJRep 11 1 6 ⊤ { toyG with order := o, generator := gen } g :=
  ⟨hg.onCurve, hg.inRange, hg.good⟩

theorem naf_13 : naf 13 = [1, 0, -1, 0, 1] := by
  simp [Naf.naf_of_ne_zero, Naf.naf_zero, nafStep, pmod, pdiv]

theorem toy_13G : pjMul toyG 13 = .ok .infinity := by
  simp only [pjMul, pjMulWith, naf_13, toyG, truthy, maybePrecompute]
  decide

theorem toyG_order_none {g : Grp ((1 : ℤ) : ZMod 11) ((6 : ℤ) : ZMod 11)} :
    ∀ n, truthy toyG.order = some n → n • g = 0 := by
  intro n hn; simp [toyG, truthy] at hn

/-- the model evaluates `G * 13` to INFINITY, and `*` is correct -/
theorem toyG_order {g} (hg : PJRep 11 1 6 ⊤ toyG g) : (13 : ℤ) • g = 0 := by
  obtain ⟨R, e, hR⟩ := pjMul_naf_correct (by decide) toy_n2t hg rfl toyG_order_none 13
  rw [show pjMulWith [] toyG 13 = pjMul toyG 13 from rfl, toy_13G] at e
  cases e
  exact hR

end Jac
