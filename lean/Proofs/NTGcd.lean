import Model.NumberTheory
import Mathlib.Data.Nat.GCD.Basic
import Mathlib.Data.Int.GCD
import Mathlib.Tactic.Ring
import Mathlib.Algebra.Order.Ring.Int
/-! gcd / lcm of any number of natural arguments (C16) -/
namespace NTProofs
open NT

def gcdList (l : List Nat) : Nat := l.foldr Nat.gcd 0
def lcmList (l : List Nat) : Nat := l.foldr Nat.lcm 1

theorem gcdList_dvd : (l : List Nat) → ∀ x ∈ l, gcdList l ∣ x
  | [] => nofun
  | a :: r => List.forall_mem_cons.mpr
    ⟨Nat.gcd_dvd_left a _, fun x hx => (Nat.gcd_dvd_right a _).trans (gcdList_dvd r x hx)⟩

theorem dvd_gcdList : (l : List Nat) → (d : Nat) → (∀ x ∈ l, d ∣ x) → d ∣ gcdList l
  | [], d, _ => dvd_zero d
  | a :: r, d, h => Nat.dvd_gcd (h a List.mem_cons_self) (dvd_gcdList r d fun x hx => h x (List.mem_cons_of_mem a hx))

theorem dvd_lcmList : (l : List Nat) → ∀ x ∈ l, x ∣ lcmList l
  | [] => nofun
  | a :: r => List.forall_mem_cons.mpr
    ⟨Nat.dvd_lcm_left a _, fun x hx => (dvd_lcmList r x hx).trans (Nat.dvd_lcm_right a _)⟩

theorem lcmList_dvd : (l : List Nat) → (m : Nat) → (∀ x ∈ l, x ∣ m) → lcmList l ∣ m
  | [], m, _ => one_dvd m
  | a :: r, m, h => Nat.lcm_dvd (h a List.mem_cons_self) (lcmList_dvd r m fun x hx => h x (List.mem_cons_of_mem a hx))

theorem gcd2_eq (a b : Int) : gcd2 a b = (Nat.gcd a.natAbs b.natAbs : Nat) := rfl

/-- `lcm2(a, b)`: 0 if an argument is 0, otherwise `(a*b) // gcd` — magnitude lcm(|a|, |b|), sign of `a·b` -/
theorem lcm2_int (a b : Int) :
    ∃ v : Int, NT.lcm2 a b = .ok v ∧ v.natAbs = Nat.lcm a.natAbs b.natAbs ∧ (0 < a * b → 0 < v) ∧ (a * b < 0 → v < 0) ∧
      (a * b = 0 → v = 0) := by
  unfold NT.lcm2 Gen.NT.lcm2
  by_cases ha : a = 0
  · subst ha; exact ⟨0, by simp, by simp, by simp, by simp, by simp⟩
  by_cases hb : b = 0
  · subst hb; exact ⟨0, by simp [ha], by simp, by simp, by simp, by simp⟩
  have hgpos : 0 < Nat.gcd a.natAbs b.natAbs := Nat.gcd_pos_of_pos_left _ (Int.natAbs_pos.mpr ha)
  have hg : ¬ gcd2 a b = 0 := by rw [gcd2_eq]; omega
  simp only [ha, hb, decide_false, Bool.or_self, Bool.false_eq_true, ↓reduceIte, hg]
  have hdvd : gcd2 a b ∣ a * b := by
    rw [gcd2_eq]
    exact Dvd.dvd.mul_right (Int.natCast_dvd.mpr (Nat.gcd_dvd_left _ _)) b
  obtain ⟨k, hk⟩ := hdvd
  have hgp : (0 : Int) < gcd2 a b := by rw [gcd2_eq]; omega
  have hdiv : Int.fdiv (a * b) (gcd2 a b) = k := by
    rw [Int.fdiv_eq_ediv_of_nonneg _ (le_of_lt hgp), hk, Int.mul_ediv_cancel_left _ (ne_of_gt hgp)]
  rw [hdiv]
  refine ⟨k, rfl, ?_, ?_, ?_, ?_⟩
  · have h1 : (a * b).natAbs = (gcd2 a b).natAbs * k.natAbs := by rw [hk, Int.natAbs_mul]
    rw [Int.natAbs_mul, gcd2_eq, Int.natAbs_natCast] at h1
    have h2 := Nat.gcd_mul_lcm a.natAbs b.natAbs
    have : Nat.gcd a.natAbs b.natAbs * k.natAbs = Nat.gcd a.natAbs b.natAbs * Nat.lcm a.natAbs b.natAbs := by
      rw [← h1, h2]
    exact Nat.eq_of_mul_eq_mul_left hgpos this
  · intro h; rw [hk] at h; exact (mul_pos_iff_of_pos_left hgp).mp h
  · intro h; rw [hk] at h; exact neg_of_mul_neg_right h hgp.le
  · intro h
    rcases mul_eq_zero.mp h with h | h
    · exact absurd h ha
    · exact absurd h hb

theorem gcd2_nat (a b : Nat) : gcd2 a b = (Nat.gcd a b : Nat) := by
  simp [gcd2, Int.gcd_natCast_natCast]

theorem lcm2_nat (a b : Nat) : lcm2 a b = .ok ((Nat.lcm a b : Nat) : Int) := by
  obtain ⟨v, hv, habs, hpos, -, hzero⟩ := lcm2_int a b
  have hv0 : 0 ≤ v := by
    rcases (mul_nonneg (Int.natCast_nonneg a) (Int.natCast_nonneg b)).eq_or_lt with h | h
    · exact (hzero h.symm).ge
    · exact (hpos h).le
  rw [hv, ← Int.natAbs_of_nonneg hv0, habs, Int.natAbs_natCast, Int.natAbs_natCast]

theorem foldl_gcd2 (r : List Nat) (x : Nat) :
    (r.map (Nat.cast : Nat → Int)).foldl gcd2 (x : Int) = ((Nat.gcd x (gcdList r) : Nat) : Int) := by
  induction r generalizing x with
  | nil => simp [gcdList]
  | cons a r ih =>
    simp only [List.map_cons, List.foldl_cons, gcd2_nat, ih, gcdList, List.foldr_cons, Nat.gcd_assoc]

theorem foldl_lcm2 (r : List Nat) (x : Nat) :
    (r.map (Nat.cast : Nat → Int)).foldlM lcm2 (x : Int) = .ok ((Nat.lcm x (lcmList r) : Nat) : Int) := by
  induction r generalizing x with
  | nil => simp [lcmList, pure, Except.pure]
  | cons a r ih =>
    simp only [List.map_cons, List.foldlM_cons, lcm2_nat, bind, Except.bind, ih, lcmList, List.foldr_cons, Nat.lcm_assoc]

theorem gcd_both (l : List Nat) (hl : l ≠ []) :
    NT.gcd (.sep (l.map Nat.cast)) = .ok ((gcdList l : Nat) : Int) ∧
    NT.gcd (.iter (l.map Nat.cast)) = .ok ((gcdList l : Nat) : Int) := by
  match l, hl with
  | [x], _ => simp [NT.gcd, dispatch, reduce1, gcdList]
  | x :: y :: r, _ =>
    have := foldl_gcd2 (y :: r) x
    simp only [List.map_cons] at this
    simp only [NT.gcd, dispatch, reduce1, List.map_cons, this, gcdList, List.foldr_cons, and_self]

theorem lcm_both (l : List Nat) (hl : l ≠ []) :
    NT.lcm (.sep (l.map Nat.cast)) = .ok ((lcmList l : Nat) : Int) ∧
    NT.lcm (.iter (l.map Nat.cast)) = .ok ((lcmList l : Nat) : Int) := by
  match l, hl with
  | [x], _ => simp [NT.lcm, reduce1E, lcmList, pure, Except.pure]
  | x :: y :: r, _ =>
    have := foldl_lcm2 (y :: r) x
    simp only [List.map_cons] at this
    simp only [NT.lcm, reduce1E, List.map_cons, this, lcmList, List.foldr_cons, and_self]

end NTProofs
