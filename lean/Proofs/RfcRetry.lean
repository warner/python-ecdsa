import Model.Rfc6979
/-!
# Proofs.RfcRetry — the retry loop of `sign_digest_deterministic`, and independence of all results from the fuel
-/
namespace Rfc
open Rfc6979

theorem signDetLoop_ok {σ : Type} {genK : Int → Option (Res Nat)} {sign : Nat → Res σ} {fuel : Nat} {r0 : Int} {sig : σ}
    (h : signDetLoop genK sign fuel r0 = some (.ok sig)) :
    ∃ (m : Nat) (k : Nat), (∀ i : Nat, i < m → ∃ ki, genK (r0 + i) = some (.ok ki) ∧ sign ki = .error .rsZero) ∧
      genK (r0 + m) = some (.ok k) ∧ sign k = .ok sig := by
  induction fuel generalizing r0 with
  | zero => simp [signDetLoop] at h
  | succ f ih =>
    unfold signDetLoop at h
    split at h
    · cases h
    · cases h
    · rename_i k hk
      split at h
      · rename_i hs
        obtain ⟨m, k', hrej, hgen, hsig⟩ := ih h
        refine ⟨m + 1, k', ?_, ?_, hsig⟩
        · intro i hi
          cases i with
          | zero => exact ⟨k, by simpa using hk, hs⟩
          | succ i =>
            obtain ⟨ki, h1, h2⟩ := hrej i (by omega)
            refine ⟨ki, ?_, h2⟩
            rw [← h1]; congr 1; push_cast; omega
        · rw [← hgen]; congr 1; push_cast; omega
      · rename_i hns
        simp only [Option.some.injEq] at h
        exact ⟨0, k, fun i hi => absurd hi (by omega), by simpa using hk, h⟩

theorem hLoop_mono (hmac : Bytes → Bytes → Bytes) (order qlen rolen : Nat) (fuel : Nat) :
    ∀ (K V : Bytes) (retry : Int) (r : Res Nat), hLoop hmac order qlen rolen fuel K V retry = some r →
      hLoop hmac order qlen rolen (fuel + 1) K V retry = some r := by
  induction fuel with
  | zero => intro K V retry r h; cases h
  | succ f ih =>
    intro K V retry r
    -- both sides are the same decision tree, with the recursive calls at `f` and `f + 1`
    rw [hLoop, hLoop.eq_2 (fuel := f + 1)]
    split
    · exact id
    · split
      · exact id
      · split
        · split
          · exact id
          · exact ih _ _ _ _
        · exact ih _ _ _ _

theorem hLoop_mono_le (hmac : Bytes → Bytes → Bytes) (order qlen rolen : Nat) {a b : Nat} (hab : a ≤ b)
    (K V : Bytes) (retry : Int) (r : Res Nat) (h : hLoop hmac order qlen rolen a K V retry = some r) :
    hLoop hmac order qlen rolen b K V retry = some r := by
  induction hab with
  | refl => exact h
  | step _ ih => exact hLoop_mono _ _ _ _ _ _ _ _ _ ih

theorem generateK_mono_le (hmac : Bytes → Bytes → Bytes) (holen order secexp : Nat) (data : Bytes) (retry : Int) (extra : Bytes)
    {a b : Nat} (hab : a ≤ b) (r : Res Nat) (h : generateK hmac holen order secexp data retry extra a = some r) :
    generateK hmac holen order secexp data retry extra b = some r := by
  revert h
  unfold generateK
  simp only
  split
  · exact id
  · split
    · exact id
    · exact hLoop_mono_le _ _ _ _ hab _ _ _ _

theorem signDetLoop_mono {σ : Type} {genK genK' : Int → Option (Res Nat)} {sign : Nat → Res σ}
    (hg : ∀ retry r, genK retry = some r → genK' retry = some r) (fuel : Nat) :
    ∀ (fuel' : Nat) (r0 : Int) (r : Res σ), fuel ≤ fuel' → signDetLoop genK sign fuel r0 = some r →
      signDetLoop genK' sign fuel' r0 = some r := by
  induction fuel with
  | zero => intro fuel' r0 r _ h; cases h
  | succ f ih =>
    intro fuel' r0 r hle
    obtain ⟨f', rfl⟩ : ∃ f', fuel' = f' + 1 := ⟨fuel' - 1, by omega⟩
    rw [signDetLoop, signDetLoop]
    cases hk : genK r0 with
    | none => intro h; cases h
    | some rk =>
      rw [hg r0 rk hk]
      cases rk with
      | error e => exact id
      | ok k =>
        simp only
        split
        · exact ih f' _ _ (by omega)
        · exact id
end Rfc
