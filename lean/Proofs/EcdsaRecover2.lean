import Proofs.EcdsaRecover
/-!
# Proofs.EcdsaRecover2 — what C14 adds to the structure theorem of recovery
-/
namespace Ecdsa

variable {P : Type} {𝔾 : Type} [AddCommGroup 𝔾]
variable {ops : PointOps P} {G : 𝔾} {den : P → 𝔾} {xc : 𝔾 → Option ℤ} {valid : P → Prop}

/-- the candidate built from the true nonce point is the signer's key: `r⁻¹(s•(k•G) − e•G) = d•G` -/
theorem candidate_is_key {G : 𝔾} {n : ℤ} (hn : n • G = 0) (d k e r s ri : ℤ)
    (hsk : s * k ≡ e + r * d [ZMOD n]) (hri : ri * r ≡ 1 [ZMOD n]) :
    ri • (s • (k • G) + ((-e) % n) • G) = d • G := by
  rw [← mul_zsmul, ← add_zsmul, ← mul_zsmul]
  apply zsmul_congr_mod hn
  calc ri * (s * k + -e % n) ≡ ri * ((e + r * d) + -e) [ZMOD n] := (hsk.add (Int.mod_modEq _ _)).mul_left _
    _ = (ri * r) * d := by ring
    _ ≡ 1 * d [ZMOD n] := hri.mul_right _
    _ = d := one_mul d

theorem mapM_length {α β : Type} (f : α → Res β) : ∀ (l : List α) (l' : List β), l.mapM f = .ok l' → l'.length = l.length
  | [], l', h => by cases h; rfl
  | a :: t, l', h => by
    rw [List.mapM_cons] at h
    obtain ⟨b, -, h⟩ := Res.bind_ok h
    obtain ⟨t', ht, h⟩ := Res.bind_ok h
    cases h
    simp [mapM_length f t t' ht]

end Ecdsa
