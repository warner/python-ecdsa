import Proofs.EcdsaKeys
import Proofs.EcdsaRoundTrip
/-!
# Proofs.EcdsaRecoverBase — what public-key recovery needs of the point layer and of the square root,
the candidate ordinates, and the group algebra of recovery
-/
namespace Ecdsa

variable {P : Type} {𝔾 : Type} [AddCommGroup 𝔾]

def OnC (p a b x y : ℤ) : Prop := (y * y - (x ^ 3 + a * x + b)) % p = 0

/-- additional requirements for `Signature.recover_public_keys`: the constructor `PointJacobi(curve, x, y, 1, n)` on
in-range curve points, the curve equation behind `contains_point` and the x-coordinate, and canonical outputs -/
structure RecoverOpsCorrect (ops : PointOps P) (G : 𝔾) (den : P → 𝔾) (xc : 𝔾 → Option ℤ) (valid : P → Prop) : Prop
    extends PointOpsCorrect ops G den xc valid where
  containsPoint_iff : ∀ x y, ops.containsPoint x y = true ↔ OnC ops.p ops.a ops.b x y
  /-- a reduced pair on the curve **whose abscissa is that of a multiple of G** makes a valid, non-zero point object with
  that abscissa (no cofactor assumption: such a pair is ±(k•G)) -/
  mkPoint_valid : ∀ x y, 0 ≤ x → x < ops.p → 0 ≤ y → y < ops.p → ops.containsPoint x y = true →
    (∃ k : ℤ, xc (k • G) = some x) →
    valid (ops.mkPoint x y) ∧ den (ops.mkPoint x y) ≠ 0 ∧ xc (den (ops.mkPoint x y)) = some x
  mkPoint_neg : ∀ x y y', 0 ≤ x → x < ops.p → 0 ≤ y → y < ops.p → 0 ≤ y' → y' < ops.p → ops.containsPoint x y = true →
    (∃ k : ℤ, xc (k • G) = some x) →
    (y + y') % ops.p = 0 → den (ops.mkPoint x y') = - den (ops.mkPoint x y)
  xc_inj : ∀ R R', R ≠ 0 → xc R = xc R' → R' = R ∨ R' = -R
  xc_curve : ∀ R x, xc R = some x → ∃ y, OnC ops.p ops.a ops.b x y
  on_curve : ∀ A, valid A → den A ≠ 0 → ∀ x y, ops.xOf A = .ok x → ops.yOf A = .ok y → ops.containsPoint x y = true

/-- what recovery needs of `numbertheory.square_root_mod_prime(a, p)` for `0 ≤ a < p`: a root whenever there is one -/
def SqrtSpec (sqrt : ℤ → ℤ → Res ℤ) (p : ℤ) : Prop :=
  ∀ a, 0 ≤ a → a < p → (∃ y : ℤ, (y * y - a) % p = 0) →
    ∃ β, sqrt a p = .ok β ∧ 0 ≤ β ∧ β < p ∧ (β * β - a) % p = 0

theorem emod_zero_iff_modEq (p u v : ℤ) : (u - v) % p = 0 ↔ u ≡ v [ZMOD p] := by
  rw [Int.modEq_comm, Int.modEq_iff_dvd]; exact ⟨Int.dvd_of_emod_eq_zero, Int.emod_eq_zero_of_dvd⟩

theorem alpha_modEq (x p a b : ℤ) (hp : 0 < p) :
    Gen.Ecdsa.recover_alpha x p a b ≡ x ^ 3 + a * x + b [ZMOD p] ∧
    0 ≤ Gen.Ecdsa.recover_alpha x p a b ∧ Gen.Ecdsa.recover_alpha x p a b < p := by
  have h1 : Gen.Ecdsa.recover_alpha x p a b = ((x ^ 3 % p) + a * x + b) % p := by
    unfold Gen.Ecdsa.recover_alpha
    change pmod (pmod _ _ + _ + _) _ = _
    rw [pmod_eq_emod hp, pmod_eq_emod hp]
  rw [h1]
  refine ⟨?_, Int.emod_nonneg _ hp.ne', Int.emod_lt_of_pos _ hp⟩
  exact (Int.mod_modEq _ _).trans (((Int.mod_modEq _ _).add_right _).add_right _)

theorem onC_of_add_eq_zero {p a b x y y' : ℤ} (h : OnC p a b x y) (hs : (y + y') % p = 0) : OnC p a b x y' := by
  have hneg : y' ≡ -y [ZMOD p] := (emod_zero_iff_modEq p y' (-y)).mp (by rwa [sub_neg_eq_add, add_comm])
  unfold OnC at h ⊢
  rw [emod_zero_iff_modEq] at h ⊢
  exact (by simpa using hneg.mul hneg : y' * y' ≡ y * y [ZMOD p]).trans h

theorem candidate_ordinates (x p a b β : ℤ) (hp : 0 < p) (h0 : 0 ≤ β) (h1 : β < p) (hβ : OnC p a b x β) :
    let y := Gen.Ecdsa.recover_y β p
    let y2 := Gen.Ecdsa.recover_y2 y p
    0 ≤ y ∧ y < p ∧ OnC p a b x y ∧ 0 ≤ y2 ∧ y2 < p ∧ OnC p a b x y2 ∧ (y + y2) % p = 0 := by
  intro y y2
  have hy : 0 ≤ y ∧ y < p ∧ OnC p a b x y := by
    show 0 ≤ Gen.Ecdsa.recover_y β p ∧ Gen.Ecdsa.recover_y β p < p ∧ OnC p a b x (Gen.Ecdsa.recover_y β p)
    unfold Gen.Ecdsa.recover_y
    split
    · exact ⟨h0, h1, hβ⟩
    · rename_i h
      -- `β` is odd, hence not 0, and `p − β` is again in range
      have : β ≠ 0 := by rintro rfl; simp at h
      exact ⟨by omega, by omega, onC_of_add_eq_zero hβ (by rw [add_sub_cancel, Int.emod_self])⟩
  have hy2 : y2 = (-y) % p := pmod_eq_emod hp
  have hsum : (y + y2) % p = 0 := by rw [hy2, Int.add_emod_emod, add_neg_cancel, Int.zero_emod]
  exact ⟨hy.1, hy.2.1, hy.2.2, hy2 ▸ Int.emod_nonneg _ hp.ne', hy2 ▸ Int.emod_lt_of_pos _ hp,
    onC_of_add_eq_zero hy.2.2 hsum, hsum⟩

variable {ops : PointOps P} {G : 𝔾} {den : P → 𝔾} {xc : 𝔾 → Option ℤ} {valid : P → Prop}

theorem sqrt_step (C : RecoverOpsCorrect ops G den xc valid) (sqrt : ℤ → ℤ → Res ℤ) (hsq : SqrtSpec sqrt ops.p)
    (R : 𝔾) (x : ℤ) (hx : xc R = some x) :
    ∃ β, sqrt (Gen.Ecdsa.recover_alpha x ops.p ops.a ops.b) ops.p = .ok β ∧ 0 ≤ β ∧ β < ops.p ∧ OnC ops.p ops.a ops.b x β := by
  have hp : 0 < ops.p := by have := C.xc_range R x hx; omega
  obtain ⟨y, hy⟩ := C.xc_curve R x hx
  obtain ⟨hα, h0, h1⟩ := alpha_modEq x ops.p ops.a ops.b hp
  have : (y * y - Gen.Ecdsa.recover_alpha x ops.p ops.a ops.b) % ops.p = 0 := by
    unfold OnC at hy
    rw [emod_zero_iff_modEq] at hy ⊢
    exact hy.trans hα.symm
  obtain ⟨β, hβ, b0, b1, hb⟩ := hsq _ h0 h1 ⟨y, this⟩
  refine ⟨β, hβ, b0, b1, ?_⟩
  unfold OnC
  rw [emod_zero_iff_modEq] at hb ⊢
  exact hb.trans hα

/-- recovered candidate verifies: `Q = r⁻¹(sR − eG)` ⇒ `(e/s)G + (r/s)Q = R` -/
theorem recover_core {G R : 𝔾} {n : ℤ} (hn : n • G = 0) (hR : n • R = 0) (e r s w ri : ℤ)
    (hw : w * s ≡ 1 [ZMOD n]) (hri : ri * r ≡ 1 [ZMOD n]) :
    ((e * w) % n) • G + ((r * w) % n) • (ri • (s • R + ((-e) % n) • G)) = R := by
  -- collect the coefficients of `R` and of `G`: they are `1` and `0` modulo `n`
  have cR : (r * w % n * (ri * s)) • R = (1 : ℤ) • R := zsmul_congr_mod hR <| by
    calc r * w % n * (ri * s) ≡ r * w * (ri * s) [ZMOD n] := (Int.mod_modEq _ _).mul_right _
      _ = (ri * r) * (w * s) := by ring
      _ ≡ 1 * 1 [ZMOD n] := hri.mul hw
      _ = 1 := mul_one 1
  have cG : (e * w % n + r * w % n * (ri * (-e % n))) • G = (0 : ℤ) • G := zsmul_congr_mod hn <| by
    calc e * w % n + r * w % n * (ri * (-e % n)) ≡ e * w + r * w * (ri * -e) [ZMOD n] :=
          (Int.mod_modEq _ _).add ((Int.mod_modEq _ _).mul ((Int.mod_modEq _ _).mul_left ri))
      _ = e * w - (ri * r) * (e * w) := by ring
      _ ≡ e * w - 1 * (e * w) [ZMOD n] := (hri.mul_right _).sub_left _
      _ = 0 := by ring
  simp only [zsmul_add, ← mul_zsmul]
  rw [add_left_comm, ← add_zsmul, cG, cR, zero_zsmul, add_zero, one_zsmul]

end Ecdsa
