import Proofs.CertAffine
import Generated.Curves
/-!
# Proofs.NamedChecks — kernel evaluation on the GENERATED curve table (`Gen.curveTable`, rewritten from `curves.py` /
`ecdsa.py` on every run): for each of the 17 rows p > 2, n odd, base point reduced and on the curve, 4a³ + 27b² ≢ 0 mod p,
and **n • (Gx, Gy) = ∞** by the certified reference multiplication `CertAff.mul`, run on its copy over ℕ.
-/
namespace Named

/-- `a` is negative on several curves; the copy of the multiplication over ℕ takes its residue -/
def rowChecks (r : Gen.CurveRow) : Bool :=
  decide (2 < r.p ∧ 1 < r.n ∧ r.n % 2 = 1 ∧ r.gx < r.p ∧ 0 < r.gy ∧ r.gy < r.p ∧
    ((r.gy : Int) * r.gy - ((r.gx : Int) ^ 3 + r.a * r.gx + r.b)) % (r.p : Int) = 0 ∧
    (4 * r.a ^ 3 + 27 * r.b ^ 2) % (r.p : Int) ≠ 0 ∧
    CertAff.mulIsZeroN r.p (r.a % r.p).toNat r.n r.gx r.gy = true)

theorem all_rows_checked : ∀ r ∈ Gen.curveTable, rowChecks r = true := by decide +kernel

theorem table_length : Gen.curveTable.length = 17 := by decide +kernel

end Named
