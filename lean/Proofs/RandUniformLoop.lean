import Proofs.RandUniform
import Proofs.RandLoop
/-!
# Proofs.RandUniformLoop — exact uniformity of the value returned by the WHOLE rejection loop of `randrange`

Counting form (no measure theory): among all sequences of `k` chunks of the requested length — i.e. under `k`
independent uniform chunks — the number of sequences on which `randrange` returns `t` (within these `k` draws) is
`loopCount order k`, a number that does not depend on `t ∈ [1, order − 1]`.
-/
namespace Rand
open Bits

/-- `oneDraw` of the first chunk that is not rejected -/
def drawSeq (order : Int) : List Bytes → Option Nat
  | [] => none
  | c :: rest =>
    match oneDraw order c with
    | .ok (some v) => some v
    | .ok none => drawSeq order rest
    | .error _ => none

def returnsValue (r : Option (Res (Nat × List Nat))) (t : Nat) : Bool :=
  match r with
  | some (.ok (v, _)) => v == t
  | _ => false

theorem chunkEntropy_snoc (cs : List Bytes) (hist : List Nat) (u : Nat) :
    chunkEntropy cs (hist ++ [u]) = match cs[hist.length]? with | some c => .ok c | none => .error .indexError := by
  unfold chunkEntropy
  simp
  cases cs[hist.length]? <;> rfl

theorem randrangeLoop_chunkEntropy (cs : List Bytes) (order : Int) (t : Nat) (fuel : Nat) :
    ∀ (hist : List Nat), cs.length - hist.length ≤ fuel →
      returnsValue (randrangeLoop (chunkEntropy cs) order fuel hist) t = (drawSeq order (cs.drop hist.length) == some t) := by
  induction fuel with
  | zero =>
    intro hist hf
    have : cs.drop hist.length = [] := List.drop_eq_nil_of_le (by omega)
    simp [randrangeLoop, returnsValue, this, drawSeq]
  | succ f ih =>
    intro hist hf
    unfold randrangeLoop
    simp only
    rw [chunkEntropy_snoc]
    cases hc : cs[hist.length]? with
    | none =>
      have : cs.drop hist.length = [] := List.drop_eq_nil_of_le (by
        rcases Nat.lt_or_ge hist.length cs.length with h | h
        · rw [List.getElem?_eq_getElem h] at hc; cases hc
        · exact h)
      simp [returnsValue, this, drawSeq]
    | some c =>
      have hlt : hist.length < cs.length := by
        rcases Nat.lt_or_ge hist.length cs.length with h | h
        · exact h
        · rw [List.getElem?_eq_none h] at hc; cases hc
      have hdrop : cs.drop hist.length = c :: cs.drop (hist.length + 1) := by
        rw [List.drop_eq_getElem_cons hlt]
        rw [List.getElem?_eq_getElem hlt] at hc
        cases hc; rfl
      rw [hdrop, drawSeq]
      simp only
      cases hd : oneDraw order c with
      | error e => simp [returnsValue]
      | ok o =>
        cases o with
        | some v => simp [returnsValue]
        | none =>
          simp only
          have := ih (hist ++ [upper256 order]) (by simp; omega)
          simpa using this

theorem randrange_chunkEntropy (cs : List Bytes) (order : Int) (ho : 1 < order) (t : Nat) (fuel : Nat) (hf : cs.length ≤ fuel) :
    returnsValue (randrange (chunkEntropy cs) order [] fuel) t = (drawSeq order cs == some t) := by
  unfold randrange
  rw [if_pos ho]
  have := randrangeLoop_chunkEntropy cs order t fuel [] (by simpa using hf)
  simpa using this

def allSeqs (l : Nat) : Nat → List (List Bytes)
  | 0 => [[]]
  | k+1 => (allChunks l).flatMap fun c => (allSeqs l k).map (c :: ·)

theorem length_flatMap_map {α β : Type} (l : List α) (S : List β) (f : α → β → β) :
    (l.flatMap fun c => S.map (f c)).length = l.length * S.length := by
  induction l with
  | nil => simp
  | cons a t ih => simp [List.flatMap_cons, ih, Nat.succ_mul, Nat.add_comm]

theorem allSeqs_length (l k : Nat) : (allSeqs l k).length = (256 ^ l) ^ k := by
  induction k with
  | zero => simp [allSeqs]
  | succ k ih => rw [allSeqs, length_flatMap_map, ih, allChunks_length, Nat.pow_succ, Nat.mul_comm]

theorem mem_allSeqs (l k : Nat) (cs : List Bytes) : cs ∈ allSeqs l k ↔ cs.length = k ∧ ∀ c ∈ cs, c.length = l := by
  induction k generalizing cs with
  | zero =>
    simp only [allSeqs, List.mem_singleton]
    constructor
    · rintro rfl; simp
    · rintro ⟨h, _⟩; exact List.length_eq_zero_iff.1 h
  | succ k ih =>
    simp only [allSeqs, List.mem_flatMap, List.mem_map]
    constructor
    · rintro ⟨c, hc, s, hs, rfl⟩
      have := (ih s).1 hs
      refine ⟨by simp [this.1], ?_⟩
      intro c' hc'
      rcases List.mem_cons.1 hc' with rfl | h
      · exact (mem_allChunks l _).1 hc
      · exact this.2 c' h
    · rintro ⟨hlen, hall⟩
      cases cs with
      | nil => simp at hlen
      | cons c s =>
        refine ⟨c, (mem_allChunks l c).2 (hall c (by simp)), s, (ih s).2 ⟨by simpa using hlen, fun c' h => hall c' (by simp [h])⟩, rfl⟩

def rejected (order : Int) : Nat :=
  ((allChunks (upper256 order)).filter (fun c => decide (oneDraw order c = .ok none))).length

/-- the number of `k`-chunk sequences on which the loop returns a given target, defined without reference to the target -/
def loopCount (order : Int) : Nat → Nat
  | 0 => 0
  | k+1 => perTarget order * (256 ^ upper256 order) ^ k + rejected order * loopCount order k

theorem count_step (order : Int) (t : Nat) (S : List (List Bytes)) (l : List Bytes) :
    ((l.flatMap fun c => S.map (c :: ·)).filter (fun cs => drawSeq order cs == some t)).length =
      (l.filter (fun c => decide (oneDraw order c = .ok (some t)))).length * S.length +
      (l.filter (fun c => decide (oneDraw order c = .ok none))).length * (S.filter (fun cs => drawSeq order cs == some t)).length := by
  induction l with
  | nil => simp
  | cons c l ih =>
    rw [List.flatMap_cons, List.filter_append, List.length_append, ih, List.filter_map, List.length_map]
    have hhead : (S.filter ((fun cs => drawSeq order cs == some t) ∘ (c :: ·))).length =
        (if oneDraw order c = .ok (some t) then S.length else 0) +
        (if oneDraw order c = .ok none then (S.filter (fun cs => drawSeq order cs == some t)).length else 0) := by
      cases hd : oneDraw order c with
      | error e => simp [Function.comp_def, drawSeq, hd]
      | ok o =>
        cases o with
        | none => simp [Function.comp_def, drawSeq, hd]
        | some v =>
          by_cases hv : v = t
          · subst hv; simp [Function.comp_def, drawSeq, hd]
          · simp [Function.comp_def, drawSeq, hd, hv]
    rw [hhead]
    simp only [List.filter_cons]
    by_cases h1 : oneDraw order c = .ok (some t)
    · have h2 : ¬ oneDraw order c = .ok none := by rw [h1]; simp
      simp only [h1, decide_true, if_true, List.length_cons]
      rw [Nat.succ_mul]; simp; omega
    · by_cases h2 : oneDraw order c = .ok none
      · simp only [h2, decide_true, if_true, List.length_cons]
        rw [Nat.succ_mul]; simp; omega
      · simp only [h1, h2, decide_false, if_false]; simp

theorem count_loop (order : Int) (t : Nat) (h1 : 1 ≤ t) (h2 : (t : Int) < order) (k : Nat) :
    ((allSeqs (upper256 order) k).filter (fun cs => drawSeq order cs == some t)).length = loopCount order k := by
  induction k with
  | zero => simp [allSeqs, drawSeq, loopCount]
  | succ k ih =>
    rw [allSeqs, count_step, ih, loopCount, count_target order t h1 h2, allSeqs_length]
    rfl

end Rand
