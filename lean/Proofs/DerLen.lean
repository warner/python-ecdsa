import Proofs.DerDigits
/-!
# Proofs.DerLen — the DER length codec: `read_length` inverts `encode_length` on `l < 256^127`,
accepts only the encoder's output, fails only with `UnexpectedDER`.  Reader and encoder are each characterised by
long-form digit strings (`LongDigits`); the round trip and uniqueness follow.
-/
namespace Der

theorem idx_zero_cons (b : UInt8) (t : Bytes) : idx (b :: t) 0 = .ok b := rfl
theorem idx_one_cons (a b : UInt8) (t : Bytes) : idx (a :: b :: t) 1 = .ok b := rfl

theorem pow127_ge_128 : 128 ≤ 256 ^ 127 := by decide

theorem encodeLength_long (l : Nat) (h : 128 ≤ l) :
    encodeLength l = UInt8.ofNat (0x80 ||| (hexBytes l).length) :: hexBytes l := by
  unfold encodeLength; rw [if_neg (by omega)]

theorem encodeLength_short (l : Nat) (h : l < 128) : encodeLength l = [UInt8.ofNat l] := by
  unfold encodeLength; rw [if_pos (by omega)]

theorem encodeLength_length_pos (l : Nat) : 0 < (encodeLength l).length := by
  unfold encodeLength; split <;> simp

/-- the length octets that follow the first one in the long form: no leading zero, and a value the short form
cannot hold -/
def LongDigits (ds : Bytes) : Prop := NoLead0 ds ∧ 128 ≤ beVal ds

/-- the test `read_length` makes on `msb`, the first of its `llen` length octets, says they are long-form digits -/
theorem longDigits_cons_iff (msb : UInt8) (t : Bytes) :
    LongDigits (msb :: t) ↔ ¬ (msb = 0 ∨ ((msb :: t).length = 1 ∧ msb < 0x80)) := by
  have h80 := u8_x80
  constructor
  · intro ⟨hno, hge⟩ hc
    rcases hc with hc | ⟨hc1, hc2⟩
    · exact hno msb t rfl hc
    · have : t = [] := List.length_eq_zero_iff.mp (by simpa using hc1)
      subst this
      rw [beVal_singleton] at hge
      rw [u8_lt_iff] at hc2
      omega
  · intro h
    have hmsb : msb ≠ 0 := fun hc => h (Or.inl hc)
    refine ⟨noLead_cons hmsb, ?_⟩
    cases t with
    | nil =>
      have : ¬ msb < 0x80 := fun hc => h (Or.inr ⟨rfl, hc⟩)
      rw [u8_lt_iff] at this
      rw [beVal_singleton]; omega
    | cons c t' =>
      -- two or more digits with a non-zero leading one are worth at least 256
      have hg := beVal_ge msb (c :: t') hmsb
      have : 256 ^ 1 ≤ 256 ^ (c :: t').length := Nat.pow_le_pow_right (by decide) (by simp)
      omega

theorem encodeLength_digits {ds : Bytes} (h : LongDigits ds) (hlen : ds.length ≤ 127) :
    encodeLength (beVal ds) = UInt8.ofNat (0x80 ||| ds.length) :: ds ∧ beVal ds < 256 ^ 127 := by
  have hne : ds ≠ [] := fun h0 => by subst h0; exact absurd h.2 (by decide)
  rw [encodeLength_long _ h.2, hexBytes_beVal ds h.1 hne]
  exact ⟨rfl, Nat.lt_of_lt_of_le (beVal_lt ds) (Nat.pow_le_pow_right (by decide) hlen)⟩

theorem encodeLength_split (l : Nat) (hge : 128 ≤ l) (hl : l < 256 ^ 127) :
    ∃ ds, encodeLength l = UInt8.ofNat (0x80 ||| ds.length) :: ds ∧ LongDigits ds ∧ ds.length ≤ 127 ∧ beVal ds = l := by
  have hv := beVal_hexBytes l
  refine ⟨hexBytes l, encodeLength_long l hge, ⟨?_, by rw [hv]; exact hge⟩, hexBytes_length_le l 127 (by decide) hl, hv⟩
  rw [hexBytes_pos l (by omega)]; exact beMin_noLead0 l

theorem readLength_empty : readLength [] = .error .unexpectedDER := rfl

theorem readLength_short (num : UInt8) (rest : Bytes) (h : num &&& 0x80 = 0) :
    readLength (num :: rest) = .ok ((num &&& 0x7f).toNat, 1) := by
  rw [readLength, if_pos h]

theorem readLength_long (num msb : UInt8) (t : Bytes) (h : num &&& 0x80 ≠ 0) :
    readLength (num :: msb :: t) =
      if (num &&& 0x7f).toNat = 0 ∨ (num &&& 0x7f).toNat > (msb :: t).length then .error .unexpectedDER
      else if msb = 0 ∨ ((num &&& 0x7f).toNat = 1 ∧ msb < 0x80) then .error .unexpectedDER
      else .ok (beVal ((msb :: t).take (num &&& 0x7f).toNat), 1 + (num &&& 0x7f).toNat) := by
  rw [readLength, if_neg h]
  simp only [idx_one_cons, bind, Except.bind]
  by_cases h0 : (num &&& 0x7f).toNat = 0
  · simp only [h0, true_or, if_true]
  · by_cases h1 : (num &&& 0x7f).toNat > (msb :: t).length
    · simp only [h0, h1, or_true, if_true, if_false]
    · simp only [h0, h1, or_self, if_false]

theorem readLength_long_nil (num : UInt8) (h : num &&& 0x80 ≠ 0) : readLength [num] = .error .unexpectedDER := by
  rw [readLength, if_neg h]
  by_cases h0 : (num &&& 0x7f).toNat = 0
  · simp only [h0, if_true]
  · have h1 : (num &&& 0x7f).toNat > ([] : Bytes).length := Nat.pos_of_ne_zero h0
    simp only [h0, h1, if_true, if_false]

theorem readLength_digits (num : UInt8) (ds rest : Bytes) (h : num &&& 0x80 ≠ 0)
    (hlen : ds.length = (num &&& 0x7f).toNat) (hd : LongDigits ds) :
    readLength (num :: (ds ++ rest)) = .ok (beVal ds, 1 + ds.length) := by
  match ds, hd with
  | [], hd => exact absurd hd.2 (by decide)
  | msb :: t, hd =>
    rw [List.cons_append, readLength_long num msb _ h, ← hlen, if_neg, if_neg ((longDigits_cons_iff msb t).mp hd),
      ← List.cons_append, List.take_left']
    · rfl
    · simp only [List.length_cons, List.length_append]; omega

theorem readLength_long_ok {num : UInt8} {rest : Bytes} {l k : Nat} (h : num &&& 0x80 ≠ 0)
    (hr : readLength (num :: rest) = .ok (l, k)) :
    ∃ ds r, rest = ds ++ r ∧ ds.length = (num &&& 0x7f).toNat ∧ LongDigits ds ∧ l = beVal ds ∧ k = 1 + ds.length := by
  match rest, hr with
  | [], hr => rw [readLength_long_nil num h] at hr; cases hr
  | msb :: t, hr =>
    rw [readLength_long num msb t h] at hr
    split at hr
    · cases hr
    · rename_i hll
      split at hr
      · cases hr
      · rename_i hmin
        cases hr
        generalize (num &&& 0x7f).toNat = llen at *
        obtain ⟨n', rfl⟩ : ∃ n', llen = n' + 1 := ⟨llen - 1, by omega⟩
        have hlen : ((msb :: t).take (n' + 1)).length = n' + 1 := by
          rw [List.length_take]; simp only [List.length_cons] at hll ⊢; omega
        refine ⟨(msb :: t).take (n' + 1), (msb :: t).drop (n' + 1), (List.take_append_drop ..).symm, hlen, ?_, rfl,
          by rw [hlen]⟩
        rw [List.take_succ_cons] at hlen ⊢
        exact (longDigits_cons_iff msb _).mpr (by rw [hlen]; exact hmin)

theorem readLength_err {s : Bytes} {e : PyErr} (h : readLength s = .error e) : e = .unexpectedDER := by
  match s, h with
  | [], h => cases h; rfl
  | num :: rest, h =>
    by_cases h0 : num &&& 0x80 = 0
    · rw [readLength_short num rest h0] at h; cases h
    · match rest, h with
      | [], h => rw [readLength_long_nil num h0] at h; cases h; rfl
      | msb :: t, h =>
        rw [readLength_long num msb t h0] at h
        split at h
        · cases h; rfl
        · split at h
          · cases h; rfl
          · cases h

theorem readLength_ok {s : Bytes} {l k : Nat} (h : readLength s = .ok (l, k)) :
    l < 256 ^ 127 ∧ k = (encodeLength l).length ∧ ∃ rest, s = encodeLength l ++ rest := by
  match s, h with
  | num :: rest, h =>
    by_cases h0 : num &&& 0x80 = 0
    · rw [readLength_short num rest h0] at h
      cases h
      have h1 := u8_low_lt num
      rw [encodeLength_short _ h1, u8_low_eq h0, UInt8.ofNat_toNat]
      exact ⟨Nat.lt_of_lt_of_le ((u8_top num).mp h0) pow127_ge_128, rfl, rest, rfl⟩
    · obtain ⟨ds, r, rfl, hlen, hd, rfl, rfl⟩ := readLength_long_ok h0 h
      have h1 := u8_low_lt num
      obtain ⟨henc, hlt⟩ := encodeLength_digits hd (by omega)
      rw [henc, hlen, u8_or80_low h0]
      exact ⟨hlt, by rw [List.length_cons, hlen]; omega, r, rfl⟩

theorem readLength_encodeLength (l : Nat) (hl : l < 256 ^ 127) (rest : Bytes) :
    readLength (encodeLength l ++ rest) = .ok (l, (encodeLength l).length) := by
  by_cases h : l < 128
  · have h0 := u8_top_ofNat h
    rw [encodeLength_short l h, List.singleton_append, readLength_short _ _ h0, u8_low_eq h0,
      u8_ofNat_toNat l (by omega)]
    rfl
  · obtain ⟨ds, henc, hd, hlen, rfl⟩ := encodeLength_split l (by omega) hl
    obtain ⟨hk1, hk2⟩ := u8_or80 (k := ds.length) (by omega)
    rw [henc, List.cons_append, readLength_digits _ ds rest hk1 hk2.symm hd, List.length_cons, Nat.add_comm]

theorem int2byte_of_range {k : Int} (h0 : 0 ≤ k) (h1 : k < 256) : int2byte k = .ok (UInt8.ofNat k.toNat) := by
  unfold int2byte; rw [if_pos ⟨h0, h1⟩]

theorem int2byte_natCast (n : Nat) : int2byte (n : Int) = if n < 256 then .ok (UInt8.ofNat n) else .error .other := by
  unfold int2byte
  by_cases h : n < 256
  · rw [if_pos (by omega), if_pos h, Int.toNat_natCast]
  · rw [if_neg (by omega), if_neg h]

theorem int2byte_nat (n : Nat) (h : n < 256) : int2byte (n : Int) = .ok (UInt8.ofNat n) := by
  rw [int2byte_natCast, if_pos h]

theorem int2byte_ok {n : Int} {b : UInt8} (h : int2byte n = .ok b) : 0 ≤ n ∧ n < 256 ∧ b = UInt8.ofNat n.toNat := by
  unfold int2byte at h; split at h
  · cases h; rename_i hh; exact ⟨hh.1, hh.2, rfl⟩
  · cases h

/-- `encode_length` in one test: it returns `encodeLength l` unless `int2byte(0x80 | llen)` raises -/
theorem encodeLengthPy_eq_ite (l : Nat) :
    encodeLengthPy l = if l < 0x80 ∨ 0x80 ||| (hexBytes l).length < 256 then .ok (encodeLength l) else .error .other := by
  unfold encodeLengthPy encodeLength
  simp only [int2byte_natCast]
  by_cases hl : l < 0x80
  · rw [if_pos hl, if_pos hl, if_pos (Or.inl hl), if_pos (by omega)]; rfl
  · rw [if_neg hl, if_neg hl]
    by_cases hb : 0x80 ||| (hexBytes l).length < 256
    · rw [if_pos hb, if_pos (Or.inr hb)]; rfl
    · rw [if_neg hb, if_neg (fun hc => hc.elim hl hb)]; rfl

theorem encodeLengthPy_ok {l : Nat} {e : Bytes} (h : encodeLengthPy l = .ok e) : e = encodeLength l := by
  rw [encodeLengthPy_eq_ite] at h
  split at h <;> cases h
  rfl

theorem encodeLengthPy_eq (l : Nat) (hl : l < 256 ^ 127) : encodeLengthPy l = .ok (encodeLength l) := by
  have hlen : (hexBytes l).length ≤ 127 := hexBytes_length_le l 127 (by decide) hl
  rw [encodeLengthPy_eq_ite, if_pos (Or.inr (by rw [or80_eq _ (by omega)]; omega))]

theorem encodeLengthPy_err {l : Nat} {e : PyErr} (h : encodeLengthPy l = .error e) : e = .other ∧ 256 ^ 127 ≤ l := by
  refine ⟨?_, Nat.le_of_not_lt (fun hl => by rw [encodeLengthPy_eq l hl] at h; cases h)⟩
  rw [encodeLengthPy_eq_ite] at h
  split at h <;> cases h
  rfl

/-! The TLV encoders all end in `encode_length(n)` followed by bytes `f l` made from its result `l`. -/

theorem encodeLengthPy_bind_ok {n : Nat} {f : Bytes → Bytes} {e : Bytes}
    (h : (encodeLengthPy n >>= fun l => .ok (f l)) = .ok e) : e = f (encodeLength n) := by
  obtain ⟨l, hl, hf⟩ := Res.bind_ok h
  cases hf
  rw [encodeLengthPy_ok hl]

theorem encodeLengthPy_bind_eq {n : Nat} (hn : n < 256 ^ 127) (f : Bytes → Bytes) :
    (encodeLengthPy n >>= fun l => .ok (f l)) = .ok (f (encodeLength n)) := by
  rw [encodeLengthPy_eq n hn]; rfl

theorem encodeLengthPy_bind_err {n : Nat} {f : Bytes → Bytes} {e : PyErr}
    (h : (encodeLengthPy n >>= fun l => .ok (f l)) = .error e) : e = .other ∧ 256 ^ 127 ≤ n := by
  rcases Res.bind_error h with hl | ⟨l, _, hf⟩
  · exact encodeLengthPy_err hl
  · cases hf

end Der
