import Proofs.EcdsaGroup
/-!
# Proofs.EcdsaToy — a concrete instance of `PointOpsCorrect` (non-vacuity of the ECDSA theorems)

The cyclic group `ZMod 7` with generator 1 stands for a curve group of prime order 7; a point object *is* its
group element; the "x-coordinate" of `R ≠ 0` is `min(R, 7 − R) ∈ {1, 2, 3}` (so `x(−R) = x(R)` and every
x-coordinate has exactly the two preimages `±R`, as on a curve), the field size is 4.
-/
namespace Ecdsa.Toy

def xval (A : ZMod 7) : ℤ := min (A.val : ℤ) (7 - (A.val : ℤ))
def xc (A : ZMod 7) : Option ℤ := if A = 0 then none else some (xval A)

def ops : PointOps (ZMod 7) where
  order := 7
  p := 4
  a := 0
  b := 0
  cofactorIsOne := true
  genHasMulAdd := true
  mulG k := .ok (k : ZMod 7)
  mulAddG u1 Q u2 := .ok ((u1 : ZMod 7) + (u2 : ZMod 7) * Q)
  mul k Q := .ok ((k : ZMod 7) * Q)
  add A B := .ok (A + B)
  isInfinity A := decide (A = 0)
  xOf A := if A = 0 then .error .typeError else .ok (xval A)
  yOf A := if A = 0 then .error .typeError else .ok 0
  scale A := .ok A
  containsPoint _ _ := true
  mkPoint x _ := (x : ZMod 7)
  fromAffine A := A
  isInfObj A := decide (A = 0)

theorem correct : PointOpsCorrect ops (1 : ZMod 7) id xc (fun _ => True) where
  n_prime := by decide
  nG := by decide
  G_ne := by decide
  xc_none := by decide
  xc_neg := by decide
  xc_range := by decide
  mulG k := ⟨k, rfl, trivial, (zsmul_one k).symm⟩
  mulAddG _ u1 Q u2 _ := ⟨_, rfl, trivial, by rw [zsmul_one, zsmul_eq_mul]; rfl⟩
  mul k Q _ := ⟨_, rfl, trivial, (zsmul_eq_mul Q k).symm⟩
  add A B _ _ := ⟨_, rfl, trivial, rfl⟩
  isInf A _ := decide_eq_true_iff
  xOf A _ h := ⟨xval A, if_neg h, if_neg h⟩
  yOf A _ h := ⟨0, if_neg h, by decide, by decide⟩
  scale A _ := ⟨A, rfl, trivial, rfl⟩
  fromAffine A _ := ⟨trivial, rfl⟩
  isInfObj A _ h := decide_eq_false h

end Ecdsa.Toy
