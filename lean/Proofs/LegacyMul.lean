import Proofs.Legacy
import Proofs.Naf
import Mathlib.Data.Nat.Bitwise
import Mathlib.Tactic.Module
/-!
# Proofs.LegacyMul — the legacy `Point.__mul__` (X9.62 D.3.2: the "3e" signed binary method)

Loop invariant: before the iteration with `i = 2^j` the accumulator denotes `(e3 / (2 i) − e / (2 i)) • g`; the loop stops
at `i = 1` with `(e3 / 2 − e / 2) • g`, which is `e • g` for `e3 = 3 e`.
-/
namespace Jac
open WeierstrassCurve WeierstrassCurve.Jacobian Curve

/-- the bit test `x & 2^j != 0` of the loop, as a number -/
theorem bit_toNat (x j : ℕ) :
    ((((x &&& 2 ^ j) != 0).toNat : ℕ) : ℤ) = ((x / 2 ^ j : ℕ) : ℤ) - 2 * ((x / 2 ^ (j + 1) : ℕ) : ℤ) := by
  have h1 : ((x &&& 2 ^ j) != 0) = decide (x / 2 ^ j % 2 = 1) := by
    rw [Nat.and_two_pow, ← Nat.testBit_eq_decide_div_mod_eq]
    have h : 0 < 2 ^ j := Nat.two_pow_pos j
    cases x.testBit j <;> simp
  have h2 : x / 2 ^ (j + 1) = x / 2 ^ j / 2 := by rw [pow_succ, Nat.div_div_eq_div_mul]
  have h3 : (decide (x / 2 ^ j % 2 = 1)).toNat = x / 2 ^ j % 2 := by
    rcases Nat.mod_two_eq_zero_or_one (x / 2 ^ j) with h | h <;> simp [h]
  rw [h1, h2, h3]
  omega

example : ((21 &&& 2 ^ 2) != 0) = true ∧ ((21 &&& 2 ^ 3) == 0) = true := by decide

theorem three_halves (n : ℕ) : (((3 * n / 2 : ℕ) : ℤ) - ((n / 2 : ℕ) : ℤ)) = n := by omega

theorem start_quot {n J : ℕ} (h1 : 2 ^ J ≤ 3 * n) (h2 : 3 * n < 2 ^ (J + 1)) :
    3 * n / 2 ^ J = 1 ∧ n / 2 ^ J = 0 := by
  have hpos : 0 < 2 ^ J := Nat.two_pow_pos J
  rw [pow_succ] at h2
  constructor
  · apply Nat.div_eq_of_lt_le <;> omega
  · apply Nat.div_eq_of_lt; omega

example : 3 * 7 / 2 ^ 4 = 1 ∧ 7 / 2 ^ 4 = 0 := start_quot (n := 7) (J := 4) (by decide) (by decide)

variable {p : ℕ} [hp : Fact p.Prime] {a b : ℤ} {H : AddSubgroup (Grp (a : ZMod p) (b : ZMod p))}

theorem PtRep.congr {R : Pt} {g g' : Grp (a : ZMod p) (b : ZMod p)} (h : PtRep p a b H R g)
    (e : g = g') : PtRep p a b H R g' := e ▸ h

/-- the body of the loop (`c3`, `c1`: the bits of `3e` and `e`), with a continuation `K` so that it rewrites the three binds
in front of the recursive call of `affMulLoop` -/
theorem affMulIter_correct (hp2 : p ≠ 2) (hH : NoOrder2 H) {self negSelf result : Pt} {g x}
    (hs : PtRep p a b H self g) (hn : PtRep p a b H negSelf (-g)) (hr : PtRep p a b H result x) (c3 c1 : Bool) :
    ∃ r, PtRep p a b H r (x + x + ((c3.toNat : ℤ) - c1.toNat) • g) ∧ ∀ K : Pt → Res Pt, (do
        let r ← ptDouble result
        let r ← if c3 && !c1 then ptAdd r self else pure r
        let r ← if !c3 && c1 then ptAdd r negSelf else pure r
        K r) = K r := by
  obtain ⟨r1, e1, h1⟩ := ptDouble_correct hp2 hH hr
  obtain ⟨r2, e2, h2⟩ := ptAdd_correct hp2 hH h1 hs
  obtain ⟨r3, e3, h3⟩ := ptAdd_correct hp2 hH h1 hn
  cases c3 <;> cases c1
  · exact ⟨r1, h1.congr (by simp), fun K => by simp [e1]⟩
  · exact ⟨r3, h3.congr (by simp), fun K => by simp [e1, e3]⟩
  · exact ⟨r2, h2.congr (by simp), fun K => by simp [e1, e2]⟩
  · exact ⟨r1, h1.congr (by simp), fun K => by simp [e1]⟩

theorem affMulLoop_correct (hp2 : p ≠ 2) (hH : NoOrder2 H) {self negSelf : Pt} {g}
    (hs : PtRep p a b H self g) (hn : PtRep p a b H negSelf (-g)) (e e3 : ℕ) (j : ℕ) (result : Pt)
    (hr : PtRep p a b H result ((((e3 / 2 ^ (j + 1) : ℕ) : ℤ) - ((e / 2 ^ (j + 1) : ℕ) : ℤ)) • g)) :
    ∃ R, affMulLoop self negSelf e e3 (2 ^ j) result = .ok R ∧
      PtRep p a b H R ((((e3 / 2 : ℕ) : ℤ) - ((e / 2 : ℕ) : ℤ)) • g) := by
  induction j generalizing result with
  | zero =>
    rw [affMulLoop, dif_neg (by simp)]
    exact ⟨_, rfl, by rwa [zero_add, pow_one] at hr⟩
  | succ j ih =>
    obtain ⟨r, hr', er⟩ :=
      affMulIter_correct hp2 hH hs hn hr ((e3 &&& 2 ^ (j + 1)) != 0) ((e &&& 2 ^ (j + 1)) != 0)
    have hb : ∀ x : ℕ, (x == 0) = !(x != 0) := fun x => by simp [bne]
    rw [affMulLoop, dif_pos (Nat.one_lt_two_pow (by omega)), hb, hb, er,
      show 2 ^ (j + 1) / 2 = 2 ^ j by rw [pow_succ]; omega]
    refine ih r (hr'.congr ?_)
    rw [bit_toNat, bit_toNat]
    module

theorem affMulPos_correct (hp2 : p ≠ 2) (hH : NoOrder2 H) {A : AffPt} {g} (hA : AffRep p a b H A g)
    {e : ℤ} (he : 0 < e) : ∃ R, affMulPos A e = .ok R ∧ PtRep p a b H R (e • g) := by
  have hA0 := hA
  obtain ⟨hc, hx, hy, hm, hn, rfl⟩ := hA
  -- `negative_self`
  have hmem := H.neg_mem hm
  have hneg := Affine.Point.neg_some hn
  rw [hneg] at hmem
  obtain ⟨hmk, hrep⟩ := mkPoint_rep (x := A.x) (y := pmod (-A.y) p) hc hx (inRange_fmod _) _ rfl
    (by simp [pmod, Affine.negY, shortW]) hmem A.order
  rw [← hneg] at hrep
  obtain ⟨n, rfl⟩ : ∃ n : ℕ, e = n := ⟨e.toNat, (Int.toNat_of_nonneg he.le).symm⟩
  have hn0 : 0 < n := by exact_mod_cast he
  have h3 : (3 * (n : ℤ)).toNat = 3 * n := by omega
  obtain ⟨J, hJ, hJ1, hJ2⟩ := Naf.leftmostBit_spec (3 * n) (by omega)
  have hJpos : J ≠ 0 := by
    rintro rfl
    simp at hJ2; omega
  obtain ⟨j, rfl⟩ : ∃ j, J = j + 1 := ⟨J - 1, by omega⟩
  have hi : leftmostBit (3 * n) / 2 = 2 ^ j := by rw [hJ, pow_succ]; omega
  obtain ⟨q3, q1⟩ := start_quot hJ1 hJ2
  obtain ⟨R, hR, hRrep⟩ := affMulLoop_correct hp2 hH (self := .aff A)
    (negSelf := .aff ⟨A.curve, A.x, pmod (-A.y) p, A.order⟩) hA0 hrep n (3 * n) j (.aff A)
    (by rw [q3, q1, Nat.cast_one, Nat.cast_zero, sub_zero, one_smul]; exact hA0)
  refine ⟨R, ?_, hRrep.congr (by rw [three_halves])⟩
  simp only [affMulPos, hc.1, hmk, ok_bind, h3, Int.toNat_natCast, hi, hR]

theorem affMul_tail (hp2 : p ≠ 2) (hH : NoOrder2 H) {A : AffPt} {g} (hA : AffRep p a b H A g)
    {e : ℤ} (h0 : e ≠ 0) :
    ∃ R, (if e < 0 then (do let N ← affNeg A; affMulPos N (-e)) else affMulPos A e) = .ok R ∧
      PtRep p a b H R (e • g) := by
  by_cases hneg : e < 0
  · simp only [hneg, if_true]
    obtain ⟨N, hN, hNrep, _⟩ := affNeg_correct hH hA
    obtain ⟨R, hR, hRrep⟩ := affMulPos_correct hp2 hH hNrep (e := -e) (by omega)
    exact ⟨R, by simp only [hN, ok_bind, hR], hRrep.congr (by simp)⟩
  · simp only [hneg, if_false]
    exact affMulPos_correct hp2 hH hA (e := e) (by omega)

theorem affMul_correct (hp2 : p ≠ 2) (hH : NoOrder2 H) {A : AffPt} {g} (hA : AffRep p a b H A g)
    (ho : ∀ n, truthy A.order = some n → n • g = 0) (e : ℤ) :
    ∃ R, affMul A e = .ok R ∧ PtRep p a b H R (e • g) := by
  by_cases h0 : e = 0
  · subst h0
    exact ⟨.infinity, by simp [affMul], by simp [PtRep]⟩
  have hb : (e == 0) = false := by simpa using h0
  cases hto : truthy A.order with
  | none =>
    simp only [affMul, hto, hb, Bool.or_false, Bool.false_eq_true, if_false]
    exact affMul_tail hp2 hH hA h0
  | some o =>
    by_cases hm : pmod e o = 0
    · have hb2 : (pmod e o == 0) = true := by simpa using hm
      refine ⟨.infinity, by simp only [affMul, hto, hb, hb2, Bool.or_true, if_true], ?_⟩
      simp only [PtRep]
      obtain ⟨k, rfl⟩ := Int.dvd_of_fmod_eq_zero hm
      rw [mul_comm, mul_smul, ho o hto, smul_zero]
    · have hb2 : (pmod e o == 0) = false := by simpa using hm
      simp only [affMul, hto, hb, hb2, Bool.or_false, Bool.false_eq_true, if_false]
      exact affMul_tail hp2 hH hA h0

end Jac
