import Model.NumberTheory
import Model.NumberTheoryExtra
import Generated.RestGuards
/-!
# Proofs.NTGuards — guard ties: the tests and integer expressions of the hand-written models of `numbertheory.py` are
the ones `harness/translate/gen_rest.py` extracts from the source on every run (`Generated/RestGuards.lean`, `Gen.Rest.*`)

`square_root_mod_prime`: the same control flow written over the GENERATED guards (`sqrtG`; `Props/C15` proves it equal to
the model); `is_prime`: the pieces the model is built from (`gen_nt.py`, `Gen.NT.*`) coincide with the independent
extraction; `factorization`, `order_mod`, `largest_factor_relatively_prime`, `phi`, `modular_exp`, `inverse_mod`: each test of
the model is the generated guard.  A change of a comparison or constant in the source changes `Gen.Rest.*` and breaks these proofs.
-/
namespace NTGuards
open NT NTX Gen.Rest

/-- `square_root_mod_prime` written over the generated guards (`pow`, `jacobi`, the b-loop are the model's) -/
def sqrtG (a p : Int) : Res Int :=
  if !numbertheory_square_root_mod_prime_assert0 a p then .error .assertionError
  else if !numbertheory_square_root_mod_prime_assert1 p then .error .assertionError
  else if numbertheory_square_root_mod_prime_if0 a then .ok 0
  else if numbertheory_square_root_mod_prime_if1 p then .ok a
  else do
    let jac ← jacobi a p
    if numbertheory_square_root_mod_prime_if2 jac then .error .squareRoot
    else if numbertheory_square_root_mod_prime_if3 p then .ok (powMod a (pdiv (p + 1) 4).toNat p)
    else if numbertheory_square_root_mod_prime_if4 p then
      if numbertheory_square_root_mod_prime_if5 (powMod a (pdiv (p - 1) 4).toNat p) then .ok (powMod a (pdiv (p + 3) 8).toNat p)
      else if numbertheory_square_root_mod_prime_if6 (powMod a (pdiv (p - 1) 4).toNat p) p then
        .ok (numbertheory_square_root_mod_prime_ret4 a
          (powMod (numbertheory_square_root_mod_prime_e0 a) (numbertheory_square_root_mod_prime_e1 p).toNat p) p)
      else .error .runtimeError
    else sqrtSearch a p (p - 2).toNat 2

theorem sqrt_search_guards (a p b j : Int) :
    (decide (j = -1) = numbertheory_square_root_mod_prime_if8 j) ∧
    (4 * a = numbertheory_square_root_mod_prime_e2 a) ∧ (pdiv (p + 1) 2 = numbertheory_square_root_mod_prime_e3 p) :=
  ⟨rfl, rfl, rfl⟩

/-- `is_prime`: the pieces of `gen_nt.py` are the guards of `gen_rest.py` -/
theorem is_prime_guard_tie (y n j s r g lg : Int) :
    Gen.NT.mr_enter y n = numbertheory_is_prime_if4 y n ∧
    Gen.NT.mr_loop_cond j s y n = numbertheory_is_prime_while1 j s y n ∧
    Gen.NT.mr_final_fail y n = numbertheory_is_prime_if6 y n ∧
    Gen.NT.mr_gcd_const = numbertheory_is_prime_e1 ∧
    Gen.NT.mr_n_bits lg = numbertheory_is_prime_let2 lg ∧
    (decide (g ≠ 1) = numbertheory_is_prime_if2 g) ∧
    (n - 1 = numbertheory_is_prime_let5 n) ∧
    (decide (pmod r 2 = 0) = numbertheory_is_prime_while0 r) ∧
    (s + 1 = numbertheory_is_prime_let6 s) ∧ (pdiv r 2 = numbertheory_is_prime_let7 r) ∧
    (decide (y = 1) = numbertheory_is_prime_if5 y) ∧ (j + 1 = numbertheory_is_prime_let13 j) :=
  ⟨rfl, rfl, rfl, rfl, by simp [Gen.NT.mr_n_bits, numbertheory_is_prime_let2], rfl, rfl, rfl, rfl, rfl, rfl, rfl⟩

theorem misc_guard_tie (n count m z x result d e low high lm len : Int) :
    (decide (n < 2) = numbertheory_factorization_if0 n) ∧ (count + 1 = numbertheory_factorization_let5 count) ∧
    (count + 1 = numbertheory_factorization_let13 count) ∧ (decide (n > 1) = numbertheory_factorization_if9 n) ∧
    (decide (n < 3) = numbertheory_phi_if0 n) ∧ (decide (len < 1) = numbertheory_carmichael_of_factorized_if0 len) ∧
    (decide (m ≤ 1) = numbertheory_order_mod_if0 m) ∧ (decide (z ≠ 1) = numbertheory_order_mod_while0 z) ∧
    (pmod (z * x) m = numbertheory_order_mod_let2 z x m) ∧ (result + 1 = numbertheory_order_mod_let3 result) ∧
    (decide (d ≤ 1) = numbertheory_largest_factor_relatively_prime_if0 d) ∧
    (decide (e < 0) = numbertheory_modular_exp_if0 e) ∧
    Gen.NT.inv_loop_cond low = numbertheory_inverse_mod_v2_while0 low ∧
    (Gen.NT.inv_loop_body lm low 0 high).2.1 = numbertheory_inverse_mod_v2_e1 high low (numbertheory_inverse_mod_v2_let4 high low) :=
  ⟨rfl, rfl, rfl, rfl, rfl, rfl, rfl, rfl, rfl, rfl, rfl, rfl, rfl, rfl⟩

theorem models_use_guards (lg : Int → Int) (n x m b e : Int) :
    (factorization lg n = if numbertheory_factorization_if0 n then .ok [] else factorization lg n) ∧
    (phi lg n = if numbertheory_phi_if0 n then .ok 1 else phi lg n) ∧
    (orderMod x m = if numbertheory_order_mod_if0 m then .ok 0 else orderMod x m) ∧
    (modularExp b e m = if numbertheory_modular_exp_if0 e then .negativeExponent else modularExp b e m) := by
  refine ⟨?_, ?_, ?_, ?_⟩
  · by_cases h : n < 2 <;> simp [numbertheory_factorization_if0, h, factorization]
  · by_cases h : n < 3 <;> simp [numbertheory_phi_if0, h, phi]
  · by_cases h : m ≤ 1 <;> simp [numbertheory_order_mod_if0, h, orderMod]
  · by_cases h : e < 0 <;> simp [numbertheory_modular_exp_if0, h, modularExp]

end NTGuards
