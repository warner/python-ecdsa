import Model.Der
import Proofs.Basic
/-!
# Proofs.DerDigits — big-endian base-256 digit strings without a leading zero are in bijection with ℕ
(`beVal` / `beMin` / `beFixed` of `Model/Basic.lean`), plus the arithmetic of the byte masks `0x80` / `0x7f`.
Core Lean only.
-/
namespace Der

theorem forall_u8 (P : UInt8 → Prop) (h : ∀ n : Fin 256, P (UInt8.ofNat n.val)) : ∀ b : UInt8, P b := by
  intro b
  have := h ⟨b.toNat, UInt8.toNat_lt b⟩
  simpa using this

theorem u8_ofNat_toNat (n : Nat) (h : n < 256) : (UInt8.ofNat n).toNat = n := UInt8.toNat_ofNat_of_lt' h

theorem u8_ofNat_inj {a b : Nat} (ha : a < 256) (hb : b < 256) (h : UInt8.ofNat a = UInt8.ofNat b) : a = b := by
  have := congrArg UInt8.toNat h
  rwa [u8_ofNat_toNat a ha, u8_ofNat_toNat b hb] at this

/-! A byte is its top bit and its low seven bits; in arithmetic terms: -/

theorem u8_low7 (b : UInt8) : (b &&& 0x7f).toNat = b.toNat % 128 := by
  rw [UInt8.toNat_and]; exact Nat.and_two_pow_sub_one_eq_mod b.toNat 7

theorem u8_top : ∀ b : UInt8, b &&& 0x80 = 0 ↔ b.toNat < 128 := by
  apply forall_u8; decide +kernel

theorem or80_eq (k : Nat) (h : k < 128) : 0x80 ||| k = 128 + k :=
  (Nat.two_pow_add_eq_or_of_lt (i := 7) h 1).symm

theorem u8_low_lt (b : UInt8) : (b &&& 0x7f).toNat < 128 := by
  rw [u8_low7]; omega

theorem u8_low_eq {b : UInt8} (h : b &&& 0x80 = 0) : b &&& 0x7f = b := by
  have := (u8_top b).mp h
  exact UInt8.toNat_inj.mp (by rw [u8_low7]; omega)

theorem u8_top_ofNat {k : Nat} (h : k < 128) : UInt8.ofNat k &&& 0x80 = 0 :=
  (u8_top _).mpr (by rw [u8_ofNat_toNat k (by omega)]; exact h)

theorem u8_or80 {k : Nat} (h : k < 128) :
    UInt8.ofNat (0x80 ||| k) &&& 0x80 ≠ 0 ∧ (UInt8.ofNat (0x80 ||| k) &&& 0x7f).toNat = k := by
  have ht : (UInt8.ofNat (0x80 ||| k)).toNat = 128 + k := by rw [or80_eq k h, u8_ofNat_toNat _ (by omega)]
  refine ⟨fun hc => ?_, by rw [u8_low7, ht]; omega⟩
  have := (u8_top _).mp hc
  omega

theorem u8_or80_low {b : UInt8} (h : b &&& 0x80 ≠ 0) : UInt8.ofNat (0x80 ||| (b &&& 0x7f).toNat) = b := by
  have hlt := UInt8.toNat_lt b
  have hge : ¬ b.toNat < 128 := mt (u8_top b).mpr h
  apply UInt8.toNat_inj.mp
  rw [or80_eq _ (u8_low_lt b), u8_low7, u8_ofNat_toNat _ (by omega)]
  omega

theorem u8_x80 : (0x80 : UInt8).toNat = 128 := rfl

theorem u8_lt_iff (a b : UInt8) : a < b ↔ a.toNat < b.toNat := UInt8.lt_iff_toNat_lt

theorem u8_le_iff (a b : UInt8) : a ≤ b ↔ a.toNat ≤ b.toNat := UInt8.le_iff_toNat_le

theorem u8_eq_zero_iff (a : UInt8) : a = 0 ↔ a.toNat = 0 := by
  constructor
  · intro h; subst h; rfl
  · intro h; exact UInt8.toNat_inj.mp (by simpa using h)

theorem beVal_nil : beVal [] = 0 := rfl

theorem beVal_ge (b : UInt8) (t : Bytes) (hb : b ≠ 0) : 256 ^ t.length ≤ beVal (b :: t) := by
  rw [beVal_cons]
  have : 1 ≤ b.toNat := by
    have : b.toNat ≠ 0 := fun h => hb ((u8_eq_zero_iff b).mpr h)
    omega
  have := Nat.mul_le_mul_right (256 ^ t.length) this
  omega

theorem beVal_pos (b : UInt8) (t : Bytes) (hb : b ≠ 0) : 0 < beVal (b :: t) :=
  Nat.lt_of_lt_of_le (Nat.pow_pos (by decide)) (beVal_ge b t hb)

def NoLead (c : UInt8) (s : Bytes) : Prop := ∀ b t, s = b :: t → b ≠ c

abbrev NoLead0 (s : Bytes) : Prop := NoLead 0 s

theorem noLead_cons {c d : UInt8} {t : Bytes} (h : d ≠ c) : NoLead c (d :: t) := by
  intro b t' hb; cases hb; exact h

theorem noLead_init {c : UInt8} (init : Bytes) (last : UInt8) (h : NoLead c (init ++ [last])) : NoLead c init := by
  intro b t hb; subst hb; exact h b (t ++ [last]) rfl

theorem noLead_append {c : UInt8} {a : Bytes} (h : NoLead c a) (ha : a ≠ []) (b : Bytes) : NoLead c (a ++ b) := by
  intro d t hd
  cases a with
  | nil => exact absurd rfl ha
  | cons d' t' => cases hd; exact h _ _ rfl

theorem beMin_zero : beMin 0 = [] := by rw [beMin]

theorem beMin_pos (n : Nat) (h : 0 < n) : beMin n = beMin (n / 256) ++ [UInt8.ofNat (n % 256)] := by
  cases n with
  | zero => omega
  | succ n => rw [beMin]

theorem beVal_beMin (n : Nat) : beVal (beMin n) = n := by
  induction n using beMin.induct with
  | case1 => simp [beMin_zero, beVal_nil]
  | case2 n ih =>
    rw [beMin_pos (n+1) (by omega), beVal_snoc, ih, u8_ofNat_toNat _ (by omega)]; omega

theorem beMin_ne_nil (n : Nat) (h : 0 < n) : beMin n ≠ [] := by
  rw [beMin_pos n h]; simp

theorem beMin_noLead0 (n : Nat) : NoLead0 (beMin n) := by
  induction n using beMin.induct with
  | case1 => intro b t h; simp [beMin_zero] at h
  | case2 n ih =>
    rw [beMin_pos (n+1) (by omega)]
    by_cases hq : (n + 1) / 256 = 0
    · rw [hq, beMin_zero]
      exact noLead_cons (fun hb => absurd (u8_ofNat_inj (b := 0) (by omega) (by omega) hb) (by omega))
    · exact noLead_append ih (beMin_ne_nil _ (by omega)) _

theorem snoc_cases (s : Bytes) (h : s ≠ []) : ∃ init last, s = init ++ [last] :=
  ⟨s.dropLast, s.getLast h, (List.dropLast_concat_getLast h).symm⟩

/-- uniqueness: a string without a leading zero is the minimal encoding of its value -/
theorem beMin_beVal (s : Bytes) (h : NoLead0 s) : beMin (beVal s) = s := by
  generalize hn : beVal s = n
  induction n using beMin.induct generalizing s with
  | case1 =>
    cases s with
    | nil => exact beMin_zero
    | cons b t => have := beVal_pos b t (h b t rfl); omega
  | case2 n ih =>
    have hs : s ≠ [] := by intro h0; subst h0; simp [beVal_nil] at hn
    obtain ⟨init, last, rfl⟩ := snoc_cases s hs
    rw [beVal_snoc] at hn
    have hl := UInt8.toNat_lt last
    rw [beMin_pos (n+1) (by omega)]
    have h1 : beVal init = (n+1) / 256 := by omega
    have h2 : last.toNat = (n+1) % 256 := by omega
    rw [ih init (noLead_init init last h) h1, ← h2, UInt8.ofNat_toNat]

theorem beMin_length_le (n k : Nat) (h : n < 256 ^ k) : (beMin n).length ≤ k := by
  induction n using beMin.induct generalizing k with
  | case1 => simp [beMin_zero]
  | case2 n ih =>
    rw [beMin_pos (n+1) (by omega)]; simp only [List.length_append, List.length_singleton]
    cases k with
    | zero => simp at h
    | succ k =>
      have : (n + 1) / 256 < 256 ^ k := by
        rw [Nat.div_lt_iff_lt_mul (by decide)]; rw [Nat.pow_succ] at h; omega
      have := ih k this; omega

theorem beMin_length_le_iff (n k : Nat) : (beMin n).length ≤ k ↔ n < 256 ^ k := by
  constructor
  · intro h
    have h1 := beVal_lt (beMin n)
    rw [beVal_beMin] at h1
    exact Nat.lt_of_lt_of_le h1 (Nat.pow_le_pow_right (by decide) h)
  · exact beMin_length_le n k

theorem hexBytes_ne_nil (n : Nat) : hexBytes n ≠ [] := by
  unfold hexBytes; split
  · simp
  · exact beMin_ne_nil n (by omega)

theorem beVal_hexBytes (n : Nat) : beVal (hexBytes n) = n := by
  unfold hexBytes; split
  · subst_vars; rfl
  · exact beVal_beMin n

theorem hexBytes_pos (n : Nat) (h : 0 < n) : hexBytes n = beMin n := by
  unfold hexBytes; rw [if_neg (by omega)]

theorem hexBytes_length_le (n k : Nat) (hk : 0 < k) (h : n < 256 ^ k) : (hexBytes n).length ≤ k := by
  unfold hexBytes; split
  · simp; omega
  · exact beMin_length_le n k h

theorem hexBytes_length_le_iff (n k : Nat) (hk : 0 < k) : (hexBytes n).length ≤ k ↔ n < 256 ^ k := by
  constructor
  · intro h
    have h1 := beVal_lt (hexBytes n)
    rw [beVal_hexBytes] at h1
    exact Nat.lt_of_lt_of_le h1 (Nat.pow_le_pow_right (by decide) h)
  · exact hexBytes_length_le n k hk

theorem hexBytes_beVal (s : Bytes) (h : NoLead0 s) (hs : s ≠ []) : hexBytes (beVal s) = s := by
  match s, hs with
  | b :: t, _ =>
    have := beVal_pos b t (h b t rfl)
    rw [hexBytes_pos _ this, beMin_beVal _ h]

theorem hexBytes_cases (n : Nat) : hexBytes n = [0] ∨ ∃ b t, hexBytes n = b :: t ∧ b ≠ 0 := by
  unfold hexBytes
  split
  · exact Or.inl rfl
  · right
    match hm : beMin n, beMin_ne_nil n (by omega) with
    | b :: t, _ => exact ⟨b, t, rfl, by have := beMin_noLead0 n; rw [hm] at this; exact this b t rfl⟩

end Der
