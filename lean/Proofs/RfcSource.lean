import Generated.RfcSlices
import Model.Rfc6979
import Proofs.RandSource
/-!
# Proofs.RfcSource — the tests of `rfc6979.py` as generated (`Gen.Rfc.*`, Generated/RfcSlices.lean, re-translated from
`rfc6979.py` / `keys.py` on every run) are the model's
-/
namespace Rfc
open Rand

/-- a generated byte constant (`b"\\xNN"`) as a byte -/
def gbyte (i : Int) : UInt8 := UInt8.ofNat i.toNat

theorem src_h2_continue (len rolen : Nat) : len < rolen ↔ Gen.Rfc.generate_k_h2_continue len rolen = 1 := by
  unfold Gen.Rfc.generate_k_h2_continue
  rw [ind_eq_one, decide_eq_true_eq]
  omega

theorem src_accept (secret order : Nat) : (1 ≤ secret ∧ secret < order) ↔ Gen.Rfc.generate_k_accept secret order = 1 := by
  unfold Gen.Rfc.generate_k_accept
  rw [ind_eq_one, Bool.and_eq_true, decide_eq_true_eq, decide_eq_true_eq]
  omega

theorem src_return_now (retry : Int) : retry ≤ 0 ↔ Gen.Rfc.generate_k_return_now retry = 1 := by
  unfold Gen.Rfc.generate_k_return_now
  rw [ind_eq_one, decide_eq_true_eq]

theorem src_rolen (qlen : Nat) : (Gen.Rfc.generate_k_rolen qlen).toNat = (qlen + 7) / 8 := by
  unfold Gen.Rfc.generate_k_rolen
  rw [Int.fdiv_eq_ediv_of_nonneg _ (by omega)]
  omega

end Rfc
