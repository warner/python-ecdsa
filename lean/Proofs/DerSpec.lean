import Proofs.DerEnc
import Proofs.DerOid
import Proofs.DerBits
/-!
# Proofs.DerSpec — an independent specification of DER (ITU-T X.690) as PREDICATES on octet strings, and the lemmas
by which the readers of `Model/Der.lean` are shown to accept exactly what it describes and the encoders to produce it.

Nothing in namespace `X690` mentions an encoder (`encodeX`, `hexBytes`, `beMin`, `b128Digits`, …) or a reader of the
model: the predicates are written from the text of X.690 (07/2002 numbering):

* §8.1.3 length octets, definite form: short form = one octet, bit 8 = 0, bits 7–1 = the length (0…127);
  long form = initial octet with bit 8 = 1 and bits 7–1 = k (the number of subsequent octets), then k octets holding
  the length as an unsigned binary integer; §8.1.3.5 c: the initial octet `0xFF` shall not be used (k ≤ 126);
  §10.1 (DER): the definite form with the MINIMUM number of octets — short form whenever the length is ≤ 127,
  no leading zero octet in the long form;
* §8.3 INTEGER: contents = two's-complement binary, one or more octets, bits of the first octet and bit 8 of the second
  not all zero and not all ones (§8.3.2); a non-negative value has bit 8 of the first octet = 0;
* §8.19 OBJECT IDENTIFIER: contents = concatenation of sub-identifiers; each a series of octets, bit 8 = 1 on all but
  the last, bits 7–1 concatenated = the value, fewest octets: leading octet ≠ `0x80` (§8.19.2); first sub-identifier
  = 40·X + Y with X ∈ {0, 1, 2} and Y ≤ 39 when X < 2 (§8.19.4);
* §8.6 BIT STRING (primitive): initial octet = number of unused bits 0…7 (0 for an empty string), §11.2.1 (DER): the
  unused bits are zero;
* §8.7 OCTET STRING (primitive, tag 4), §8.9 SEQUENCE (constructed, identifier `0x30`), §8.1.2 identifier octet of a
  context-specific constructed type with tag number ≤ 30: `10 1 ttttt` = `0xA0 + t`.

The code deviates from the letter of X.690 in two unreachable corners, made explicit by the parameter `K` of
`IsLengthOctets` and by `ctxTagBound`: `read_length` also accepts the reserved initial octet `0xFF` (k = 127, a length
≥ 256^126) and `remove_constructed` reads identifier `0xBF` (X.690: "tag number follows in later octets") as tag 31.
`C11.spec_X` are stated with the bound the code has (127 / 31); `C11.spec_length_x690` shows the X.690 bound holds for
every length below 256^126.  Core Lean only.
-/

namespace X690

/-- unsigned big-endian value of an octet string -/
def value : Bytes → Nat
  | [] => 0
  | b :: t => b.toNat * 256 ^ t.length + value t

/-- §8.1.3 + §10.1: `lo` are the DER length octets of the length `n` (`K` = largest number of subsequent octets
allowed: 126 in X.690) -/
def IsLengthOctets (K : Nat) (lo : Bytes) (n : Nat) : Prop :=
  (n < 128 ∧ lo = [UInt8.ofNat n]) ∨
  (128 ≤ n ∧ ∃ ds : Bytes, lo = UInt8.ofNat (128 + ds.length) :: ds ∧ ds.length ≤ K ∧ value ds = n
    ∧ ∃ d t, ds = d :: t ∧ d ≠ 0)

/-- a tag-length-value triple in DER followed by `rest`: identifier octet, DER length octets of the contents, contents -/
def IsTLV (K : Nat) (tag : UInt8) (s content rest : Bytes) : Prop :=
  ∃ lo, s = tag :: (lo ++ content ++ rest) ∧ IsLengthOctets K lo content.length

/-- §8.3: `c` are the contents octets of the non-negative INTEGER `v` -/
def IsIntegerContent (c : Bytes) (v : Nat) : Prop :=
  ∃ b t, c = b :: t ∧ b.toNat < 128 ∧ value c = v ∧ (∀ b2 t2, t = b2 :: t2 → ¬ (b = 0 ∧ b2.toNat < 128))

/-- value of a sub-identifier: bits 7–1 of the octets, concatenated -/
def value128 : Bytes → Nat
  | [] => 0
  | d :: t => (d.toNat % 128) * 128 ^ t.length + value128 t

/-- §8.19.2: `o` is the sub-identifier with value `n` -/
def IsSubId (o : Bytes) (n : Nat) : Prop :=
  ∃ hi last, o = hi ++ [last] ∧ (∀ d ∈ hi, 128 ≤ d.toNat) ∧ last.toNat < 128 ∧ value128 o = n
    ∧ (∀ d t, o = d :: t → d ≠ 0x80)

/-- a concatenation of sub-identifiers -/
def IsSubIds : Bytes → List Nat → Prop
  | c, [] => c = []
  | c, n :: ns => ∃ o c', c = o ++ c' ∧ IsSubId o n ∧ IsSubIds c' ns

/-- §8.19.4: contents octets of the OBJECT IDENTIFIER `arcs` -/
def IsOidContent (c : Bytes) (arcs : List Nat) : Prop :=
  ∃ x y rest, arcs = x :: y :: rest ∧ x ≤ 2 ∧ (x < 2 → y ≤ 39) ∧ IsSubIds c ((40 * x + y) :: rest)

/-- §8.6.2 + §11.2.1: contents octets of the BIT STRING `data` with `u` unused bits -/
def IsBitStringContent (c data : Bytes) (u : Nat) : Prop :=
  c = UInt8.ofNat u :: data ∧ u ≤ 7 ∧ (data = [] → u = 0) ∧ (∀ last, data.getLast? = some last → last.toNat % 2 ^ u = 0)

/-- §8.1.2: identifier octet of a context-specific (class bits `10`), constructed (bit 6 = 1) type with tag number `t` -/
def ctxConstructedId (t : Nat) : UInt8 := UInt8.ofNat (2 * 64 + 32 + t)

/-- X.690 allows tag numbers 0…30 in a single identifier octet; the code also reads `0xBF` as tag 31 -/
def ctxTagBound : Nat := 31

def IsDerInteger (s : Bytes) (v : Nat) (rest : Bytes) : Prop := ∃ c, IsTLV 127 0x02 s c rest ∧ IsIntegerContent c v
def IsDerOctetString (s body rest : Bytes) : Prop := IsTLV 127 0x04 s body rest
def IsDerSequence (s body rest : Bytes) : Prop := IsTLV 127 0x30 s body rest
def IsDerConstructed (s : Bytes) (t : Nat) (body rest : Bytes) : Prop :=
  t ≤ ctxTagBound ∧ IsTLV 127 (ctxConstructedId t) s body rest
def IsDerOid (s : Bytes) (arcs : List Nat) (rest : Bytes) : Prop := ∃ c, IsTLV 127 0x06 s c rest ∧ IsOidContent c arcs
def IsDerBitString (s data : Bytes) (u : Nat) (rest : Bytes) : Prop :=
  ∃ c, IsTLV 127 0x03 s c rest ∧ IsBitStringContent c data u

end X690

namespace Der
open X690

theorem value_eq_beVal (s : Bytes) : value s = beVal s := by
  induction s with
  | nil => rfl
  | cons b t ih => rw [value, beVal_cons, ih]

theorem b128Fold_eq (acc : Nat) (s : Bytes) : b128Fold acc s = acc * 128 ^ s.length + value128 s := by
  induction s generalizing acc with
  | nil => simp [b128Fold_nil, value128]
  | cons d t ih =>
    rw [b128Fold_cons, ih, value128, u8_low7, List.length_cons, Nat.pow_succ, Nat.add_mul]
    simp only [Nat.mul_assoc, Nat.add_assoc, Nat.mul_comm 128]

theorem value128_eq_b128Val (s : Bytes) : value128 s = b128Val s := by
  have := b128Fold_eq 0 s
  simp only [Nat.zero_mul, Nat.zero_add] at this
  exact this.symm

theorem encodeLength_of_spec {K : Nat} {lo : Bytes} {n : Nat} (hK : K ≤ 127) (h : IsLengthOctets K lo n) :
    lo = encodeLength n ∧ n < 256 ^ 127 := by
  rcases h with ⟨h1, h2⟩ | ⟨h1, ds, h2, h3, h4, d, t, h5, h6⟩
  · exact ⟨by rw [h2, encodeLength_short n h1], Nat.lt_of_lt_of_le h1 pow127_ge_128⟩
  · rw [value_eq_beVal] at h4
    subst h4
    obtain ⟨henc, hlt⟩ := encodeLength_digits ⟨by rw [h5]; exact noLead_cons h6, h1⟩ (by omega)
    exact ⟨by rw [h2, henc, or80_eq _ (by omega)], hlt⟩

theorem encodeLength_spec (n : Nat) (h : n < 256 ^ 127) : IsLengthOctets 127 (encodeLength n) n := by
  by_cases h1 : n < 128
  · exact Or.inl ⟨h1, encodeLength_short n h1⟩
  · obtain ⟨ds, henc, hd, hlen, hv⟩ := encodeLength_split n (by omega) h
    refine Or.inr ⟨by omega, ds, by rw [henc, or80_eq _ (by omega)], hlen, by rw [value_eq_beVal, hv], ?_⟩
    match ds, hd with
    | [], hd => exact absurd hd.2 (by decide)
    | d :: t, hd => exact ⟨d, t, rfl, hd.1 d t rfl⟩

theorem tlv_of_spec {tag : UInt8} {s content rest : Bytes} (h : IsTLV 127 tag s content rest) :
    s = tag :: (encodeLength content.length ++ content ++ rest) ∧ content.length < 256 ^ 127 := by
  obtain ⟨lo, hs, hsp⟩ := h
  obtain ⟨rfl, hl⟩ := encodeLength_of_spec (Nat.le_refl _) hsp
  exact ⟨hs, hl⟩

theorem tlv_spec (tag : UInt8) (content rest : Bytes) (h : content.length < 256 ^ 127) :
    IsTLV 127 tag (tag :: (encodeLength content.length ++ content ++ rest)) content rest :=
  ⟨encodeLength content.length, rfl, encodeLength_spec _ h⟩

theorem tlvRead_of_spec {α : Type} {tagOK : UInt8 → Prop} [DecidablePred tagOK] {k : UInt8 → Bytes → Bytes → Res α}
    {t : UInt8} (ht : tagOK t) {s content rest : Bytes} (h : IsTLV 127 t s content rest) :
    tlvRead tagOK k s = k t content rest := by
  obtain ⟨rfl, hl⟩ := tlv_of_spec h
  exact tlvRead_encode ht content rest hl

theorem tlvRead_iff {α : Type} {tagOK : UInt8 → Prop} [DecidablePred tagOK] {k : UInt8 → Bytes → Bytes → Res α}
    (s : Bytes) (v : α) :
    tlvRead tagOK k s = .ok v ↔ ∃ t content rest, tagOK t ∧ IsTLV 127 t s content rest ∧ k t content rest = .ok v := by
  constructor
  · intro h
    obtain ⟨t, body, rest, ht, rfl, hl, hk⟩ := tlvRead_ok h
    exact ⟨t, body, rest, ht, tlv_spec t body rest hl, hk⟩
  · intro ⟨t, body, rest, ht, h, hk⟩
    rw [tlvRead_of_spec ht h, hk]

theorem tlvPlain_iff (tag : UInt8) (s body rest : Bytes) :
    tlvRead (· = tag) (fun _ body rest => .ok (body, rest)) s = .ok (body, rest) ↔ IsTLV 127 tag s body rest := by
  rw [tlvRead_iff]
  constructor
  · intro ⟨t, b, r, ht, h, hk⟩; cases hk; cases ht; exact h
  · intro h; exact ⟨_, _, _, rfl, h, rfl⟩

theorem removeSequence_iff (s body rest : Bytes) :
    removeSequence s = .ok (body, rest) ↔ IsDerSequence s body rest := by
  rw [removeSequence_eq]; exact tlvPlain_iff 0x30 s body rest

/-- the specification's content octets are the ones `remove_integer` accepts, with the value it returns: no encoder
is involved -/
theorem integerContent_iff (c : Bytes) (v : Nat) : IsIntegerContent c v ↔ IntBodyOK c ∧ beVal c = v := by
  unfold IsIntegerContent
  constructor
  · intro ⟨b, t, hc, hb, hv, hmin⟩
    subst hc
    rw [value_eq_beVal] at hv
    refine ⟨?_, hv⟩
    cases t with
    | nil => exact (u8_lt_iff b 0x80).mpr hb
    | cons b2 t2 => exact ⟨(u8_lt_iff b 0x80).mpr hb, fun hc => hmin b2 t2 rfl ⟨hc.1, (u8_lt_iff b2 0x80).mp hc.2⟩⟩
  · intro ⟨hok, hv⟩
    rw [← value_eq_beVal] at hv
    match c, hok with
    | [b], hok => exact ⟨b, [], rfl, (u8_lt_iff b 0x80).mp hok, hv, nofun⟩
    | b :: b2 :: t2, ⟨h1, h2⟩ =>
      refine ⟨b, b2 :: t2, rfl, (u8_lt_iff b 0x80).mp h1, hv, fun b' t' ht hc => ?_⟩
      cases ht
      exact h2 ⟨hc.1, (u8_lt_iff _ 0x80).mpr hc.2⟩

theorem removeInteger_iff (s : Bytes) (v : Nat) (rest : Bytes) :
    removeInteger s = .ok (v, rest) ↔ IsDerInteger s v rest := by
  rw [removeInteger_eq, tlvRead_iff]
  constructor
  · intro ⟨t, c, r, ht, h, hk⟩
    cases ht
    unfold intCheck at hk
    split at hk
    · rename_i hok; cases hk; exact ⟨c, h, (integerContent_iff c _).mpr ⟨hok, rfl⟩⟩
    · cases hk
  · intro ⟨c, h, hc⟩
    obtain ⟨hok, hv⟩ := (integerContent_iff c v).mp hc
    exact ⟨_, c, rest, rfl, h, by rw [intCheck, if_pos hok, hv]⟩

theorem value128_snoc (s : Bytes) (d : UInt8) : value128 (s ++ [d]) = value128 s * 128 + d.toNat % 128 := by
  rw [value128_eq_b128Val, value128_eq_b128Val, b128Val_snoc, u8_low7]

theorem allCont_iff (s : Bytes) : AllCont s ↔ ∀ d ∈ s, 128 ≤ d.toNat :=
  forall₂_congr fun d _ => by rw [Ne, u8_top, Nat.not_lt]

theorem subId_iff (o : Bytes) (n : Nat) : IsSubId o n ↔ o = encodeNumber n := by
  -- both sides say: `o = pre ++ [d]`, continuation bits on `pre` only, no leading `0x80`, value `n`
  constructor
  · intro ⟨hi, last, ho, hhi, hlast, hv, hlead⟩
    subst ho
    have hd := (u8_top last).mpr hlast
    rw [value128_snoc, ← u8_low7, value128_eq_b128Val] at hv
    rw [← hv]
    exact (encodeNumber_digits ((allCont_iff hi).mpr hhi) (noLead_init hi last hlead) hd).symm
  · intro ho
    obtain ⟨pre, d, he, hc, hn, hd, hv⟩ := encodeNumber_split n
    rw [ho, he]
    refine ⟨pre, d, rfl, (allCont_iff pre).mp hc, (u8_top d).mp hd, ?_, noLead80_append hn hd []⟩
    rw [value128_snoc, ← u8_low7, value128_eq_b128Val]; exact hv

theorem subIds_iff (c : Bytes) (ns : List Nat) : IsSubIds c ns ↔ c = encNums ns := by
  induction ns generalizing c with
  | nil => simp [IsSubIds, encNums_nil]
  | cons n ns ih =>
    simp only [IsSubIds, encNums_cons]
    constructor
    · intro ⟨o, c', hc, ho, hc'⟩
      rw [hc, (subId_iff o n).mp ho, (ih c').mp hc']
    · intro hc
      exact ⟨encodeNumber n, encNums ns, hc, (subId_iff _ _).mpr rfl, (ih _).mpr rfl⟩

theorem oidContent_iff (c : Bytes) (arcs : List Nat) :
    IsOidContent c arcs ↔ ∃ x y rest, arcs = x :: y :: rest ∧ OidDomain x y ∧ c = oidBody x y rest := by
  unfold IsOidContent OidDomain
  constructor
  · intro ⟨x, y, rest, ha, hx, hy, hc⟩
    refine ⟨x, y, rest, ha, ?_, ?_⟩
    · by_cases h : x < 2
      · exact Or.inl ⟨h, hy h⟩
      · exact Or.inr (by omega)
    · rw [oidBody_eq]; exact (subIds_iff _ _).mp hc
  · intro ⟨x, y, rest, ha, hd, hc⟩
    refine ⟨x, y, rest, ha, by omega, by omega, ?_⟩
    rw [hc, oidBody_eq]; exact (subIds_iff _ _).mpr rfl

theorem bitStringContent_iff (c data : Bytes) (u : Nat) :
    IsBitStringContent c data u ↔ c = UInt8.ofNat u :: data ∧ u ≤ 7 ∧ bitsPadOK data u = true := by
  unfold IsBitStringContent; rw [bitsPadOK_iff]

theorem derBitString_iff (s data : Bytes) (u : Nat) (rest : Bytes) :
    IsDerBitString s data u rest
      ↔ u ≤ 7 ∧ bitsPadOK data u = true ∧ data.length + 1 < 256 ^ 127 ∧ s = encodeBits data u ++ rest := by
  unfold IsDerBitString
  rw [encodeBits_eq_raw]
  constructor
  · intro ⟨c, htlv, hc⟩
    obtain ⟨rfl, hu, hp⟩ := (bitStringContent_iff c data u).mp hc
    obtain ⟨hs, hl⟩ := tlv_of_spec htlv
    exact ⟨hu, hp, hl, hs⟩
  · intro ⟨hu, hp, hl, hs⟩
    exact ⟨UInt8.ofNat u :: data, hs ▸ tlv_spec 0x03 _ rest hl, (bitStringContent_iff _ data u).mpr ⟨rfl, hu, hp⟩⟩

end Der
