import Proofs.Bits
/-!
# Proofs.RfcSpec — RFC 6979 §2.3, §3.2 (steps a–h) and §3.6, transcribed over bit strings

Independent of the code's tricks (`hexlify`, `>>`, `"%0*x"`, byte-length loop bound): `bits2int` is "the
leftmost qlen bits, as an integer", `int2octets` is the list of base-256 digits, `rlen = 8·⌈qlen/8⌉`,
step h.2 appends HMAC blocks "while tlen < qlen", the candidates `T₀, T₁, …` are defined by recursion on
the state `(K, V)`.  `hmac` and its output length `hlen` (bytes) are parameters.
-/
namespace Rfc
open Bits Rand

/-- binary length of `q`: `2^(qlen−1) ≤ q < 2^qlen` for `q ≥ 1` (`qlen_spec`) -/
def qlen (q : Nat) : Nat := bitLength1 q

theorem bitLength1_eq (n : Nat) (hn : 0 < n) : bitLength1 n = bitLength n := by
  have := bitLength_eq_zero_iff n
  unfold bitLength1; split <;> omega

theorem qlen_spec (q : Nat) (hq : 1 ≤ q) : 2 ^ (qlen q - 1) ≤ q ∧ q < 2 ^ qlen q := by
  unfold qlen; rw [bitLength1_eq q hq]
  exact ⟨two_pow_bitLength_le q hq, lt_two_pow_bitLength q⟩

/-- `rlen / 8 = ⌈qlen/8⌉` -/
def rolen (q : Nat) : Nat := (qlen q + 7) / 8

/-- RFC 6979 §2.3.3 `int2octets`: the big-endian base-256 digits of `x`, exactly `rolen` of them -/
def int2octets (rolen x : Nat) : Bytes := (List.range rolen).map fun i => UInt8.ofNat (x / 256 ^ (rolen - 1 - i) % 256)

/-- §2.3.2 on a bit string: the leftmost `qlen` bits (all of them if there are fewer), as an integer -/
def bits2int (q : Nat) (b : List Bool) : Nat := bitsVal (b.take (qlen q))

/-- §2.3.4: `int2octets(bits2int(b) mod q)` -/
def bits2octets (q : Nat) (b : List Bool) : Bytes := int2octets (rolen q) (bits2int q b % q)

/-- §3.2 steps b–g (with the §3.6 additional input `extra` appended; empty = plain §3.2) -/
def initKV (hmac : Bytes → Bytes → Bytes) (hlen : Nat) (q x : Nat) (h1 extra : Bytes) : Bytes × Bytes :=
  let seed := int2octets (rolen q) x ++ bits2octets q (bitsOfBytes h1) ++ extra
  let V := List.replicate hlen (1 : UInt8)          -- b
  let K := List.replicate hlen (0 : UInt8)          -- c
  let K := hmac K (V ++ [0] ++ seed)                -- d
  let V := hmac K V                                 -- e
  let K := hmac K (V ++ [1] ++ seed)                -- f
  let V := hmac K V                                 -- g
  (K, V)

/-- step h.2 unrolled `m` times: `V ← HMAC_K(V); T ← T ‖ V` -/
def genT (hmac : Bytes → Bytes → Bytes) (K : Bytes) : Nat → Bytes → Bytes × Bytes
  | 0, V => (V, [])
  | m+1, V =>
    let V' := hmac K V
    let r := genT hmac K m V'
    (r.1, V' ++ r.2)

/-- rounds of "while tlen < qlen" when every block has `8·hlen` bits -/
def blocks (hlen q : Nat) : Nat := (qlen q + 8 * hlen - 1) / (8 * hlen)

theorem blocks_spec (hlen q : Nat) (hh : 0 < hlen) :
    qlen q ≤ 8 * hlen * blocks hlen q ∧ (0 < blocks hlen q → 8 * hlen * (blocks hlen q - 1) < qlen q) := by
  unfold blocks
  have hd := Nat.div_add_mod (qlen q + 8 * hlen - 1) (8 * hlen)
  have hm := Nat.mod_lt (qlen q + 8 * hlen - 1) (show 0 < 8 * hlen by omega)
  generalize (qlen q + 8 * hlen - 1) / (8 * hlen) = m at *
  generalize (qlen q + 8 * hlen - 1) % (8 * hlen) = r at *
  constructor
  · omega
  · intro hpos
    obtain ⟨m', rfl⟩ : ∃ m', m = m' + 1 := ⟨m - 1, by omega⟩
    simp only [Nat.add_sub_cancel]
    rw [Nat.mul_succ] at hd
    omega

/-- one round of step h: `k = bits2int(T)` and the state for the next round (h.3, second half) -/
def candidate (hmac : Bytes → Bytes → Bytes) (hlen q : Nat) (kv : Bytes × Bytes) : Nat × (Bytes × Bytes) :=
  let r := genT hmac kv.1 (blocks hlen q) kv.2
  let k := bits2int q (bitsOfBytes r.2)
  let K' := hmac kv.1 (r.1 ++ [0])
  let V' := hmac K' r.1
  (k, (K', V'))

def candAt (hmac : Bytes → Bytes → Bytes) (hlen q : Nat) : Nat → Bytes × Bytes → Nat
  | 0, kv => (candidate hmac hlen q kv).1
  | i+1, kv => candAt hmac hlen q i (candidate hmac hlen q kv).2

/-- "k is in the [1, q−1] range" -/
def acceptable (q k : Nat) : Prop := 1 ≤ k ∧ k < q

instance (q k : Nat) : Decidable (acceptable q k) := by unfold acceptable; infer_instance

def stream (hmac : Bytes → Bytes → Bytes) (hlen : Nat) (q x : Nat) (h1 extra : Bytes) (i : Nat) : Nat :=
  candAt hmac hlen q i (initKV hmac hlen q x h1 extra)

/-- `k` is the `(r+1)`-th acceptable element of the stream `s` -/
def IsNthAcceptable (q : Nat) (s : Nat → Nat) (r : Nat) (k : Nat) : Prop :=
  ∃ j, s j = k ∧ acceptable q k ∧ ((List.range j).filter (fun i => decide (acceptable q (s i)))).length = r

end Rfc
