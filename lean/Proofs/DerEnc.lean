import Proofs.DerInt
/-!
# Proofs.DerEnc — the faithful (`Res`-valued) encoders `encodeXPy` against the total encoders `encodeX`:
whatever the Python encoder returns is `encodeX v`, and on the stated domain it does return.  Each ends in
`encode_length`, so each follows from `encodeLengthPy_bind_*`.
-/
namespace Der

/-- `encode_integer` after its `assert`: the length of the content octets is encoded, the content octets follow -/
theorem encodeIntegerPy_nat (r : Nat) :
    encodeIntegerPy (r : Int) = encodeLengthPy (intBody r).length >>= fun l => .ok ([0x02] ++ l ++ intBody r) := by
  unfold encodeIntegerPy intBody
  rw [if_neg (not_not_intro (Int.natCast_nonneg r)), Int.toNat_natCast]
  match hm : hexBytes r, hexBytes_ne_nil r with
  | b :: t, _ =>
    simp only [idx_zero_cons, bind, Except.bind]
    split
    · rfl
    · simp only [List.append_assoc, List.cons_append, List.nil_append]; rfl

theorem encodeIntegerPy_ok {r : Int} {e : Bytes} (h : encodeIntegerPy r = .ok e) :
    0 ≤ r ∧ e = encodeInteger r.toNat := by
  by_cases hr : 0 ≤ r
  · obtain ⟨n, rfl⟩ := Int.eq_ofNat_of_zero_le hr
    rw [encodeIntegerPy_nat] at h
    exact ⟨hr, encodeLengthPy_bind_ok h⟩
  · unfold encodeIntegerPy at h; rw [if_pos (by omega)] at h; cases h

theorem encodeIntegerPy_eq (r : Nat) (hd : (intBody r).length < 256 ^ 127) :
    encodeIntegerPy (r : Int) = .ok (encodeInteger r) := by
  rw [encodeIntegerPy_nat]; exact encodeLengthPy_bind_eq hd _

/-- `encode_integer` fails with `AssertionError` exactly on negative input (and with `struct.error` only
for `256^127` content octets or more) -/
theorem encodeIntegerPy_err {r : Int} {e : PyErr} (h : encodeIntegerPy r = .error e) :
    (r < 0 ∧ e = .assertionError) ∨ (0 ≤ r ∧ e = .other ∧ 256 ^ 127 ≤ (intBody r.toNat).length) := by
  by_cases hr : 0 ≤ r
  · obtain ⟨n, rfl⟩ := Int.eq_ofNat_of_zero_le hr
    rw [encodeIntegerPy_nat] at h
    exact Or.inr ⟨hr, encodeLengthPy_bind_err h⟩
  · unfold encodeIntegerPy at h; rw [if_pos (by omega)] at h; cases h
    exact Or.inl ⟨by omega, rfl⟩

theorem encodeOctetStringPy_ok {s e : Bytes} (h : encodeOctetStringPy s = .ok e) : e = encodeOctetString s :=
  encodeLengthPy_bind_ok h

theorem encodeOctetStringPy_eq (s : Bytes) (hd : s.length < 256 ^ 127) :
    encodeOctetStringPy s = .ok (encodeOctetString s) :=
  encodeLengthPy_bind_eq hd _

theorem sum_length_flatten (pieces : List Bytes) : (pieces.map List.length).sum = pieces.flatten.length :=
  (List.length_flatten ..).symm

theorem encodeSequencePy_ok {pieces : List Bytes} {e : Bytes} (h : encodeSequencePy pieces = .ok e) :
    e = encodeSequence pieces := by
  unfold encodeSequencePy at h
  rw [sum_length_flatten] at h
  exact encodeLengthPy_bind_ok h

theorem encodeSequencePy_eq (pieces : List Bytes) (hd : pieces.flatten.length < 256 ^ 127) :
    encodeSequencePy pieces = .ok (encodeSequence pieces) := by
  unfold encodeSequencePy
  rw [sum_length_flatten]
  exact encodeLengthPy_bind_eq hd _

theorem encodeConstructedPy_ok {tag : Int} {v e : Bytes} (h : encodeConstructedPy tag v = .ok e) :
    -160 ≤ tag ∧ tag ≤ 95 ∧ e = [UInt8.ofNat (0xA0 + tag).toNat] ++ encodeLength v.length ++ v := by
  unfold encodeConstructedPy at h
  obtain ⟨t, ht, h⟩ := Res.bind_ok h
  obtain ⟨h1, h2, rfl⟩ := int2byte_ok ht
  exact ⟨by omega, by omega, encodeLengthPy_bind_ok h⟩

theorem encodeConstructedPy_eq (tag : Nat) (v : Bytes) (ht : tag ≤ 95) (hd : v.length < 256 ^ 127) :
    encodeConstructedPy (tag : Int) v = .ok (encodeConstructed tag v) := by
  unfold encodeConstructedPy
  rw [show (0xA0 : Int) + (tag : Int) = ((0xA0 + tag : Nat) : Int) by omega, int2byte_nat _ (by omega)]
  exact encodeLengthPy_bind_eq hd _

end Der
