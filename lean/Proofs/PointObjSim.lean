import Proofs.PointObjAbs
import Mathlib.Data.List.Forall2
/-!
# Proofs.PointObjSim — the concrete heap machine refines the abstract heap of values: framework and primitives

`RepIndep` collects what the refinement needs from the value-level functions of `Model/Curve.lean`: each maps hidden
states of `g` (and `h`) to hidden states of the group result, whatever representation it is given (C06/C07 under N2T).
`HS P t g`: the `PointJacobi` value `P` with table `t` is a possible hidden state of an object denoting `g`;
`HA A g`: the legacy point `A` denotes `g`.

Each primitive is proved once as `Sim` (from any related heaps) and programs are followed with `Sim.bind`.  Where a later
step needs a fact about the abstract heap (the operand just read is a `PointJacobi`, cell `i` still holds one) the proof
works at a fixed abstract heap: `SimAt.bind` hands the continuation the equation `am ah = (.ok b, ah')`, and one lemma per
abstract primitive (`agetPt_ok`, `aupdPJ_heap`, …) says what it tells about `ah'`.
-/
set_option linter.unusedSectionVars false
namespace PointObj
open Curve

variable {G : Type} [AddCommGroup G] [DecidableEq G]

theorem list_set_same {α} (l : List α) (i : Nat) (a : α) (h : l[i]? = some a) : l.set i a = l := by
  obtain ⟨hlt, rfl⟩ := List.getElem?_eq_some_iff.1 h
  exact List.set_getElem_self hlt

/-- result of a point-valued function: INFINITY exactly for 0, else a fresh `PointJacobi` (empty table, flag off) -/
def RFresh (HS : PJ → List (Int × Int) → G → Prop) (v : Pt) (g : G) (order : Option Int) : Prop :=
  (v = .infinity ∧ g = 0) ∨ (∃ J, v = .jac J ∧ g ≠ 0 ∧ HS J [] g ∧ J.order = order ∧ J.generator = false)

/-- `_maybe_precompute` can run on an object with these attributes -/
def GenOK (P : PJ) : Prop := P.generator = true → ∃ o, truthy P.order = some o

structure RepIndep (sp : ASpec G) (HS : PJ → List (Int × Int) → G → Prop) (HA : AffPt → G → Prop) : Prop where
  /-- all objects of the heap live on the curve `sp.c` (only the field prime is read by the key operations) -/
  hs_curve : ∀ {P t g}, HS P t g → P.curve.p = sp.c.p
  hs_ne : ∀ {P t g}, HS P t g → g ≠ 0
  ha_ne : ∀ {A g}, HA A g → g ≠ 0
  hs_nz : ∀ {P t g}, HS P t g → (P.y == 0) = false ∧ (P.z == 0) = false
  /-- only generator-flagged objects carry a table, and only if `_maybe_precompute` could build it -/
  hs_table : ∀ {P t g}, HS P t g → t ≠ [] → P.generator = true ∧ GenOK P
  hs_forget : ∀ {P t g}, HS P t g → HS P [] g
  hs_xy : ∀ {P t g}, HS P t g → pjX P = .ok (sp.ax g) ∧ pjY P = .ok (sp.ay g)
  ha_xy : ∀ {A g}, HA A g → A.x = sp.ax g ∧ A.y = sp.ay g
  hs_scale : ∀ {P t g}, HS P t g → ∃ S, pjScale P = .ok S ∧ HS S t g ∧ S.z = 1 ∧
    S.order = P.order ∧ S.generator = P.generator
  /-- the `Point(...)` built by `to_affine()` from the scaled coordinates -/
  hs_mkPoint : ∀ {S t g}, HS S t g → S.z = 1 → ∃ A, mkPoint S.curve S.x S.y S.order = .ok A ∧ HA A g ∧ A.order = S.order
  hs_fromXY : ∀ {P t g} (gen : Bool), HS P t g → HS ⟨P.curve, sp.ax g, sp.ay g, 1, P.order, gen⟩ [] g
  ha_fromAffine : ∀ {A g} (gen : Bool), HA A g → HS (pjFromAffine A gen) [] g
  hs_neg : ∀ {P t g}, HS P t g → HS (pjNeg P) [] (-g)
  hs_double : ∀ {P t g}, HS P t g → RFresh HS (pjDouble P) (g + g) P.order
  hs_add : ∀ {P t g Q t' h}, HS P t g → HS Q t' h → ∃ v, pjAddCore P Q = .ok v ∧ RFresh HS v (g + h) P.order
  hs_precompute : ∀ {P t g}, HS P t g → GenOK P → ∃ t', maybePrecompute P t = .ok t' ∧ HS P t' g ∧
    (t'.isEmpty = !P.generator)
  /-- `__mul__` answers k = 0 and k = 1 before it looks at the coordinates -/
  hs_mul : ∀ {P t g} (k : Int), HS P t g → GenOK P → k ≠ 0 → k ≠ 1 →
    ∃ v, pjMulWith t P k = .ok v ∧ RFresh HS v (k • g) P.order
  /-- `mul_add` scales both operands before it tests whether their sum is at infinity, hence Z = 1 -/
  hs_sumInf : ∀ {SP t g SQ t' h}, HS SP t g → HS SQ t' h → SP.z = 1 → SQ.z = 1 →
    tripleInf (Gen.k_add SP.x SP.y SP.z SQ.x SQ.y SQ.z SP.curve.p SP.curve.a) = decide (g + h = 0)
  hs_mulAddLoop : ∀ {SP t g SQ t' h} (sm om : Int), HS SP t g → HS SQ t' h → SP.z = 1 → SQ.z = 1 → g + h ≠ 0 →
    RFresh HS (mulAddLoop SP SQ sm om) (sm • g + om • h) SP.order
  eq_jj : ∀ {P t g Q t' h}, HS P t g → HS Q t' h → ptEq (.jac P) (.jac Q) = decide (g = h)
  eq_ja : ∀ {P t g A h}, HS P t g → HA A h → ptEq (.jac P) (.aff A) = decide (g = h) ∧ ptEq (.aff A) (.jac P) = decide (h = g)
  eq_aa : ∀ {A g B h}, HA A g → HA B h → ptEq (.aff A) (.aff B) = decide (g = h)

variable (HS : PJ → List (Int × Int) → G → Prop) (HA : AffPt → G → Prop)

inductive Rel : Obj → AObj G → Prop
  | pj {o : PJObj} {g : G} : HS o.val o.table g → Rel (.pj o) (.pj g o.val.order o.val.generator)
  | aff {A : AffPt} {g : G} : HA A g → Rel (.aff A) (.aff g A.order)
  | infc : Rel .infc .infc
  | key (g q : Ref) : Rel (.key g q) (.key g q)
  | skey (d : Int) (vk : Nat) : Rel (.skey d vk) (.skey d vk)

def Inv (h : Heap) (ah : AHeap G) : Prop := List.Forall₂ (Rel HS HA) h ah

variable {HS HA}

theorem Inv.length {h : Heap} {ah : AHeap G} (hi : Inv HS HA h ah) : h.length = ah.length :=
  List.Forall₂.length_eq hi

theorem Inv.get {h : Heap} {ah : AHeap G} (hi : Inv HS HA h ah) (i : Nat) :
    (h[i]? = none ∧ ah[i]? = none) ∨ ∃ o a, h[i]? = some o ∧ ah[i]? = some a ∧ Rel HS HA o a := by
  induction hi generalizing i with
  | nil => exact Or.inl ⟨rfl, rfl⟩
  | cons hr _ ih =>
    cases i with
    | zero => exact Or.inr ⟨_, _, rfl, rfl, hr⟩
    | succ n => exact ih n

theorem Inv.set {h : Heap} {ah : AHeap G} (hi : Inv HS HA h ah) (i : Nat) {o : Obj} {a : AObj G}
    (hr : Rel HS HA o a) : Inv HS HA (h.set i o) (ah.set i a) := by
  induction hi generalizing i with
  | nil => exact List.Forall₂.nil
  | cons hr' hi' ih =>
    cases i with
    | zero => exact List.Forall₂.cons hr hi'
    | succ n => exact List.Forall₂.cons hr' (ih n)

theorem Inv.append {h : Heap} {ah : AHeap G} (hi : Inv HS HA h ah) {o : Obj} {a : AObj G}
    (hr : Rel HS HA o a) : Inv HS HA (h ++ [o]) (ah ++ [a]) :=
  List.rel_append hi (List.Forall₂.cons hr List.Forall₂.nil)

variable (HS HA) in
def Outcome {α β : Type} (R : α → β → Prop) : Res α × Heap → Res β × AHeap G → Prop
  | (.ok a, h'), (.ok b, ah') => R a b ∧ Inv HS HA h' ah'
  | (.error e, h'), (.error e', ah') => e = e' ∧ Inv HS HA h' ah'
  | _, _ => False

def Sim {α β : Type} (R : α → β → Prop) (m : M α) (am : AM G β) : Prop :=
  ∀ h ah, Inv HS HA h ah → Outcome HS HA R (m h) (am ah)

theorem Outcome.cases {α β : Type} {R : α → β → Prop} {x : Res α × Heap} {y : Res β × AHeap G}
    (ho : Outcome HS HA R x y) :
    (∃ e h' ah', x = (.error e, h') ∧ y = (.error e, ah') ∧ Inv HS HA h' ah') ∨
      ∃ a b h' ah', x = (.ok a, h') ∧ y = (.ok b, ah') ∧ R a b ∧ Inv HS HA h' ah' := by
  obtain ⟨_ | a, h'⟩ := x <;> obtain ⟨_ | b, ah'⟩ := y
  · exact Or.inl ⟨_, _, _, by rw [ho.1], rfl, ho.2⟩
  · exact ho.elim
  · exact ho.elim
  · exact Or.inr ⟨_, _, _, _, rfl, rfl, ho⟩

variable (HS HA) in
abbrev SimEq {α : Type} (m : M α) (am : AM G α) : Prop := Sim (HS := HS) (HA := HA) (fun a b => a = b) m am

variable (HS HA) in
/-- `Sim` from the abstract heap `ah` and any concrete heap related to it -/
def SimAt {α β : Type} (ah : AHeap G) (R : α → β → Prop) (m : M α) (am : AM G β) : Prop :=
  ∀ h, Inv HS HA h ah → Outcome HS HA R (m h) (am ah)

section
variable {α β α' β' : Type} {R : α → β → Prop} {R' : α' → β' → Prop} {m : M α} {am : AM G β}
  {f : α → M α'} {af : β → AM G β'} {ah : AHeap G}

theorem Sim.at (h : Sim (HS := HS) (HA := HA) R m am) (ah : AHeap G) : SimAt HS HA ah R m am :=
  fun hh hi => h hh ah hi

theorem Sim.of_at (h : ∀ ah, SimAt HS HA ah R m am) : Sim (HS := HS) (HA := HA) R m am :=
  fun hh ah hi => h ah hh hi

theorem SimAt.bind (h1 : SimAt HS HA ah R m am)
    (h2 : ∀ a b ah', am ah = (.ok b, ah') → R a b → SimAt HS HA ah' R' (f a) (af b)) :
    SimAt HS HA ah R' (M.bind m f) (AM.bind am af) := by
  intro h hi
  unfold M.bind AM.bind
  rcases (h1 h hi).cases with ⟨e, h', ah', hm, ham, hi'⟩ | ⟨a, b, h', ah', hm, ham, hr, hi'⟩ <;> rw [hm, ham]
  · exact ⟨rfl, hi'⟩
  · exact h2 a b ah' ham hr h' hi'

theorem SimAt.bind_sim (h1 : SimAt HS HA ah R m am) (h2 : ∀ a b, R a b → Sim (HS := HS) (HA := HA) R' (f a) (af b)) :
    SimAt HS HA ah R' (M.bind m f) (AM.bind am af) :=
  h1.bind fun a b ah' _ hr => (h2 a b hr).at ah'

theorem Sim.pure {a : α} {b : β} (h : R a b) : Sim (HS := HS) (HA := HA) R (M.pure a) (AM.pure b) :=
  fun _ _ hi => ⟨h, hi⟩

theorem Sim.raise (e : PyErr) : Sim (HS := HS) (HA := HA) R (M.raise e : M α) (AM.raise e : AM G β) :=
  fun _ _ hi => ⟨rfl, hi⟩

theorem Sim.bind (h1 : Sim (HS := HS) (HA := HA) R m am) (h2 : ∀ a b, R a b → Sim (HS := HS) (HA := HA) R' (f a) (af b)) :
    Sim (HS := HS) (HA := HA) R' (M.bind m f) (AM.bind am af) :=
  Sim.of_at fun ah => (h1.at ah).bind_sim h2

theorem Sim.lift {r : Res α} : SimEq HS HA (M.lift r) (AM.lift r : AM G α) := by
  cases r with
  | error e => exact Sim.raise e
  | ok a => exact Sim.pure rfl

theorem SimAt.lift_bind {r : Res α} {f : α → M α'} {af : α → AM G β'} (h2 : ∀ a, SimAt HS HA ah R' (f a) (af a)) :
    SimAt HS HA ah R' (M.bind (M.lift r) f) (AM.bind (AM.lift r) af) := by
  cases r with
  | error e => exact (Sim.raise e).at ah
  | ok a => exact h2 a

end

theorem Sim.mono {α β} {R R' : α → β → Prop} {m : M α} {am : AM G β} (h : Sim (HS := HS) (HA := HA) R m am)
    (hr : ∀ a b, R a b → R' a b) : Sim (HS := HS) (HA := HA) R' m am := by
  intro hh ah hi
  rcases (h hh ah hi).cases with ⟨e, h', ah', hm, ham, hi'⟩ | ⟨a, b, h', ah', hm, ham, hab, hi'⟩ <;> rw [hm, ham]
  · exact ⟨rfl, hi'⟩
  · exact ⟨hr a b hab, hi'⟩

/-- `P` is `Sim R`, `SimAt ah R`, … -/
theorem ite_both {γ δ : Type} {P : γ → δ → Prop} {p : Prop} [Decidable p] {x x' : γ} {y y' : δ}
    (ht : p → P x y) (hf : ¬p → P x' y') : P (if p then x else x') (if p then y else y') := by
  split
  · exact ht ‹_›
  · exact hf ‹_›

@[simp] theorem M.bind_eq {α β} (m : M α) (f : α → M β) : (m >>= f) = M.bind m f := rfl
@[simp] theorem AM.bind_eq {α β} (m : AM G α) (f : α → AM G β) : (m >>= f) = AM.bind m f := rfl

theorem AM.bind_ok {α β} {m : AM G α} {f : α → AM G β} {ah ah' : AHeap G} {b : β}
    (e : AM.bind m f ah = (.ok b, ah')) : ∃ a ah₁, m ah = (.ok a, ah₁) ∧ f a ah₁ = (.ok b, ah') := by
  unfold AM.bind at e
  rcases hm : m ah with ⟨_ | a, ah₁⟩ <;> rw [hm] at e
  · cases e
  · exact ⟨a, ah₁, rfl, e⟩

theorem AM.bind_run {α β} {m : AM G α} {f : α → AM G β} {ah ah' : AHeap G} {a : α} (e : m ah = (.ok a, ah')) :
    AM.bind m f ah = f a ah' := by
  rw [AM.bind, e]

variable (HS HA) in
inductive RVal : Pt → AVal G → Prop
  | inf : RVal .infinity .inf
  | jac {P : PJ} {t : List (Int × Int)} {g : G} : HS P t g → RVal (.jac P) (.jac g P.order P.generator)
  | aff {A : AffPt} {g : G} : HA A g → RVal (.aff A) (.aff g A.order)

theorem getPt_sim (r : Ref) : Sim (HS := HS) (HA := HA) (RVal HS HA) (getPt r) (agetPt r) := by
  intro h ah hi
  unfold getPt agetPt ptOf aptOf
  cases r with
  | inf => exact ⟨RVal.inf, hi⟩
  | obj i =>
    rcases hi.get i with ⟨h1, h2⟩ | ⟨o, a, h1, h2, hr⟩ <;> simp only [h1, h2]
    · exact ⟨rfl, hi⟩
    · cases hr with
      | pj hs => exact ⟨RVal.jac hs, hi⟩
      | aff ha => exact ⟨RVal.aff ha, hi⟩
      | infc => exact ⟨RVal.inf, hi⟩
      | _ => exact ⟨rfl, hi⟩

theorem agetPt_ok {r : Ref} {ah ah' : AHeap G} {v : AVal G} (e : agetPt r ah = (.ok v, ah')) :
    ah' = ah ∧ aptOf ah r = some v := by
  unfold agetPt at e
  split at e <;> cases e
  exact ⟨rfl, ‹_›⟩

theorem Inv.rval {h : Heap} {ah : AHeap G} (hi : Inv HS HA h ah) {r : Ref} {b : AVal G} (hb : aptOf ah r = some b) :
    ∃ v, RVal HS HA v b := by
  have := getPt_sim r h ah hi
  unfold getPt agetPt at this
  rw [hb] at this
  split at this
  · exact ⟨_, this.1⟩
  · exact this.elim

theorem getPt_bind {α' β'} {R' : α' → β' → Prop} {f : Pt → M α'} {af : AVal G → AM G β'} {ah : AHeap G} (r : Ref)
    (h2 : ∀ v b, RVal HS HA v b → aptOf ah r = some b → SimAt HS HA ah R' (f v) (af b)) :
    SimAt HS HA ah R' (M.bind (getPt r) f) (AM.bind (agetPt r) af) :=
  ((getPt_sim r).at ah).bind fun v b ah' e hv => by
    obtain ⟨rfl, hb⟩ := agetPt_ok e
    exact h2 v b hv hb

def IsPJ (ah : AHeap G) (i : Nat) : Prop := ∃ g o gen, ah[i]? = some (.pj g o gen)

inductive RPJ (r : Ref) : Option PJObj → Option (G × Option Int × Bool) → Prop
  | none : RPJ r none none
  | some {i : Nat} {o : PJObj} {x : G × Option Int × Bool} : r = .obj i → RPJ r (some o) (some x)

theorem getPJ_sim (r : Ref) : Sim (HS := HS) (HA := HA) (RPJ r) (getPJ r) (agetPJ r) := by
  intro h ah hi
  unfold getPJ agetPJ cell
  cases r with
  | inf => exact ⟨RPJ.none, hi⟩
  | obj i =>
    rcases hi.get i with ⟨h1, h2⟩ | ⟨o, a, h1, h2, hr⟩ <;> simp only [h1, h2]
    · exact ⟨RPJ.none, hi⟩
    · cases hr with
      | pj hs => exact ⟨RPJ.some rfl, hi⟩
      | _ => exact ⟨RPJ.none, hi⟩

theorem agetPJ_ok {i : Nat} {ah ah' : AHeap G} {x : G × Option Int × Bool}
    (e : agetPJ (.obj i) ah = (.ok (some x), ah')) : ah' = ah ∧ IsPJ ah i := by
  simp only [agetPJ] at e
  split at e <;> cases e
  exact ⟨rfl, _, _, _, ‹_›⟩

theorem getHeap_sim : Sim (HS := HS) (HA := HA) (fun h ah => Inv HS HA h ah) M.getHeap (AM.getHeap (G := G)) := by
  intro h ah hi; exact ⟨hi, hi⟩

theorem alloc_sim {o : Obj} {a : AObj G} (hr : Rel HS HA o a) : SimEq HS HA (M.alloc o) (AM.alloc a) := by
  intro h ah hi
  exact ⟨by rw [hi.length], hi.append hr⟩

theorem setCell_sim (i : Nat) {o : Obj} {a : AObj G} (hr : Rel HS HA o a) :
    SimEq HS HA (M.setCell i o) (AM.setCell i a) := by
  intro h ah hi
  exact ⟨rfl, hi.set i hr⟩

theorem getKey_sim (k : Nat) : SimEq HS HA (getKey k) (agetKey (G := G) k) := by
  intro h ah hi
  unfold getKey agetKey
  rcases hi.get k with ⟨h1, h2⟩ | ⟨o, a, h1, h2, hr⟩ <;> simp only [h1, h2]
  · exact ⟨rfl, hi⟩
  · cases hr <;> exact ⟨rfl, hi⟩

theorem agetKey_ok {k : Nat} {ah ah' : AHeap G} {x : Ref × Ref} (e : agetKey k ah = (.ok x, ah')) :
    ah' = ah ∧ ah[k]? = some (.key x.1 x.2) := by
  unfold agetKey at e
  split at e <;> cases e
  exact ⟨rfl, ‹_›⟩

/-- a state transformer against its abstract counterpart on the value: the new state is again a hidden state of `g` with
the same attributes -/
def StateSim {α β} (HS : PJ → List (Int × Int) → G → Prop) (R : α → β → Prop) (o : PJObj) (g : G) :
    Res (PJObj × α) → Res β → Prop
  | .ok (o', a), .ok b => R a b ∧ HS o'.val o'.table g ∧ o'.val.order = o.val.order ∧ o'.val.generator = o.val.generator
  | .error e, .error e' => e = e'
  | _, _ => False

theorem StateSim.ok {α β} {R : α → β → Prop} {o o' : PJObj} {g : G} {a : α} {b : β} (hr : R a b)
    (hs : HS o'.val o'.table g) (ho : o'.val.order = o.val.order) (hg : o'.val.generator = o.val.generator) :
    StateSim HS R o g (.ok (o', a)) (.ok b) := ⟨hr, hs, ho, hg⟩

theorem StateSim.error {α β} {R : α → β → Prop} {o : PJObj} {g : G} (e : PyErr) :
    StateSim (α := α) (β := β) HS R o g (.error e) (.error e) := rfl

/-- the one place where hidden state changes; the abstract heap does not move -/
theorem updPJ_sim {α β} {R : α → β → Prop} (i : Nat) {f : PJObj → Res (PJObj × α)} {af : G → Option Int → Bool → Res β}
    (hf : ∀ (o : PJObj) (g : G), HS o.val o.table g → StateSim HS R o g (f o) (af g o.val.order o.val.generator)) :
    Sim (HS := HS) (HA := HA) R (updPJ i f) (aupdPJ i af) := by
  intro h ah hi
  unfold updPJ aupdPJ
  rcases hi.get i with ⟨h1, h2⟩ | ⟨o, a, h1, h2, hr⟩ <;> simp only [h1, h2]
  · exact ⟨rfl, hi⟩
  · cases hr with
    | @pj o g hs =>
      have := hf o g hs
      rcases hfo : f o with _ | ⟨o', a⟩ <;> rcases hafo : af g o.val.order o.val.generator with _ | b <;>
        simp only [hfo, hafo, StateSim, Outcome] at this ⊢
      · exact ⟨this, hi⟩
      · obtain ⟨hR, hs', ho, hg⟩ := this
        -- the cell is rewritten on the concrete side only: the abstract object stays, and still describes `o'`
        have hset := hi.set i (ho ▸ hg ▸ Rel.pj (HS := HS) (HA := HA) (o := o') hs')
        rw [list_set_same _ _ _ h2] at hset
        exact ⟨hR, hset⟩
    | _ => exact ⟨rfl, hi⟩

theorem aupdPJ_heap {α} {i : Nat} {f : G → Option Int → Bool → Res α} {ah ah' : AHeap G} {r : Res α}
    (e : aupdPJ i f ah = (r, ah')) : ah' = ah := by
  unfold aupdPJ at e
  split at e
  · split at e <;> (cases e; rfl)
  · cases e; rfl

theorem updPJ_bind {α β α' β'} {R : α → β → Prop} {R' : α' → β' → Prop} (i : Nat) {f : PJObj → Res (PJObj × α)}
    {af : G → Option Int → Bool → Res β} {k : α → M α'} {ak : β → AM G β'} {ah : AHeap G}
    (hf : ∀ (o : PJObj) (g : G), HS o.val o.table g → StateSim HS R o g (f o) (af g o.val.order o.val.generator))
    (h2 : ∀ a b, R a b → SimAt HS HA ah R' (k a) (ak b)) :
    SimAt HS HA ah R' (M.bind (updPJ i f) k) (AM.bind (aupdPJ i af) ak) :=
  ((updPJ_sim i hf).at ah).bind fun a b ah' e hr => by
    cases aupdPJ_heap e
    exact h2 a b hr

theorem allocPt_sim {v : Pt} {g : G} {order : Option Int} (hv : RFresh HS v g order) :
    SimEq HS HA (allocPt v) (aallocPJ g order) := by
  unfold aallocPJ
  rcases hv with ⟨rfl, rfl⟩ | ⟨J, rfl, hne, hs, rfl, hg⟩
  · rw [if_pos rfl]; exact Sim.pure rfl
  · rw [if_neg hne]
    exact alloc_sim (hg ▸ Rel.pj (HS := HS) (HA := HA) (o := ⟨J, []⟩) hs)

end PointObj
