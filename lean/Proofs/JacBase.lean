import Mathlib.AlgebraicGeometry.EllipticCurve.Jacobian.Point
import Mathlib.Tactic.LinearCombination
import Mathlib.Tactic.FieldSimp
/-!
# Proofs.JacBase — the denotation layer of C06/C07 (field level)

The group is Mathlib's: nonsingular affine points of y² = x³ + ax + b with the chord-and-tangent law.  The code reads a
Jacobian triple with **Y = 0 or Z = 0 as the identity** (known finding K1: a genuine point with y = 0, of order 2, is read
as the identity), so theorems are for subgroups `H` without an element of order 2 (`NoOrder2 H`, N2T in DESIGN.md);
`g ∈ H` is part of every predicate so that N2T applies to each intermediate result.

The "represents `g`" predicates (A ⇒ B: a proof of A gives one of B):
* field triples (here): `Good` (g ≠ 0) ⇒ `Rep` (`Good`, or Y = 0 ∨ Z = 0 and g = 0);
* integer triples (JacRep): `IRep` = `Rep` of the residues + integer zero tests agree with the field; in the loops
  (MulNaf) `AccRep` = `IRep` + all coordinates in [0, p) ⇒ `OpRep` = `IRep` + X, Z in [0, p);
* model values (GroupObj): `PJRep` (stored `PointJacobi`, `Good`) and `AffRep` (legacy `Point`) make up `PtRep`;
  `EntryRep` (MulTable) is `AffRep` without curve and order; identity-valued objects admitted (GroupObj0):
  `PJRep` ⇒ `PJRep0` (`Rep`) ⇒ `IRep`, `PtRep` ⇒ `PtRep0`, `PJRep0` with g ≠ 0 ⇒ `PJRep`; `Reading` covers both pairs;
* with the declared order (MulAll): `MulOK` ⇒ `PJRep`, `MulOK` ⇒ `MulOK0` ⇒ `PJRep0`.
-/
namespace Jac
open WeierstrassCurve WeierstrassCurve.Jacobian

variable {F : Type*} [Field F] [DecidableEq F]

def shortW (a b : F) : WeierstrassCurve.Jacobian F := ⟨0, 0, 0, a, b⟩

abbrev Grp (a b : F) := (shortW a b).toAffine.Point

/-- N2T: the subgroup contains no element of order two -/
def NoOrder2 {a b : F} (H : AddSubgroup (Grp a b)) : Prop := ∀ g ∈ H, g + g = 0 → g = 0

theorem noOrder2_of_odd {a b : F} {H : AddSubgroup (Grp a b)} {n : ℤ} (hodd : n % 2 = 1)
    (hn : ∀ g ∈ H, n • g = 0) : NoOrder2 H := by
  intro g hg h2
  obtain ⟨q, rfl⟩ : ∃ q, n = q * 2 + 1 := ⟨n / 2, by omega⟩
  have h := hn g hg
  rwa [add_smul, one_smul, mul_smul, two_smul, h2, smul_zero, zero_add] at h

def Rep (a b : F) (H : AddSubgroup (Grp a b)) (P : Fin 3 → F) (g : Grp a b) : Prop :=
  g ∈ H ∧ (((P 1 = 0 ∨ P 2 = 0) ∧ g = 0) ∨
    (P 1 ≠ 0 ∧ P 2 ≠ 0 ∧ (shortW a b).Nonsingular P ∧ Point.toAffine (shortW a b) P = g))

def Good (a b : F) (H : AddSubgroup (Grp a b)) (P : Fin 3 → F) (g : Grp a b) : Prop :=
  g ∈ H ∧ P 1 ≠ 0 ∧ P 2 ≠ 0 ∧ (shortW a b).Nonsingular P ∧ Point.toAffine (shortW a b) P = g

namespace Good
variable {a b : F} {H : AddSubgroup (Grp a b)} {P : Fin 3 → F} {g : Grp a b} (h : Good a b H P g)
include h

theorem y_ne : P 1 ≠ 0 := h.2.1
theorem z_ne : P 2 ≠ 0 := h.2.2.1
theorem equation : (shortW a b).Equation P := h.2.2.2.1.left
theorem toAffine_eq : Point.toAffine (shortW a b) P = g := h.2.2.2.2
theorem rep : Rep a b H P g := ⟨h.1, Or.inr h.2⟩

end Good

theorem rep_zero_of {a b : F} (H : AddSubgroup (Grp a b)) {P : Fin 3 → F} (h : P 1 = 0 ∨ P 2 = 0) :
    Rep a b H P 0 := ⟨H.zero_mem, Or.inl ⟨h, rfl⟩⟩

theorem Rep.cases {a b : F} {H : AddSubgroup (Grp a b)} {P : Fin 3 → F} {g : Grp a b}
    (h : Rep a b H P g) : ((P 1 = 0 ∨ P 2 = 0) ∧ g = 0) ∨ Good a b H P g := by
  rcases h with ⟨hm, h | h⟩
  · exact Or.inl h
  · exact Or.inr ⟨hm, h⟩

theorem Rep.good {a b : F} {H : AddSubgroup (Grp a b)} {P : Fin 3 → F} {g : Grp a b}
    (h : Rep a b H P g) (h1 : P 1 ≠ 0) (h2 : P 2 ≠ 0) : Good a b H P g := by
  rcases h.cases with ⟨h0, _⟩ | h
  · rcases h0 with h0 | h0
    · exact absurd h0 h1
    · exact absurd h0 h2
  · exact h

theorem Rep.eq_zero {a b : F} {H : AddSubgroup (Grp a b)} {P : Fin 3 → F} {g : Grp a b}
    (h : Rep a b H P g) (h0 : P 1 = 0 ∨ P 2 = 0) : g = 0 := by
  rcases h.cases with ⟨_, hg⟩ | h
  · exact hg
  · rcases h0 with h0 | h0
    · exact absurd h0 h.y_ne
    · exact absurd h0 h.z_ne

theorem toAffine_order_two {a b : F} {P : Fin 3 → F} (hP : (shortW a b).Nonsingular P) (hz : P 2 ≠ 0)
    (hy : P 1 = 0) :
    Point.toAffine (shortW a b) P + Point.toAffine (shortW a b) P = 0 ∧ Point.toAffine (shortW a b) P ≠ 0 := by
  rw [Point.toAffine_of_Z_ne_zero hP hz]
  constructor
  · apply Affine.Point.add_of_Y_eq rfl
    simp [Affine.negY, shortW, hy]
  · exact Affine.Point.some_ne_zero _

theorem rep_of_nonsingular {a b : F} {H : AddSubgroup (Grp a b)} (hH : NoOrder2 H) {P : Fin 3 → F}
    (hP : (shortW a b).Nonsingular P) (hm : Point.toAffine (shortW a b) P ∈ H) :
    Rep a b H P (Point.toAffine (shortW a b) P) := by
  refine ⟨hm, ?_⟩
  by_cases hz : P 2 = 0
  · exact Or.inl ⟨Or.inr hz, Point.toAffine_of_Z_eq_zero hz⟩
  · by_cases hy : P 1 = 0
    · have h2 := toAffine_order_two hP hz hy
      exact absurd (hH _ hm h2.1) h2.2
    · exact Or.inr ⟨hy, hz, hP, rfl⟩

/-- Mathlib's `add` is `addXYZ`, or `dblXYZ` for equivalent operands -/
theorem rep_add {a b : F} {H : AddSubgroup (Grp a b)} (hH : NoOrder2 H) {P Q R : Fin 3 → F}
    {g h : Grp a b} (hP : Good a b H P g) (hQ : Good a b H Q h) {u : F} (hu : IsUnit u)
    (hR : R = u • (shortW a b).add P Q) : Rep a b H R (g + h) := by
  obtain ⟨hg, _, _, nP, rfl⟩ := hP
  obtain ⟨hh, _, _, nQ, rfl⟩ := hQ
  have hns : (shortW a b).Nonsingular R := by
    rw [hR, nonsingular_smul _ hu]; exact nonsingular_add nP nQ
  have hval : Point.toAffine (shortW a b) R
      = Point.toAffine (shortW a b) P + Point.toAffine (shortW a b) Q := by
    rw [hR, Point.toAffine_smul _ hu, Point.toAffine_add nP nQ]
  rw [← hval]
  exact rep_of_nonsingular hH hns (hval ▸ H.add_mem hg hh)

theorem rep_add_generic {a b : F} {H : AddSubgroup (Grp a b)} (hH : NoOrder2 H) {P Q R : Fin 3 → F}
    {g h : Grp a b} (hP : Good a b H P g) (hQ : Good a b H Q h) (hne : ¬ P ≈ Q) {u : F} (hu : IsUnit u)
    (hR : R = u • (shortW a b).addXYZ P Q) : Rep a b H R (g + h) :=
  rep_add hH hP hQ hu (by rw [add_of_not_equiv hne]; exact hR)

theorem rep_double {a b : F} {H : AddSubgroup (Grp a b)} (hH : NoOrder2 H) {P R : Fin 3 → F}
    {g : Grp a b} (hP : Good a b H P g) (hR : R = (shortW a b).dblXYZ P) : Rep a b H R (g + g) :=
  rep_add hH hP hP isUnit_one (by rw [add_of_equiv (Setoid.refl P), one_smul]; exact hR)

theorem good_equiv_iff {a b : F} {H : AddSubgroup (Grp a b)} {P Q : Fin 3 → F} {g h : Grp a b}
    (hP : Good a b H P g) (hQ : Good a b H Q h) : P ≈ Q ↔ g = h := by
  obtain ⟨_, _, zP, nP, rfl⟩ := hP
  obtain ⟨_, _, zQ, nQ, rfl⟩ := hQ
  constructor
  · exact Point.toAffine_of_equiv
  · intro e
    rw [Point.toAffine_of_Z_ne_zero nP zP, Point.toAffine_of_Z_ne_zero nQ zQ,
      Affine.Point.some.injEq] at e
    obtain ⟨ex, ey⟩ := e
    exact equiv_of_X_eq_of_Y_eq zP zQ ((div_eq_div_iff (pow_ne_zero 2 zP) (pow_ne_zero 2 zQ)).mp ex)
      ((div_eq_div_iff (pow_ne_zero 3 zP) (pow_ne_zero 3 zQ)).mp ey)

omit [DecidableEq F] in
theorem equiv_iff_cross {P Q : Fin 3 → F} (zP : P 2 ≠ 0) (zQ : Q 2 ≠ 0) :
    P ≈ Q ↔ (P 0 * Q 2 ^ 2 = Q 0 * P 2 ^ 2 ∧ P 1 * Q 2 ^ 3 = Q 1 * P 2 ^ 3) :=
  ⟨fun h => ⟨X_eq_of_equiv h, Y_eq_of_equiv h⟩, fun h => equiv_of_X_eq_of_Y_eq zP zQ h.1 h.2⟩

theorem good_neg {a b : F} {H : AddSubgroup (Grp a b)} {P : Fin 3 → F} {g : Grp a b}
    (hP : Good a b H P g) : Good a b H ![P 0, -P 1, P 2] (-g) := by
  obtain ⟨hg, yP, zP, nP, rfl⟩ := hP
  have hneg : (shortW a b).neg P = ![P 0, -P 1, P 2] := by
    simp [Jacobian.neg, negY, shortW]
  refine ⟨H.neg_mem hg, ?_, ?_, ?_, ?_⟩
  · simpa using yP
  · simpa using zP
  · rw [← hneg]; exact nonsingular_neg nP
  · rw [← hneg]; exact Point.toAffine_neg nP

theorem rep_neg {a b : F} {H : AddSubgroup (Grp a b)} {P : Fin 3 → F} {g : Grp a b}
    (hP : Rep a b H P g) : Rep a b H ![P 0, -P 1, P 2] (-g) := by
  rcases hP.cases with ⟨h0, rfl⟩ | h
  · rw [neg_zero]; apply rep_zero_of
    rcases h0 with h0 | h0
    · left; simp [h0]
    · right; simpa using h0
  · exact (good_neg h).rep

theorem Rep.congr {a b : F} {H : AddSubgroup (Grp a b)} {P Q : Fin 3 → F} {g : Grp a b}
    (h : Rep a b H P g) (e : P = Q) : Rep a b H Q g := e ▸ h

theorem good_smul {a b : F} {H : AddSubgroup (Grp a b)} {P : Fin 3 → F} {g : Grp a b}
    (hP : Good a b H P g) {u : F} (hu : u ≠ 0) : Good a b H ![u ^ 2 * P 0, u ^ 3 * P 1, u * P 2] g := by
  obtain ⟨hg, yP, zP, nP, rfl⟩ := hP
  have hs : u • P = ![u ^ 2 * P 0, u ^ 3 * P 1, u * P 2] := smul_fin3 P u
  refine ⟨?_, ?_, ?_, ?_, ?_⟩
  · exact hg
  · simpa using ⟨hu, yP⟩
  · simpa using ⟨hu, zP⟩
  · rw [← hs]; exact (nonsingular_smul _ hu.isUnit).mpr nP
  · rw [← hs]; exact Point.toAffine_smul _ hu.isUnit

theorem good_of_affine {a b : F} {H : AddSubgroup (Grp a b)} {x y : F}
    (h : (shortW a b).toAffine.Nonsingular x y) (hm : Affine.Point.some x y h ∈ H) (hy : y ≠ 0) :
    Good a b H ![x, y, 1] (Affine.Point.some x y h) := by
  have hn : (shortW a b).Nonsingular ![x, y, 1] := (nonsingular_some ..).mpr h
  refine ⟨hm, by simpa using hy, by simp, hn, ?_⟩
  rw [Point.toAffine_some hn]

end Jac
