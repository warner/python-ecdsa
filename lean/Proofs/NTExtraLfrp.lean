import Model.NumberTheoryExtra
import Proofs.NTInv
import Proofs.NTGcd
import Mathlib.Data.Nat.GCD.Basic
import Mathlib.Tactic.Linarith
/-! deprecated helpers (C16x), part 4: `largest_factor_relatively_prime` -/
namespace NTXProofs
open NT NTX NTProofs

theorem lfrpInner_spec (d : ℕ) (hd : 2 ≤ d) : ∀ (fuel a : ℕ), 1 ≤ a → a < fuel →
    ∃ (k a' : ℕ), lfrpInner d fuel a = some (a' : ℤ) ∧ a = d ^ k * a' ∧ 1 ≤ a' ∧ ¬ d ∣ a' := by
  intro fuel
  induction fuel with
  | zero => intro a _ h; omega
  | succ f ih =>
    intro a ha hf
    have hdpos : (0 : ℤ) < d := by omega
    rw [lfrpInner, pmod_eq_emod hdpos, pdiv_eq_ediv hdpos, ← Int.natCast_mod, ← Int.natCast_div]
    by_cases hdvd : d ∣ a
    · obtain ⟨q, rfl⟩ := hdvd
      have hq : 0 < q := Nat.pos_of_mul_pos_left ha
      rw [Nat.mul_mod_right, if_neg (by decide), Nat.mul_div_cancel_left q (by omega)]
      obtain ⟨k, a', h1, h2, h3, h4⟩ := ih q hq (by have := Nat.mul_le_mul_right q hd; omega)
      exact ⟨k + 1, a', h1, by rw [h2, pow_succ]; ring, h3, h4⟩
    · rw [if_pos (by exact_mod_cast Nat.pos_of_ne_zero (mt Nat.dvd_of_mod_eq_zero hdvd))]
      exact ⟨0, a, rfl, by simp, ha, hdvd⟩

/-- for `a = 0` no budget suffices: the real loop never ends -/
theorem lfrpInner_zero (d : ℤ) : ∀ fuel, lfrpInner d fuel 0 = none := by
  intro fuel
  induction fuel with
  | zero => rfl
  | succ f ih =>
    unfold lfrpInner
    have : ¬ pmod 0 d > 0 := by simp [pmod]
    rw [if_neg this]
    have : pdiv 0 d = 0 := by simp [pdiv]
    rw [this]; exact ih

theorem lfrpOuter_spec : ∀ (fuel a b : ℕ), 1 ≤ a → Nat.gcd a b < fuel →
    ∃ r : ℕ, lfrpOuter fuel a b = .ok (r : ℤ) ∧ 1 ≤ r ∧ r ∣ a ∧ Nat.Coprime r b ∧
      ∀ e : ℕ, e ∣ a → Nat.Coprime e b → e ∣ r := by
  intro fuel
  induction fuel with
  | zero => intro a b _ h; omega
  | succ f ih =>
    intro a b ha hf
    unfold lfrpOuter
    simp only [gcd2_nat]
    by_cases hd : Nat.gcd a b ≤ 1
    · rw [if_pos (by exact_mod_cast hd)]
      have hg : Nat.gcd a b = 1 := by
        have := Nat.gcd_pos_of_pos_left b (show 0 < a by omega); omega
      exact ⟨a, rfl, ha, dvd_refl _, hg, fun e he _ => he⟩
    · rw [if_neg (by exact_mod_cast hd)]
      set d := Nat.gcd a b with hdef
      have hd2 : 2 ≤ d := by omega
      obtain ⟨k, a', h1, h2, h3, h4⟩ := lfrpInner_spec d hd2 ((a : ℤ).natAbs + 1) a ha (by simp)
      rw [h1]
      simp only []
      have hda : d ∣ a := Nat.gcd_dvd_left a b
      have hdb : d ∣ b := Nat.gcd_dvd_right a b
      have hlt : Nat.gcd a' d < d := by
        have hle := Nat.le_of_dvd (by omega) (Nat.gcd_dvd_right a' d)
        rcases Nat.lt_or_ge (Nat.gcd a' d) d with h | h
        · exact h
        · exfalso
          have : Nat.gcd a' d = d := by omega
          exact h4 (this ▸ Nat.gcd_dvd_left a' d)
      obtain ⟨r, hr, r1, r2, r3, r4⟩ := ih a' d h3 (by omega)
      refine ⟨r, hr, r1, ?_, ?_, ?_⟩
      · exact Dvd.dvd.trans r2 ⟨d ^ k, by rw [h2]; ring⟩
      · -- gcd(r, b) | gcd(a, b) = d and | r, so | gcd(r, d) = 1
        have hra : r ∣ a := Dvd.dvd.trans r2 ⟨d ^ k, by rw [h2]; ring⟩
        have h' : Nat.gcd r b ∣ d := Nat.dvd_gcd (Dvd.dvd.trans (Nat.gcd_dvd_left r b) hra) (Nat.gcd_dvd_right r b)
        have h'' : Nat.gcd r b ∣ Nat.gcd r d := Nat.dvd_gcd (Nat.gcd_dvd_left r b) h'
        rw [r3] at h''
        exact Nat.dvd_one.mp h''
      · intro e hea heb
        have hed : Nat.Coprime e d := Nat.Coprime.coprime_dvd_right hdb heb
        have hea' : e ∣ a' := by
          rw [h2] at hea
          exact (Nat.Coprime.dvd_mul_left (Nat.Coprime.pow_right k hed)).mp hea
        exact r4 e hea' hed

theorem lfrpOuter_zero_small (f : ℕ) (b : ℤ) (h : b.natAbs ≤ 1) : lfrpOuter (f + 1) 0 b = .ok 0 := by
  unfold lfrpOuter
  have : gcd2 0 b = (b.natAbs : ℤ) := by simp [gcd2]
  rw [this, if_pos (by exact_mod_cast h)]

theorem lfrpOuter_zero_big (f : ℕ) (b : ℤ) (h : 2 ≤ b.natAbs) : lfrpOuter (f + 1) 0 b = .error .other := by
  unfold lfrpOuter
  have : gcd2 0 b = (b.natAbs : ℤ) := by simp [gcd2]
  rw [this, if_neg (by omega), lfrpInner_zero]

end NTXProofs
