import Generated.UtilGuards
import Proofs.UtilSkel
import Proofs.UtilNum
/-!
# Proofs.UtilTie — the tests and integer expressions of the codec part of `Model/Util.lean` are the ones
`harness/translate/gen_der.py` extracts from the current `src/ecdsa/util.py` (`Generated/UtilGuards.lean`).
-/
namespace C12.Tie
open Gen.UtilCodec Util

theorem skeleton :
    skel_orderlen = Util.Skel.orderlen ∧ skel_number_to_string = Util.Skel.number_to_string
    ∧ skel_number_to_string_crop = Util.Skel.number_to_string_crop ∧ skel_string_to_number = Util.Skel.string_to_number
    ∧ skel_string_to_number_fixedlen = Util.Skel.string_to_number_fixedlen
    ∧ skel_sigencode_strings = Util.Skel.sigencode_strings ∧ skel_sigencode_string = Util.Skel.sigencode_string
    ∧ skel_sigencode_der = Util.Skel.sigencode_der ∧ skel_sigdecode_string = Util.Skel.sigdecode_string
    ∧ skel_sigdecode_strings = Util.Skel.sigdecode_strings ∧ skel_sigdecode_der = Util.Skel.sigdecode_der :=
  ⟨rfl, rfl, rfl, rfl, rfl, rfl, rfl, rfl, rfl, rfl, rfl⟩

/-- `orderlen` is the generated expression at `len("%x" % order) = hexLen order` -/
theorem orderlen_expr (order : Nat) : ((orderlen order : Nat) : Int) = orderlen_ret0 (hexLen order) := by
  simp only [orderlen, orderlen_ret0]
  rw [Int.fdiv_eq_ediv_of_nonneg _ (by omega)]
  omega

/-- the generated tests compare Python integers, the model lengths: the same test on the casts -/
theorem decide_cast_eq (a b : Nat) : decide ((a : Int) = (b : Int)) = decide (a = b) :=
  decide_eq_decide.2 Int.natCast_inj

theorem not_decide_cast_eq (a b : Nat) : (!decide ((a : Int) = (b : Int))) = decide (a ≠ b) := by
  rw [decide_cast_eq, decide_not]

theorem number_to_string_guards (l len : Nat) :
    ((2 * l : Nat) : Int) = number_to_string_e0 l ∧ ((2 * l : Nat) : Int) = number_to_string_crop_e0 l
    ∧ decide (len = l) = number_to_string_assert0 len l
    ∧ decide (len = l) = string_to_number_fixedlen_assert0 len l :=
  ⟨Int.natCast_mul 2 l, Int.natCast_mul 2 l, (decide_cast_eq len l).symm, (decide_cast_eq len l).symm⟩

theorem sigdecode_guards (len l : Nat) :
    decide (len ≠ 2 * l) = sigdecode_string_if0 len l
    ∧ decide (len ≠ 2) = sigdecode_strings_if0 len
    ∧ decide (len ≠ l) = sigdecode_strings_if1 len l
    ∧ decide (len ≠ l) = sigdecode_strings_if2 len l :=
  ⟨(not_decide_cast_eq len (2 * l)).symm, (not_decide_cast_eq len 2).symm, (not_decide_cast_eq len l).symm,
    (not_decide_cast_eq len l).symm⟩

end C12.Tie
