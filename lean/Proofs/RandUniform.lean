import Proofs.Bits
/-!
# Proofs.RandUniform — one iteration of `randrange` in arithmetic form, and the exact count of chunks per target
-/
namespace Rand
open Bits

/-- each byte string of length `l` once, in numeric order -/
def allChunks (l : Nat) : List Bytes := (List.range (256 ^ l)).map (beFixed l)

theorem mem_allChunks (l : Nat) (c : Bytes) : c ∈ allChunks l ↔ c.length = l := by
  simp only [allChunks, List.mem_map, List.mem_range]
  constructor
  · rintro ⟨v, _, rfl⟩
    exact beFixed_length l v
  · rintro rfl
    exact ⟨beVal c, beVal_lt c, beFixed_beVal c⟩

theorem allChunks_length (l : Nat) : (allChunks l).length = 256 ^ l := by simp [allChunks]

theorem allChunks_nodup (l : Nat) : (allChunks l).Nodup := by
  unfold allChunks List.Nodup
  rw [List.pairwise_map]
  refine List.Pairwise.imp_of_mem ?_ (List.nodup_range (n := 256 ^ l))
  intro a b ha hb hne hab
  have := congrArg beVal hab
  rw [beVal_beFixed, beVal_beFixed, Nat.mod_eq_of_lt (List.mem_range.1 ha), Nat.mod_eq_of_lt (List.mem_range.1 hb)] at this
  exact hne this

/-- `[0, lo + len + r)` is `[0, lo)`, then the `len` numbers of `[lo, lo + len)`, then `r` more -/
theorem count_range_block (lo len r : Nat) :
    ((List.range (lo + len + r)).filter (fun v => decide (lo ≤ v ∧ v < lo + len))).length = len := by
  have h1 : (List.range lo).filter (fun v => decide (lo ≤ v ∧ v < lo + len)) = [] :=
    List.filter_eq_nil_iff.2 fun v hv => by
      have := List.mem_range.1 hv
      rw [decide_eq_true_eq]; omega
  have h2 : ((List.range len).map (lo + ·)).filter (fun v => decide (lo ≤ v ∧ v < lo + len)) = (List.range len).map (lo + ·) :=
    List.filter_eq_self.2 fun v hv => by
      obtain ⟨i, hi, rfl⟩ := List.mem_map.1 hv
      have := List.mem_range.1 hi
      rw [decide_eq_true_eq]; omega
  have h3 : ((List.range r).map (lo + len + ·)).filter (fun v => decide (lo ≤ v ∧ v < lo + len)) = [] :=
    List.filter_eq_nil_iff.2 fun v hv => by
      obtain ⟨i, _, rfl⟩ := List.mem_map.1 hv
      rw [decide_eq_true_eq]; omega
  rw [List.range_add, List.range_add, List.filter_append, List.filter_append, h1, h2, h3, List.append_nil, List.nil_append,
    List.length_map, List.length_range]

theorem count_div_eq (m q r : Nat) (hm : 0 < m) :
    ((List.range ((q + 1 + r) * m)).filter (fun v => decide (v / m = q))).length = m := by
  have hp : (fun v => decide (v / m = q)) = fun v => decide (q * m ≤ v ∧ v < q * m + m) :=
    funext fun v => decide_eq_decide.2 (by rw [Nat.div_eq_iff hm]; omega)
  rw [hp, Nat.add_mul, Nat.succ_mul]
  exact count_range_block _ _ _

theorem zfill_binDigitsAux (w v : Nat) (hv : v < 2 ^ w) : zfill (binDigitsAux v) w = natBits w v := by
  induction w generalizing v with
  | zero =>
    have : v = 0 := by simpa using hv
    subst this; simp [zfill, binDigitsAux, natBits]
  | succ w ih =>
    rcases Nat.eq_zero_or_pos v with rfl | hpos
    · rw [natBits_zero]; simp [zfill, binDigitsAux]
    · obtain ⟨u, rfl⟩ : ∃ u, v = u + 1 := ⟨v - 1, by omega⟩
      rw [binDigitsAux, natBits, ← ih ((u + 1) / 2) (by rw [Nat.pow_succ] at hv; omega)]
      simp only [zfill, List.length_append, List.length_singleton, List.append_assoc]
      congr 2; omega

theorem entropyToBits_eq (c : Bytes) (hc : c ≠ []) : entropyToBits c = natBits (c.length * 8) (beVal c) := by
  unfold entropyToBits binDigits
  split
  · -- `bin(0)[2:]` is `"0"`, not `""`: one of the `8·len` zeros
    rename_i h0
    have : c.length * 8 = (c.length * 8 - 1) + 1 := by have := List.length_pos_iff.2 hc; omega
    rw [h0, natBits_zero, this, List.replicate_succ']
    rfl
  · exact zfill_binDigitsAux _ _ (beVal_lt_two_pow c)

/-- `int(ent_2[:upper_2], 2)` -/
def topBits (order : Int) (c : Bytes) : Nat := beVal c / 2 ^ (c.length * 8 - upper2 order)

theorem upper2_pos (order : Int) : 0 < upper2 order := by
  unfold upper2 bitLength1; split <;> omega

theorem oneDraw_eq (order : Int) (c : Bytes) (hc : c ≠ []) :
    oneDraw order c = if ((topBits order c + 1 : Nat) : Int) < order then .ok (some (topBits order c + 1)) else .ok none := by
  have hne : ((natBits (c.length * 8) (beVal c)).take (upper2 order)).isEmpty = false := by
    rw [List.isEmpty_eq_false_iff, ← List.length_pos_iff, List.length_take, natBits_length]
    have := upper2_pos order
    have := List.length_pos_iff.2 hc
    omega
  have hval : bitsVal ((natBits (c.length * 8) (beVal c)).take (upper2 order)) = topBits order c := by
    rw [bitsVal_take, bitsVal_natBits, natBits_length, Nat.mod_eq_of_lt (beVal_lt_two_pow c)]
    rfl
  unfold oneDraw
  rw [entropyToBits_eq c hc]
  simp only [intBase2, hne, Bool.false_eq_true, if_false, bind, Except.bind, hval, Nat.succ_pos, true_and]

theorem ne_nil_of_length_eq_upper256 {order : Int} {c : Bytes} (hc : c.length = upper256 order) : c ≠ [] :=
  List.ne_nil_of_length_pos (by rw [hc]; exact Nat.succ_pos _)

theorem oneDraw_total (order : Int) (c : Bytes) (hc : c.length = upper256 order) :
    (∃ t, oneDraw order c = .ok (some t) ∧ t = topBits order c + 1 ∧ 1 ≤ t ∧ (t : Int) < order)
    ∨ (oneDraw order c = .ok none ∧ order ≤ (topBits order c + 1 : Nat)) := by
  rw [oneDraw_eq order c (ne_nil_of_length_eq_upper256 hc)]
  split
  · exact .inl ⟨_, rfl, rfl, Nat.succ_pos _, ‹_›⟩
  · exact .inr ⟨rfl, Int.not_lt.1 ‹_›⟩

/-- a sweep of the chunks of the requested length, with the draw in the arithmetic form that evaluates -/
theorem filter_allChunks_oneDraw (n : Int) (r : Res (Option Nat)) :
    (allChunks (upper256 n)).filter (fun c => decide (oneDraw n c = r)) =
    (allChunks (upper256 n)).filter (fun c => decide
      ((if ((topBits n c + 1 : Nat) : Int) < n then .ok (some (topBits n c + 1)) else .ok none) = r)) :=
  List.filter_congr fun c hc => by rw [oneDraw_eq n c (ne_nil_of_length_eq_upper256 ((mem_allChunks _ c).1 hc))]

theorem lt_two_pow_upper2 (order : Int) : (order - 2).toNat < 2 ^ upper2 order := by
  unfold upper2 bitLength1
  split
  · rename_i h
    rw [(bitLength_eq_zero_iff _).1 h]
    decide
  · exact lt_two_pow_bitLength _

/-- the number of chunks of the requested length with the same top bits -/
def perTarget (order : Int) : Nat := 2 ^ (upper256 order * 8 - upper2 order)

theorem pow_split (order : Int) : 256 ^ upper256 order = 2 ^ upper2 order * perTarget order := by
  unfold perTarget upper256
  rw [pow256_two, ← Nat.pow_add]
  congr 1
  omega

/-- the chunk with value `v` has top bits `v / perTarget`, and `t − 1` is one of the `2^bits` quotients because
`order − 2 < 2^bits` -/
theorem count_target (order : Int) (t : Nat) (h1 : 1 ≤ t) (h2 : (t : Int) < order) :
    ((allChunks (upper256 order)).filter (fun c => decide (oneDraw order c = .ok (some t)))).length = perTarget order := by
  have hcongr : ∀ v ∈ List.range (256 ^ upper256 order),
      ((fun c => decide (oneDraw order c = .ok (some t))) ∘ beFixed (upper256 order)) v = decide (v / perTarget order = t - 1) := by
    intro v hv
    have htop : topBits order (beFixed (upper256 order) v) = v / perTarget order := by
      unfold topBits perTarget
      rw [beVal_beFixed, beFixed_length, Nat.mod_eq_of_lt (List.mem_range.1 hv)]
    apply decide_eq_decide.2
    rw [oneDraw_eq order _ (ne_nil_of_length_eq_upper256 (beFixed_length _ v)), htop]
    split
    · rw [Except.ok.injEq, Option.some.injEq]; omega
    · constructor
      · intro h; cases h
      · intro h; omega
  have ht : 2 ^ upper2 order = t - 1 + 1 + (2 ^ upper2 order - t) := by
    have := lt_two_pow_upper2 order
    omega
  unfold allChunks
  rw [List.filter_map, List.length_map, List.filter_congr hcongr, pow_split, ht]
  exact count_div_eq _ _ _ (Nat.two_pow_pos _)

end Rand
