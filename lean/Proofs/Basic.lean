import Model.Basic
/-!
# Proofs.Basic — what the definitions of `Model/Basic.lean` do

One `←` step of a `Res` block backwards and goal-directed; `%` / `//` on a divisor of known sign; fixed-length big-endian
strings are the numbers below `256^l`; a digit count is at most `k` exactly below `b^k`.  Core Lean only.
-/

namespace Bits
-- decidable equality of results, for `decide`d non-vacuity examples
deriving instance DecidableEq for Except
end Bits

namespace Res

theorem bind_ok {α β : Type} {x : Res α} {f : α → Res β} {b : β} (h : (x >>= f) = .ok b) : ∃ a, x = .ok a ∧ f a = .ok b := by
  cases x with
  | error e => cases h
  | ok a => exact ⟨a, rfl, h⟩

theorem bind_error {α β : Type} {x : Res α} {f : α → Res β} {e : PyErr} (h : (x >>= f) = .error e) :
    x = .error e ∨ ∃ a, x = .ok a ∧ f a = .error e := by
  cases x with
  | error e' => exact .inl (by cases h; rfl)
  | ok a => exact .inr ⟨a, rfl, h⟩

theorem bind_eq_of_ok {α β : Type} {x : Res α} {f : α → Res β} {a : α} {r : Res β} (hx : x = .ok a) (hf : f a = r) :
    (x >>= f) = r := by
  subst hx hf; rfl

theorem bind_pair_eta {β γ : Type} (x : Res (β × γ)) : (x >>= fun br => .ok (br.1, br.2)) = x := by
  cases x <;> rfl

theorem map_err {α β : Type} {r : Res α} {f : α → β} {e : PyErr} (h : r.map f = .error e) : r = .error e := by
  cases r with
  | error e' => simp only [Except.map] at h; rw [Except.error.inj h]
  | ok a => simp only [Except.map] at h; cases h

theorem eq_error_of_not_ok {α : Type} {r : Res α} {E : PyErr} (herr : ∀ e, r = .error e → e = E)
    (hok : ∀ v, r ≠ .ok v) : r = .error E := by
  cases r with
  | error e => rw [herr e rfl]
  | ok v => exact absurd rfl (hok v)

def Post {α : Type} (Q : α → Prop) (P : PyErr → Prop) : Res α → Prop
  | .ok a => Q a
  | .error e => P e

theorem Post.ok {α : Type} {Q : α → Prop} {P : PyErr → Prop} {r : Res α} {a : α} (h : Post Q P r) (hr : r = .ok a) :
    Q a := by
  subst hr; exact h

theorem Post.err {α : Type} {Q : α → Prop} {P : PyErr → Prop} {r : Res α} {e : PyErr} (h : Post Q P r)
    (hr : r = .error e) : P e := by
  subst hr; exact h

/-- the motive is a predicate on the result, so one pass over a block proves what is wanted of its value and of its errors
together; `refine bind_cases … fun a h => ?_` needs the goal to be a predicate applied to the computation -/
theorem bind_cases {α β : Type} {R : Res β → Prop} {x : Res α} {f : α → Res β}
    (he : ∀ e, x = .error e → R (.error e)) (hf : ∀ a, x = .ok a → R (f a)) : R (x >>= f) := by
  cases x with
  | error e => exact he e rfl
  | ok a => exact hf a rfl

theorem bind_post {α β : Type} {R : Res β → Prop} {Q : α → Prop} {P : PyErr → Prop} {x : Res α} {f : α → Res β}
    (hx : Post Q P x) (he : ∀ e, P e → R (.error e)) (hf : ∀ a, Q a → R (f a)) : R (x >>= f) := by
  cases x with
  | error e => exact he e hx
  | ok a => exact hf a hx

end Res

theorem pmod_eq_emod {a n : Int} (hn : 0 < n) : pmod a n = a % n :=
  Int.fmod_eq_emod_of_nonneg a (Int.le_of_lt hn)

theorem pdiv_eq_ediv {a n : Int} (hn : 0 < n) : pdiv a n = a / n :=
  Int.fdiv_eq_ediv_of_nonneg a (Int.le_of_lt hn)

theorem pmod_range {n : Int} (hn : 0 < n) (a : Int) : 0 ≤ pmod a n ∧ pmod a n < n := by
  rw [pmod_eq_emod hn]
  exact ⟨Int.emod_nonneg _ (Int.ne_of_gt hn), Int.emod_lt_of_pos _ hn⟩

/-- Python's `%` takes the sign of the divisor -/
theorem pmod_range_neg (a n : Int) (hn : n < 0) : n < pmod a n ∧ pmod a n ≤ 0 := by
  unfold pmod
  rw [Int.fmod_eq_emod]
  have h0 : 0 ≤ a % n := Int.emod_nonneg _ (Int.ne_of_lt hn)
  have h1 : a % n < -n := by
    have := Int.emod_lt_of_pos a (show 0 < -n by omega)
    rwa [Int.emod_neg] at this
  by_cases hd : n ∣ a
  · rw [if_pos (Or.inr hd), Int.emod_eq_zero_of_dvd hd]; omega
  · rw [if_neg (by rintro (h | h); omega; exact hd h)]
    have : a % n ≠ 0 := fun h => hd (Int.dvd_of_emod_eq_zero h)
    omega

theorem beVal_foldl (s : Bytes) (a : Nat) :
    s.foldl (fun acc b => acc * 256 + b.toNat) a = a * 256 ^ s.length + beVal s := by
  induction s generalizing a with
  | nil => simp [beVal]
  | cons b t ih =>
    simp only [List.foldl_cons, List.length_cons, beVal]
    rw [ih, ih (0 * 256 + b.toNat)]
    simp only [Nat.pow_succ, Nat.zero_mul, Nat.zero_add, Nat.add_mul, Nat.mul_assoc, Nat.add_assoc]
    rw [Nat.mul_comm 256]

theorem beVal_append (a b : Bytes) : beVal (a ++ b) = beVal a * 256 ^ b.length + beVal b := by
  simp only [beVal, List.foldl_append]
  exact beVal_foldl b _

theorem beVal_singleton (b : UInt8) : beVal [b] = b.toNat :=
  Nat.zero_add _

theorem beVal_cons (b : UInt8) (s : Bytes) : beVal (b :: s) = b.toNat * 256 ^ s.length + beVal s := by
  rw [← List.singleton_append, beVal_append, beVal_singleton]

theorem beVal_snoc (s : Bytes) (b : UInt8) : beVal (s ++ [b]) = beVal s * 256 + b.toNat := by
  rw [beVal_append, beVal_singleton, List.length_singleton, Nat.pow_one]

theorem beVal_lt (s : Bytes) : beVal s < 256 ^ s.length := by
  induction s with
  | nil => exact Nat.one_pos
  | cons b t ih =>
    rw [beVal_cons, List.length_cons, Nat.pow_succ]
    have := UInt8.toNat_lt b
    have h1 : b.toNat * 256 ^ t.length ≤ 255 * 256 ^ t.length := Nat.mul_le_mul_right _ (by omega)
    omega

theorem beVal_take (s : Bytes) (k : Nat) : beVal (s.take k) = beVal s / 256 ^ (s.length - k) := by
  have h := beVal_append (s.take k) (s.drop k)
  have hlt := beVal_lt (s.drop k)
  rw [List.take_append_drop, List.length_drop] at h
  rw [List.length_drop] at hlt
  rw [h, Nat.mul_comm, Nat.mul_add_div (Nat.pow_pos (by decide)), Nat.div_eq_of_lt hlt, Nat.add_zero]

theorem beVal_lt_of_length {s : Bytes} {l : Nat} (h : s.length = l) : beVal s < 256 ^ l := h ▸ beVal_lt s

theorem beFixed_length (l n : Nat) : (beFixed l n).length = l := by
  induction l generalizing n with
  | zero => rfl
  | succ l ih => rw [beFixed, List.length_append, ih, List.length_singleton]

theorem beVal_beFixed (l n : Nat) : beVal (beFixed l n) = n % 256 ^ l := by
  induction l generalizing n with
  | zero => rw [Nat.pow_zero, Nat.mod_one]; rfl
  | succ l ih =>
    rw [beFixed, beVal_snoc, ih, UInt8.toNat_ofNat_of_lt' (show n % 256 < 256 from Nat.mod_lt n (by decide)), Nat.pow_succ, Nat.mul_comm (256 ^ l) 256, Nat.mod_mul]
    omega

theorem beVal_beFixed_of_lt (l n : Nat) (h : n < 256 ^ l) : beVal (beFixed l n) = n := by
  rw [beVal_beFixed, Nat.mod_eq_of_lt h]

theorem beFixed_beVal (s : Bytes) : beFixed s.length (beVal s) = s := by
  generalize hl : s.length = l
  induction l generalizing s with
  | zero => rw [List.length_eq_zero_iff.1 hl]; rfl
  | succ l ih =>
    have hne : s ≠ [] := List.ne_nil_of_length_pos (by omega)
    have hb := UInt8.toNat_lt (s.getLast hne)
    have h1 : (beVal s.dropLast * 256 + (s.getLast hne).toNat) / 256 = beVal s.dropLast := by omega
    have h2 : (beVal s.dropLast * 256 + (s.getLast hne).toNat) % 256 = (s.getLast hne).toNat := by omega
    rw [← List.dropLast_concat_getLast hne, beVal_snoc, beFixed, h1, h2, UInt8.ofNat_toNat,
      ih _ (by rw [List.length_dropLast, hl]; rfl)]

theorem beFixed_beVal_of_length {s : Bytes} {l : Nat} (h : s.length = l) : beFixed l (beVal s) = s :=
  h ▸ beFixed_beVal s

/-- everything else about `bitLength` (b = 2) and `hexDigits` (b = 16) follows from this -/
theorem digits_le_iff {f : Nat → Nat} {b : Nat} (hb : 0 < b) (h0 : f 0 = 0) (hs : ∀ n, f (n + 1) = f ((n + 1) / b) + 1)
    (n k : Nat) : f n ≤ k ↔ n < b ^ k := by
  induction k generalizing n with
  | zero => cases n <;> simp [h0, hs]
  | succ k ih =>
    cases n with
    | zero => simp [h0, Nat.pow_pos hb]
    | succ n => rw [hs, Nat.add_le_add_iff_right, ih, Nat.div_lt_iff_lt_mul hb, Nat.pow_succ]

theorem hexDigits_le_iff (n k : Nat) : hexDigits n ≤ k ↔ n < 16 ^ k :=
  digits_le_iff (by decide) (by rw [hexDigits]) (fun n => by rw [hexDigits]) n k

theorem bitLength_le_iff (n k : Nat) : bitLength n ≤ k ↔ n < 2 ^ k :=
  digits_le_iff (by decide) (by rw [bitLength]) (fun n => by rw [bitLength]) n k

theorem lt_two_pow_bitLength (n : Nat) : n < 2 ^ bitLength n := (bitLength_le_iff n _).1 (Nat.le_refl _)

theorem bitLength_eq_zero_iff (n : Nat) : bitLength n = 0 ↔ n = 0 := by
  have := bitLength_le_iff n 0
  rw [Nat.pow_zero] at this; omega

theorem two_pow_bitLength_le (n : Nat) (h : 0 < n) : 2 ^ (bitLength n - 1) ≤ n := by
  apply Nat.le_of_not_lt; intro hlt
  have := (bitLength_le_iff n _).2 hlt
  have := bitLength_eq_zero_iff n
  omega

theorem bitLength_eq {n b : Nat} (h1 : 2 ^ b ≤ n) (h2 : n < 2 ^ (b + 1)) : bitLength n = b + 1 :=
  Nat.le_antisymm ((bitLength_le_iff n _).2 h2) (Nat.lt_of_not_le fun h => Nat.not_lt.2 h1 ((bitLength_le_iff n b).1 h))

theorem bitLength_le_hex (n : Nat) : bitLength n ≤ 4 * hexDigits n := by
  rw [bitLength_le_iff, Nat.pow_mul]
  exact (hexDigits_le_iff n _).1 (Nat.le_refl _)

theorem hexLen_pos (n : Nat) : 1 ≤ hexLen n := by
  unfold hexLen; split
  · omega
  · have := hexDigits_le_iff n 0
    rw [Nat.pow_zero] at this; omega

theorem hexLen_le_iff (n k : Nat) (hk : 1 ≤ k) : hexLen n ≤ k ↔ n < 16 ^ k := by
  unfold hexLen; split
  · subst_vars
    exact ⟨fun _ => Nat.pow_pos (by decide), fun _ => hk⟩
  · exact hexDigits_le_iff n k

theorem pow256 (l : Nat) : 256 ^ l = 16 ^ (2 * l) := by
  rw [Nat.pow_mul]

theorem pow256_two (l : Nat) : 256 ^ l = 2 ^ (8 * l) := by
  rw [Nat.pow_mul]

theorem beVal_lt_two_pow (s : Bytes) : beVal s < 2 ^ (s.length * 8) := by
  rw [Nat.mul_comm, ← pow256_two]
  exact beVal_lt s
