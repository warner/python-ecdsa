import Proofs.PrimeCert
import Generated.Curves
/-!
# Proofs.NamedPrimeCerts — Pocklington/Pratt certificate chain for the field primes and group orders of the named curves

DATA produced offline (harness/tools/primecerts: sympy factorisations of N − 1, recursively; for NIST384p.n, NIST521p.n,
BRAINPOOLP384r1.p, BRAINPOOLP512r1.p a parallel ECM search, `gencert2.py`), CHECKED here by the kernel
(`PrimeCert.certifies`, sound by `PrimeCert.prime_of_certifies`).  Nothing is trusted about the data: a wrong entry makes
`chain_ok` fail.  Each entry: `⟨small prime factors, positions of the large ones among the later entries, cofactor⟩`
(`PrimeCert.Entry`), using only as many factors of `N − 1` as Pocklington's bound needs.
-/
namespace NamedPrimes
open PrimeCert

def chain : List Entry := [
  ⟨[223], [2, 0], 18873202352517090⟩,
  ⟨[2, 2, 2, 2, 2], [0], 50891⟩,
  ⟨[3, 3, 3, 3], [], 28⟩,
  ⟨[], [0], 6⟩,
  ⟨[2, 67], [], 89⟩,
  ⟨[], [0], 140876⟩,
  ⟨[], [0], 146895787327534⟩,
  ⟨[], [0], 4386⟩,
  ⟨[], [0], 20424⟩,
  ⟨[], [0], 6⟩,
  ⟨[], [0], 12⟩,
  ⟨[379], [], 88⟩,
  ⟨[], [0], 20832158⟩,
  ⟨[], [0], 94⟩,
  ⟨[], [0], 12522⟩,
  ⟨[47], [0], 7329074776⟩,
  ⟨[], [0], 6812⟩,
  ⟨[509], [], 152⟩,
  ⟨[37, 641], [2, 0], 12700558258183823020⟩,
  ⟨[], [0], 19930⟩,
  ⟨[3, 7, 7, 71], [], 3254⟩,
  ⟨[139], [], 12⟩,
  ⟨[], [0], 126⟩,
  ⟨[], [0], 12141531664064⟩,
  ⟨[], [0], 49253827786⟩,
  ⟨[19, 233, 541], [], 1885596⟩,
  ⟨[], [0], 44334397691994886⟩,
  ⟨[31, 97, 1123], [2, 0], 1958316410176536⟩,
  ⟨[], [0], 1206⟩,
  ⟨[2, 2, 2, 5], [], 37⟩,
  ⟨[2, 3, 3, 5], [], 31⟩,
  ⟨[], [0], 8300654080011843063666⟩,
  ⟨[], [0], 18970⟩,
  ⟨[], [0], 2442787182⟩,
  ⟨[], [0], 2500⟩,
  ⟨[], [0], 2040⟩,
  ⟨[], [0], 4⟩,
  ⟨[2, 2, 11, 17], [], 249⟩,
  ⟨[2, 2, 2, 83], [3, 2, 1, 0], 537415820702605226020071⟩,
  ⟨[2, 2, 2, 2, 3, 3, 3, 7], [], 1073⟩,
  ⟨[2, 2, 2, 5, 11, 17], [], 367⟩,
  ⟨[2, 2, 2, 5, 13], [], 417⟩,
  ⟨[2, 2, 3, 7], [], 23⟩,
  ⟨[], [0], 9789462637121520760974⟩,
  ⟨[], [5, 0], 7692939895104⟩,
  ⟨[], [0], 54⟩,
  ⟨[], [0], 16⟩,
  ⟨[], [0], 6⟩,
  ⟨[], [0], 2⟩,
  ⟨[71], [], 32⟩,
  ⟨[11, 83], [], 822⟩,
  ⟨[], [0], 44419791828257368409124876864⟩,
  ⟨[83, 1103], [3, 0], 64258543317486⟩,
  ⟨[], [0], 108⟩,
  ⟨[], [0], 12⟩,
  ⟨[173], [], 14⟩,
  ⟨[971], [], 6⟩,
  ⟨[], [0], 2155720519784622⟩,
  ⟨[], [0], 19874847553902972⟩,
  ⟨[], [0], 24705780⟩,
  ⟨[], [0], 21460424⟩,
  ⟨[11, 11, 11, 73, 233], [], 9298⟩,
  ⟨[2, 2, 2, 2], [3, 0], 17169295896580943410599934555⟩,
  ⟨[], [0], 1320206244⟩,
  ⟨[2, 2, 3, 239], [0], 46245989⟩,
  ⟨[881], [], 62⟩,
  ⟨[199], [], 12⟩,
  ⟨[], [5, 3, 0], 34057928114871713382467882554⟩,
  ⟨[43], [1, 0], 18749572⟩,
  ⟨[2, 5, 5, 5], [], 217⟩,
  ⟨[619], [], 4⟩,
  ⟨[], [0], 30⟩,
  ⟨[11, 61], [], 566⟩,
  ⟨[2, 2, 163], [], 229⟩,
  ⟨[], [0], 1038⟩,
  ⟨[], [0], 10995336375323240⟩,
  ⟨[], [0], 1714621010⟩,
  ⟨[], [0], 1179993452⟩,
  ⟨[], [0], 122⟩,
  ⟨[], [0], 10⟩,
  ⟨[], [0], 10924115106174⟩,
  ⟨[], [0], 1947966⟩,
  ⟨[], [0], 86⟩,
  ⟨[2, 2, 239], [], 461⟩,
  ⟨[], [0], 1742966464533151744582933451503410⟩,
  ⟨[], [0], 7734049830⟩,
  ⟨[], [0], 93048⟩,
  ⟨[], [0], 66218⟩,
  ⟨[], [0], 140810⟩,
  ⟨[7, 137, 311], [], 6514⟩,
  ⟨[], [0], 533642580⟩,
  ⟨[], [0], 134540953435593634⟩,
  ⟨[], [0], 10838156664⟩,
  ⟨[], [0], 254004⟩,
  ⟨[], [0], 315289612336⟩,
  ⟨[], [0], 526434⟩,
  ⟨[], [0], 74⟩,
  ⟨[], [0], 1018⟩,
  ⟨[2, 2, 3, 3, 3], [], 101⟩,
  ⟨[2, 2, 2, 2, 2, 2, 2, 2, 2, 2, 2, 2, 2, 2, 2, 2, 2, 2, 2, 2, 2, 2, 2, 2, 2, 2, 2, 2, 2, 2, 2, 2, 2, 2, 2, 2, 2, 2, 2, 2, 2, 2, 2, 2, 2, 2, 2, 2, 2, 2, 2, 2, 2, 2, 2, 2, 2, 2, 2, 2, 2, 2, 2, 2, 2, 2, 2, 2, 2, 2, 2, 2, 2, 2, 2, 2, 2, 2, 2, 2, 2, 2, 2, 2, 2, 2, 2, 2, 2, 2, 2, 2, 2, 2, 2, 2, 257, 641], [], 2065609832162407130537612117689215⟩,
  ⟨[], [0], 18⟩,
  ⟨[], [0], 37327480253431098314445125570⟩,
  ⟨[], [0], 600824342166679828220⟩,
  ⟨[], [0], 113727852152⟩,
  ⟨[], [0], 40061086⟩,
  ⟨[], [0], 834⟩,
  ⟨[], [0], 38⟩,
  ⟨[659], [], 2⟩,
  ⟨[], [0], 25132259412817788250⟩,
  ⟨[], [0], 61537986083652146580222⟩,
  ⟨[], [2, 0], 1747114779232036⟩,
  ⟨[3, 3, 5, 13], [0], 90836⟩,
  ⟨[3, 5, 5], [], 38⟩,
  ⟨[], [0], 18⟩,
  ⟨[], [0], 784⟩,
  ⟨[1109], [], 12⟩,
  ⟨[631], [3, 0], 9782462315356940942943205974373470912⟩,
  ⟨[59], [1, 0], 6080140984⟩,
  ⟨[2, 2, 2, 7, 19], [], 113⟩,
  ⟨[3, 3, 3, 3], [], 50⟩,
  ⟨[], [2, 0], 74905744⟩,
  ⟨[], [0], 30⟩,
  ⟨[5, 11], [], 52⟩,
  ⟨[3, 11, 11], [], 46⟩,
  ⟨[], [0], 564522⟩,
  ⟨[], [0], 802749442992798076634733441528810⟩,
  ⟨[], [4, 3, 2, 1, 0], 3359158049012802344⟩,
  ⟨[2, 2, 101], [], 239⟩,
  ⟨[2, 2, 2, 2, 5, 5], [], 103⟩,
  ⟨[2, 3, 11], [], 67⟩,
  ⟨[83], [], 32⟩,
  ⟨[271], [], 6⟩,
  ⟨[], [10, 9, 7, 5, 3, 0], 437086358793092816310758237867816112⟩,
  ⟨[], [0], 252482⟩,
  ⟨[], [0], 38⟩,
  ⟨[337], [], 310⟩,
  ⟨[], [0], 2⟩,
  ⟨[7, 17, 29, 29], [], 3110⟩,
  ⟨[], [0], 20⟩,
  ⟨[17, 229], [], 2402⟩,
  ⟨[], [0], 4⟩,
  ⟨[3, 37], [], 86⟩,
  ⟨[727], [], 24⟩,
  ⟨[131], [], 26⟩,
  ⟨[], [0], 138516389665330497628477975950⟩,
  ⟨[], [0], 1080⟩,
  ⟨[], [2, 0], 1999647778344266217114⟩,
  ⟨[], [0], 170⟩,
  ⟨[53, 173, 197], [], 36770⟩,
  ⟨[], [0], 168⟩,
  ⟨[11, 23, 107], [], 7538⟩,
  ⟨[], [0], 5886701133040⟩,
  ⟨[], [0], 12835123686⟩,
  ⟨[], [0], 410693216966047481770480164⟩,
  ⟨[], [3, 0], 3045005270383555218824⟩,
  ⟨[], [0], 20290⟩,
  ⟨[3, 5], [0], 348394⟩,
  ⟨[2, 5, 5, 5], [], 157⟩,
  ⟨[3, 3, 3, 7, 37, 43], [], 14914⟩,
  ⟨[], [0], 764152248390062675243913697189162⟩,
  ⟨[], [3, 0], 293199496650714693932300933502⟩,
  ⟨[2, 2, 2, 2, 2, 2], [1, 0], 312561497⟩,
  ⟨[151], [], 46⟩,
  ⟨[73], [], 54⟩,
  ⟨[], [0], 12⟩,
  ⟨[], [0], 412⟩,
  ⟨[], [0], 18⟩,
  ⟨[], [0], 295280⟩,
  ⟨[], [0], 52⟩,
  ⟨[2, 2, 2, 2, 3, 3], [], 73⟩,
  ⟨[], [0], 240524757275167958171323735920413074714093906789297780⟩,
  ⟨[], [0], 134421204⟩,
  ⟨[], [0], 240205658⟩,
  ⟨[], [4, 3, 0], 32605580727660992329502⟩,
  ⟨[], [0], 126⟩,
  ⟨[], [0], 266⟩,
  ⟨[571], [], 76⟩,
  ⟨[3, 3, 53, 59], [], 412⟩,
  ⟨[], [0], 176⟩,
  ⟨[], [0], 16⟩,
  ⟨[2, 2, 2, 3, 3], [], 25⟩,
  ⟨[], [0], 1563013251907882429420135878444621479658930⟩,
  ⟨[], [3, 0], 113722960⟩,
  ⟨[], [0], 1347628365348606⟩,
  ⟨[], [0], 2649427990⟩,
  ⟨[67, 89, 227], [], 1968⟩,
  ⟨[], [0], 17623941678798⟩,
  ⟨[], [0], 90⟩,
  ⟨[], [0], 583430⟩,
  ⟨[], [0], 112⟩,
  ⟨[71, 337], [], 5166⟩,
  ⟨[], [0], 12895580879789762060783039592702⟩,
  ⟨[], [0], 2884167427329800039538210⟩,
  ⟨[], [6, 0], 1055443587990326⟩,
  ⟨[], [0], 12⟩,
  ⟨[], [0], 3504654⟩,
  ⟨[], [0], 18299112⟩,
  ⟨[], [0], 102⟩,
  ⟨[], [0], 840⟩,
  ⟨[233, 421], [], 2774⟩,
  ⟨[], [0], 1498⟩,
  ⟨[], [0], 3786090⟩,
  ⟨[311, 881], [], 36⟩,
  ⟨[], [0], 2054993070433694⟩,
  ⟨[], [8, 7, 5, 2, 0], 264013722758808922668119284070548665359770848656⟩,
  ⟨[2, 2, 2, 2, 181], [0], 1726260487⟩,
  ⟨[5, 19, 211], [], 5286⟩,
  ⟨[], [0], 25394340⟩,
  ⟨[], [0], 104⟩,
  ⟨[59, 599], [], 14542⟩,
  ⟨[], [0], 96⟩,
  ⟨[271], [], 12⟩,
  ⟨[2, 2, 3, 3, 3, 3], [], 119⟩,
  ⟨[233], [], 36⟩,
  ⟨[], [0], 383451487281480329483346955428196443398206705739616754973592⟩,
  ⟨[], [0], 4683690862641311336316996686⟩,
  ⟨[], [4, 3, 0], 6037263970891287523127417991224⟩,
  ⟨[2, 2, 2, 2, 2, 3], [1, 0], 361396637489⟩,
  ⟨[5, 13, 23], [], 862⟩,
  ⟨[67], [], 64⟩,
  ⟨[3, 11, 251], [], 1006⟩,
  ⟨[2, 2, 2, 5, 37], [], 349⟩,
  ⟨[], [0], 619929358833519212904238285194463795991522700945465902230062873103574⟩,
  ⟨[], [0], 48446172095569549286⟩,
  ⟨[], [0], 5224334698281322⟩,
  ⟨[], [5, 0], 5447712767334378241350⟩,
  ⟨[], [0], 150⟩,
  ⟨[], [0], 78⟩,
  ⟨[], [0], 20⟩,
  ⟨[], [0], 4780⟩,
  ⟨[71, 1229], [], 48⟩,
  ⟨[], [1, 0], 3826⟩,
  ⟨[523], [], 72⟩,
  ⟨[11, 47], [], 30⟩,
  ⟨[], [0], 1898873518475180724503002533770555108536⟩,
  ⟨[], [0], 994165722⟩,
  ⟨[], [0], 227359842264187168240537210063000478597512830243064490⟩,
  ⟨[], [0], 2153229989185356338⟩,
  ⟨[], [0], 1752038494455880⟩,
  ⟨[], [0], 70638⟩,
  ⟨[], [2, 0], 3990⟩,
  ⟨[], [0], 1108⟩,
  ⟨[41, 71], [], 6⟩,
  ⟨[17, 127], [], 360⟩,
  ⟨[5, 5, 31, 41, 53, 131, 157, 521], [13, 12, 11, 10, 9, 8, 7, 6, 5, 4, 3, 0], 479875865473148696461831342566006305828246293922421247298918532768231303636942⟩,
  ⟨[], [0], 6240⟩,
  ⟨[], [0], 40⟩,
  ⟨[103], [], 12⟩,
  ⟨[5, 5, 13, 19], [], 5524⟩,
  ⟨[5, 5, 13, 37], [], 634⟩,
  ⟨[5, 5, 5, 13, 13], [], 272⟩,
  ⟨[2, 2, 2, 2, 5, 5, 5], [], 429⟩,
  ⟨[1051], [], 390⟩,
  ⟨[257], [], 240⟩,
  ⟨[2, 2, 2, 3, 3, 5], [], 143⟩,
  ⟨[2, 2, 2, 2, 13], [], 205⟩,
  ⟨[2, 3, 3, 5], [], 91⟩,
  ⟨[3, 5, 7], [], 26⟩,
  ⟨[2, 2, 13], [], 31⟩]

theorem chain_ok : certifies chain (Gen.curveTable.flatMap fun r => [r.p, r.n]) = true := by decide +kernel

end NamedPrimes
