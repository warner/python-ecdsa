import Proofs.NTCip1
import Proofs.NTSqrt
import Mathlib.Algebra.QuadraticAlgebra.Defs
import Mathlib.FieldTheory.Finite.Basic
import Mathlib.Algebra.CharP.Lemmas
import Mathlib.Algebra.CharP.Algebra
/-!
# NTCip2 — the algebra behind the last branch (`p ≡ 1 (mod 8)`) of `square_root_mod_prime` (Cipolla / Lucas)

In `K = 𝔽_p[x]/(x² − b x + a)` (`QuadraticAlgebra (ZMod p) (-a) b`; not assumed to be a field) with
`D = b² − 4a` a non-residue and `a` a residue, `w = x^((p+1)/2)` is a constant `w₀` with `w₀² = a`.
-/
namespace NTCip
open NT NTProofs

variable {p : ℕ} [hp : Fact p.Prime]

/-- In any commutative ring of characteristic p containing 𝔽_p: if t² = b t − a, p odd and
    D = b² − 4a is a non-residue mod p, then t^p = b − t and t^(p+1) = a. -/
theorem cipolla_core {K : Type*} [CommRing K] [Algebra (ZMod p) K] [CharP K p] (hp2 : p ≠ 2)
    (a b : ZMod p) (t : K) (ht : t ^ 2 = algebraMap _ K b * t - algebraMap _ K a)
    (hD : (b ^ 2 - 4 * a) ^ (p / 2) = -1) :
    t ^ p = algebraMap _ K b - t ∧ t ^ (p + 1) = algebraMap _ K a := by
  set B := algebraMap (ZMod p) K b with hB
  set A := algebraMap (ZMod p) K a with hA
  set δ := 2 * t - B with hδ
  have hδ2 : δ ^ 2 = algebraMap (ZMod p) K (b ^ 2 - 4 * a) := by
    rw [map_sub, map_mul, map_pow, map_ofNat]
    linear_combination 4 * ht
  have hodd : p % 2 = 1 := hp.out.eq_two_or_odd.resolve_left hp2
  have hpe : p = 2 * (p / 2) + 1 := by omega
  have hδp : δ ^ p = -δ := by
    rw [hpe, pow_succ, pow_mul, hδ2, ← map_pow, hD, map_neg, map_one, neg_one_mul]
  have hBp : B ^ p = B := by rw [hB, ← map_pow, ZMod.pow_card]
  have h2K : (2 : K) = algebraMap (ZMod p) K 2 := (map_ofNat (algebraMap (ZMod p) K) 2).symm
  have h2p : (2 : K) ^ p = 2 := by rw [h2K, ← map_pow, ZMod.pow_card]
  have h2t : (2 * t) ^ p = 2 * (B - t) := by
    rw [show 2 * t = δ + B by rw [hδ]; ring, add_pow_char δ B, hδp, hBp, hδ]; ring
  have h2unit : IsUnit (2 : K) := h2K ▸ (IsUnit.mk0 _ (two_ne_zero' hp2)).map _
  have htp : t ^ p = B - t := by
    have : (2 : K) * t ^ p = 2 * (B - t) := by
      rw [← h2t, mul_pow, h2p]
    exact h2unit.mul_left_cancel this
  refine ⟨htp, ?_⟩
  rw [pow_succ, htp]
  linear_combination -ht

theorem quadraticAlgebra_charP (s t : ZMod p) : CharP (QuadraticAlgebra (ZMod p) s t) p :=
  charP_of_injective_algebraMap QuadraticAlgebra.algebraMap_injective p

theorem cipolla_sqrt (hp2 : p ≠ 2) (a b r : ZMod p) (hr : r * r = a) (hns : ¬ IsSquare (b ^ 2 - 4 * a)) :
    ((⟨0, 1⟩ : QuadraticAlgebra (ZMod p) (-a) b) ^ ((p + 1) / 2)).im = 0 ∧
    ((⟨0, 1⟩ : QuadraticAlgebra (ZMod p) (-a) b) ^ ((p + 1) / 2)).re *
      ((⟨0, 1⟩ : QuadraticAlgebra (ZMod p) (-a) b) ^ ((p + 1) / 2)).re = a := by
  have := quadraticAlgebra_charP (p := p) (-a) b
  set ω : QuadraticAlgebra (ZMod p) (-a) b := ⟨0, 1⟩ with hω
  have hω2 : ω ^ 2 = algebraMap _ _ b * ω - algebraMap _ _ a := by
    ext <;> simp [hω, pow_two]
  obtain ⟨-, h⟩ := cipolla_core hp2 a b ω hω2 (pow_half_eq_neg_one hns)
  have hodd : p % 2 = 1 := hp.out.eq_two_or_odd.resolve_left hp2
  set w := ω ^ ((p + 1) / 2) with hw
  have hww : w * w = algebraMap _ _ a := by
    rw [hw, ← pow_add, ← h]; congr 1; omega
  have h1 : w.re * w.re + (-a) * w.im * w.im = a := by
    have := congrArg QuadraticAlgebra.re hww
    simpa using this
  have h2 : w.re * w.im + w.im * w.re + b * w.im * w.im = 0 := by
    have := congrArg QuadraticAlgebra.im hww
    simpa using this
  have him : w.im = 0 := by
    by_contra him
    have h3 : 2 * w.re + b * w.im = 0 := by
      have : w.im * (2 * w.re + b * w.im) = 0 := by linear_combination h2
      exact (mul_eq_zero.mp this).resolve_left him
    apply hns
    refine ⟨2 * r / w.im, ?_⟩
    field_simp
    linear_combination (4 : ZMod p) * h1 + (b * w.im - 2 * w.re) * h3 + (-4 : ZMod p) * hr
  refine ⟨him, ?_⟩
  rw [him] at h1
  simpa using h1

theorem evalL_pair {R : Type*} [CommRing R] (s t : R) (f0 f1 : ℤ) :
    evalL [f0, f1] (⟨0, 1⟩ : QuadraticAlgebra R s t) = ⟨f0, f1⟩ := by
  ext <;> simp [evalL]

/-- the result is `[f0, 0]`: `ff[1]` exists and the `assert ff[1] == 0` of the loop body holds -/
theorem sqrt_step (hp4 : p % 4 = 1) (a b : ℤ) (hsq : IsSquare ((a : ℤ) : ZMod p))
    (hleg : legendreSym p (b * b - 4 * a) = -1) :
    ∃ f0 : ℤ, polyExpMod [0, 1] (pdiv ((p : ℤ) + 1) 2) [a, -b, 1] p = .ok [f0, 0] ∧
      0 ≤ f0 ∧ f0 < p ∧ (f0 * f0) % p = a % p := by
  have hp2 : p ≠ 2 := by omega
  have hp1 : (1 : ℤ) < p := by have := hp.out.two_le; omega
  obtain ⟨r, hr⟩ := hsq
  have hDcast : (((b * b - 4 * a : ℤ)) : ZMod p) = (b : ZMod p) ^ 2 - 4 * (a : ZMod p) := by
    push_cast; ring
  have hns : ¬ IsSquare ((b : ZMod p) ^ 2 - 4 * (a : ZMod p)) := by
    rw [← hDcast]; exact (legendreSym.eq_neg_one_iff p).mp hleg
  obtain ⟨him, hre⟩ := cipolla_sqrt hp2 (a : ZMod p) (b : ZMod p) r hr.symm hns
  have := quadraticAlgebra_charP (p := p) (-(a : ZMod p)) (b : ZMod p)
  have hpK : (((p : ℕ) : ℤ) : QuadraticAlgebra (ZMod p) (-(a : ZMod p)) (b : ZMod p)) = 0 := by
    rw [Int.cast_natCast]; exact CharP.cast_eq_zero _ p
  set ω : QuadraticAlgebra (ZMod p) (-(a : ZMod p)) (b : ZMod p) := ⟨0, 1⟩ with hω
  have hroot : evalL [a, -b, 1] ω = 0 := by
    ext <;> simp [evalL, hω]
  have he : pdiv ((p : ℤ) + 1) 2 = (((p + 1) / 2 : ℕ) : ℤ) := by
    rw [pdiv_eq_ediv (by norm_num)]; omega
  -- the loop keeps two reduced coefficients
  obtain ⟨q, hq, hev, hlen, hrange⟩ := polyExpMod_spec hpK (by omega) ω [a, -b, 1] rfl (by simp) hroot
    (fun l => l.length = 2 ∧ InRange (p : ℤ) l)
    (fun m1 m2 q h1 h2 hq => by
      obtain ⟨hl, hr⟩ := polyMulMod_ok hpK (by omega) ω [a, -b, 1] rfl (by simp) hroot hq
      exact ⟨by rw [hl, h1.1, h2.1]; rfl, hr (by omega)⟩)
    [0, 1] (pdiv ((p : ℤ) + 1) 2) (by rw [he]; omega) (by rw [he]; omega)
    ⟨rfl, by intro c hc; simp at hc; omega⟩
    (by intro h; rw [he] at h; omega)
  obtain ⟨f0, f1, rfl⟩ : ∃ f0 f1, q = [f0, f1] := List.length_eq_two.mp hlen
  have r0 := hrange f0 (by simp)
  have r1 := hrange f1 (by simp)
  rw [evalL_pair, evalL_pair, he, Int.toNat_natCast, Int.cast_zero, Int.cast_one] at hev
  rw [← hev] at him hre
  -- `f1 ≡ 0` and `0 ≤ f1 < p`
  have hf1 : f1 = 0 :=
    Int.eq_zero_of_dvd_of_nonneg_of_lt r1.1 r1.2 ((ZMod.intCast_zmod_eq_zero_iff_dvd f1 p).mp him)
  subst hf1
  exact ⟨f0, hq, r0.1, r0.2, (ZMod.intCast_eq_intCast_iff _ _ _).mp (by rw [Int.cast_mul]; exact hre)⟩

end NTCip
