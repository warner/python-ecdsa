import Model.Curve
import Generated.CurveObjGuards
import Proofs.CurveObjSkel
/-!
# Proofs.CurveObjTie — the point-object layer of `Model/Curve.lean` follows the current `ellipticcurve.py`

`harness/translate/gen_curveobj.py` re-extracts, on every run, the control skeleton and every integer test / expression
of the `CurveFp` / `PointJacobi` / `Point` methods (`Generated/CurveObjGuards.lean`).  `skel_*`: the extracted skeleton
equals the one the model transcribes (`Proofs/CurveObjSkel.lean`): order of early exits, calls with their exact
arguments (`-Y2`, the literal `1` for Z), loop headers, stores.  The other theorems restate a model function with the
generated tests and expressions in place, for all integers.  `C06t.Tie.*`: the group-law layer; `C07t.Tie.*`: scalar
multiplication.  (The kernels are translated whole by gen_kernels.py.  The loop bodies, `contains_point` and the
arithmetic of `__eq__`, `scale`, `x`, `y` are also translated whole by gen_steps.py and tied in `Proofs/StepsTie.lean`:
there the body is one generated function, here each test of it is a generated definition in the method's control flow.)

The generator writes a Python test as a `Bool` (`decide (x = 1)`, `!decide (y ≠ 0)` for `not y`), the model as `x == 1`,
`y == 0` or as a proposition under `if`.  Most proofs unfold both sides and bring them to one spelling: `==` becomes
`decide (· = ·)`, `!decide (y ≠ 0)` becomes `decide (y = 0)`, `decide p = true` becomes `p`; a closing `rfl` identifies
`do` with `Except.bind` and two `Decidable` instances of one proposition.  Core Lean only.
-/
open Curve Gen.CurveObj

theorem Gen.CurveObj.pand_nat (a b : Nat) : pand (a : Int) (b : Int) = ((a &&& b : Nat) : Int) := rfl

/-- Python truthiness of `self.__order` (`None` and `0` are false), with `None` read as 0 -/
theorem Gen.CurveObj.truthy_isSome (o : Option Int) : (truthy o).isSome = decide (o.getD 0 ≠ 0) := by
  cases o with
  | none => rfl
  | some n => by_cases h : n = 0 <;> simp [truthy, h]

theorem Gen.CurveObj.fdiv_two (n : Nat) : (Int.fdiv (n : Int) 2).toNat = n / 2 := by
  rw [Int.fdiv_eq_ediv_of_nonneg _ (by decide)]; omega

namespace C06t.Tie

theorem skel_curve : skel_CurveFp_eq = Curve.Skel.CurveFp_eq ∧ skel_CurveFp_ne = Curve.Skel.CurveFp_ne
    ∧ skel_CurveFp_contains_point = Curve.Skel.CurveFp_contains_point := ⟨rfl, rfl, rfl⟩
theorem skel_pj_init : skel_PJ_init = Curve.Skel.PJ_init := rfl
theorem skel_pj_eq : skel_PJ_eq = Curve.Skel.PJ_eq ∧ skel_PJ_ne = Curve.Skel.PJ_ne := ⟨rfl, rfl⟩
theorem skel_pj_xy : skel_PJ_x = Curve.Skel.PJ_x ∧ skel_PJ_y = Curve.Skel.PJ_y := ⟨rfl, rfl⟩
theorem skel_pj_scale : skel_PJ_scale = Curve.Skel.PJ_scale := rfl
theorem skel_pj_affine : skel_PJ_to_affine = Curve.Skel.PJ_to_affine ∧ skel_PJ_from_affine = Curve.Skel.PJ_from_affine :=
  ⟨rfl, rfl⟩
theorem skel_pj_double : skel_PJ_double = Curve.Skel.PJ_double := rfl
theorem skel_pj_add : skel_PJ_add = Curve.Skel.PJ_add ∧ skel_PJ_radd = Curve.Skel.PJ_radd := ⟨rfl, rfl⟩
theorem skel_pj_neg : skel_PJ_neg = Curve.Skel.PJ_neg := rfl
theorem skel_point_init : skel_Point_init = Curve.Skel.Point_init := rfl
theorem skel_point_eq : skel_Point_eq = Curve.Skel.Point_eq ∧ skel_Point_ne = Curve.Skel.Point_ne := ⟨rfl, rfl⟩
theorem skel_point_neg : skel_Point_neg = Curve.Skel.Point_neg := rfl
theorem skel_point_add : skel_Point_add = Curve.Skel.Point_add := rfl
theorem skel_point_double : skel_Point_double = Curve.Skel.Point_double := rfl

/-- the model calls `Gen.k_double` / `Gen.k_add`, the current text of the seven kernels translated whole, so a change of
a kernel changes the model itself; this theorem names the text the C06 proofs are about -/
theorem skel_kernels :
    skel_K_double_with_z_1 = Curve.Skel.K_double_with_z_1 ∧ skel_K_double = Curve.Skel.K_double
    ∧ skel_K_add_with_z_1 = Curve.Skel.K_add_with_z_1 ∧ skel_K_add_with_z_eq = Curve.Skel.K_add_with_z_eq
    ∧ skel_K_add_with_z2_1 = Curve.Skel.K_add_with_z2_1 ∧ skel_K_add_with_z_ne = Curve.Skel.K_add_with_z_ne
    ∧ skel_K_add = Curve.Skel.K_add := ⟨rfl, rfl, rfl, rfl, rfl, rfl, rfl⟩

theorem curve_eq (c d : CurveFp) : c.eqv d = CurveFp_eq_ret0 c.p d.p c.a d.a c.b d.b := by
  simp only [CurveFp.eqv, CurveFp_eq_ret0, Bool.beq_eq_decide_eq]

theorem contains_point (c : CurveFp) (x y : Int) :
    containsPoint c x y = CurveFp_contains_point_ret0 y x c.a c.b c.p := by
  simp only [containsPoint, CurveFp_contains_point_ret0, pmod, Bool.beq_eq_decide_eq]

theorem pj_eq_infinity (P : PJ) : pjEqInf P = PJ_eq_ret0 P.y P.z := by
  simp only [pjEqInf, PJ_eq_ret0, Bool.beq_eq_decide_eq, ne_eq, decide_not, Bool.not_not]

theorem pj_eq_coords (p x1 y1 z1 x2 y2 z2 : Int) :
    coordsEq p x1 y1 z1 x2 y2 z2 = PJ_eq_ret4 x1 (PJ_eq_let5 z2 p) x2 (PJ_eq_let4 z1 p) p y1 z2 y2 z1 := by
  simp only [coordsEq, PJ_eq_ret4, PJ_eq_let4, PJ_eq_let5, pmod, Bool.beq_eq_decide_eq]
  rfl

/-- the identity test in front of the comparison (fix F13): a point with Y = 0 or Z = 0 is the point at infinity and
equals exactly the other such points -/
theorem pj_eq_identity (p x1 y1 z1 x2 y2 z2 : Int) :
    eqCoords p x1 y1 z1 x2 y2 z2 =
      (if PJ_eq_if4 y1 z1 y2 z2 then PJ_eq_ret3 y1 z1 y2 z2 else coordsEq p x1 y1 z1 x2 y2 z2) := by
  simp only [eqCoords, PJ_eq_if4, PJ_eq_ret3, Bool.beq_eq_decide_eq, ne_eq, decide_not, Bool.not_not]

theorem pj_eq_dispatch (P : PJ) (A : AffPt) (Q : PJ) :
    pjEq P .infinity = PJ_eq_ret0 P.y P.z
    ∧ pjEq P (.aff A) = (if !(P.curve.eqv A.curve) then false else eqCoords P.curve.p P.x P.y P.z A.x A.y 1)
    ∧ pjEq P (.jac Q) = (if !(P.curve.eqv Q.curve) then false else eqCoords P.curve.p P.x P.y P.z Q.x Q.y Q.z) :=
  ⟨pj_eq_infinity P, rfl, rfl⟩

theorem pj_x (P : PJ) :
    pjX P = if PJ_x_if0 P.z then .ok P.x
            else (inverseMod P.z P.curve.p).bind fun z => .ok (PJ_x_ret1 P.x z P.curve.p) := by
  simp only [pjX, PJ_x_if0, PJ_x_ret1, pmod, decide_eq_true_eq]
  rfl

theorem pj_y (P : PJ) :
    pjY P = if PJ_y_if0 P.z then .ok P.y
            else (inverseMod P.z P.curve.p).bind fun z => .ok (PJ_y_ret1 P.y z P.curve.p) := by
  simp only [pjY, PJ_y_if0, PJ_y_ret1, pmod, decide_eq_true_eq]
  rfl

theorem pj_scale (P : PJ) :
    pjScale P = if PJ_scale_if0 P.z then .ok P
      else (inverseMod P.z P.curve.p).bind fun zInv =>
        .ok { P with x := PJ_scale_let4 P.x (PJ_scale_let3 zInv P.curve.p) P.curve.p,
                     y := PJ_scale_let5 P.y (PJ_scale_let3 zInv P.curve.p) zInv P.curve.p, z := 1 } := by
  simp only [pjScale, PJ_scale_if0, PJ_scale_let3, PJ_scale_let4, PJ_scale_let5, pmod, decide_eq_true_eq]
  rfl

theorem pj_to_affine (P : PJ) :
    pjToAffine P = if PJ_to_affine_if0 P.y P.z then .ok .infinity
      else (pjScale P).bind fun S => (mkPoint S.curve S.x S.y S.order).bind fun A => .ok (.aff A) := by
  simp only [pjToAffine, PJ_to_affine_if0, Bool.beq_eq_decide_eq, ne_eq, decide_not, Bool.not_not]
  rfl

theorem pj_from_affine (A : AffPt) (g : Bool) : pjFromAffine A g = ⟨A.curve, A.x, A.y, 1, A.order, g⟩ := rfl

theorem coords_out (c : CurveFp) (order : Option Int) (t : Int × Int × Int) :
    coordsOut c order t = if PJ_double_if1 t.2.1 t.2.2 then .infinity else .jac ⟨c, t.1, t.2.1, t.2.2, order, false⟩ := by
  simp only [coordsOut, PJ_double_if1, Bool.beq_eq_decide_eq, ne_eq, decide_not, Bool.not_not]

/-- the same exit test closes `__add__`, `_mul_precompute`, `__mul__` and `mul_add` -/
theorem exit_tests (Y3 Z3 : Int) :
    PJ_double_if1 Y3 Z3 = PJ_add_if4 Y3 Z3 := rfl

theorem pj_double (P : PJ) :
    pjDouble P = if PJ_double_if0 P.y then .infinity
      else coordsOut P.curve P.order (Gen.k_double P.x P.y P.z P.curve.p P.curve.a) := by
  simp only [pjDouble, PJ_double_if0, Bool.beq_eq_decide_eq, ne_eq, decide_not, Bool.not_not]

theorem pj_add (P : PJ) :
    (∀ o, pjEq P .infinity = true → pjAdd P o = .ok o)
    ∧ (pjEq P .infinity = false → pjAdd P .infinity = .ok (.jac P))
    ∧ (∀ Q, pjEq P .infinity = false → pjEqInf Q = true → pjAdd P (.jac Q) = .ok (.jac P))
    ∧ (∀ Q, pjEq P .infinity = false → pjEqInf Q = false → pjAdd P (.jac Q) = pjAddCore P Q)
    ∧ (∀ A, pjEq P .infinity = false → pjAdd P (.aff A) = pjAddCore P ⟨A.curve, A.x, A.y, 1, A.order, false⟩)
    ∧ (∀ Q, pjAddCore P Q = if !(P.curve.eqv Q.curve) then .error .valueError
        else .ok (coordsOut P.curve P.order (Gen.k_add P.x P.y P.z Q.x Q.y Q.z P.curve.p P.curve.a))) := by
  refine ⟨?_, ?_, ?_, ?_, ?_, fun Q => rfl⟩
  · intro o h; unfold pjAdd; simp [h]
  · intro h; unfold pjAdd; simp [h]
  · intro Q h hq; unfold pjAdd; simp [h, hq]
  · intro Q h hq; unfold pjAdd; simp [h, hq]
  · intro A h; unfold pjAdd; simp [h]; rfl

theorem pj_neg (P : PJ) : pjNeg P = ⟨P.curve, P.x, PJ_neg_e0 P.y P.curve.p, P.z, P.order, false⟩ := rfl

theorem point_eq (P Q : AffPt) :
    affEq P (.aff Q) = (P.curve.eqv Q.curve && Point_eq_c0 P.x Q.x && Point_eq_c1 P.y Q.y) := by
  simp only [affEq, Point_eq_c0, Point_eq_c1, Bool.beq_eq_decide_eq]

theorem point_neg (P : AffPt) : affNeg P = mkPoint P.curve P.x (Point_neg_e0 P.curve.p P.y) none := rfl

theorem point_double (P : AffPt) :
    affDouble P = (inverseMod (Point_double_e0 P.y) P.curve.p).bind fun inv =>
      let l := Point_double_let2 P.x P.curve.a inv P.curve.p
      let x3 := Point_double_let3 l P.x P.curve.p
      let y3 := Point_double_let4 l P.x x3 P.y P.curve.p
      (mkPoint P.curve x3 y3 none).bind fun R => .ok (.aff R) := rfl

theorem point_add (P Q : AffPt) :
    affAdd P (.aff Q) =
      if !(P.curve.eqv Q.curve) then .error .assertionError
      else if Point_add_if3 P.x Q.x then
        (if Point_add_if4 P.y Q.y P.curve.p then .ok .infinity else affDouble P)
      else (inverseMod (Point_add_e0 Q.x P.x) P.curve.p).bind fun inv =>
        let l := Point_add_let1 Q.y P.y inv P.curve.p
        let x3 := Point_add_let2 l P.x Q.x P.curve.p
        let y3 := Point_add_let3 l P.x x3 P.y P.curve.p
        (mkPoint P.curve x3 y3 none).bind fun R => .ok (.aff R) := by
  simp only [affAdd, Point_add_if3, Point_add_if4, pmod, Bool.beq_eq_decide_eq, decide_eq_true_eq]
  rfl

theorem point_dispatch (P : AffPt) (Q : PJ) :
    affAdd P .infinity = .ok (.aff P) ∧ affAdd P (.jac Q) = pjAdd Q (.aff P)
    ∧ affEq P .infinity = false ∧ affEq P (.jac Q) = pjEq Q (.aff P) := ⟨rfl, rfl, rfl, rfl⟩

end C06t.Tie

namespace C07t.Tie

theorem skel_naf : skel_PJ_naf = Curve.Skel.PJ_naf := rfl
theorem skel_maybe_precompute : skel_PJ_maybe_precompute = Curve.Skel.PJ_maybe_precompute := rfl
theorem skel_mul_precompute : skel_PJ_mul_precompute = Curve.Skel.PJ_mul_precompute := rfl
theorem skel_mul : skel_PJ_mul = Curve.Skel.PJ_mul ∧ skel_PJ_rmul = Curve.Skel.PJ_rmul := ⟨rfl, rfl⟩
theorem skel_mul_add : skel_PJ_mul_add = Curve.Skel.PJ_mul_add := rfl
theorem skel_point_mul : skel_Point_mul = Curve.Skel.Point_mul ∧ skel_Point_rmul = Curve.Skel.Point_rmul := ⟨rfl, rfl⟩

theorem naf_step (mult : Int) :
    nafStep mult =
      if PJ_naf_if0 mult then
        let nd := PJ_naf_let1 mult
        let nd := if PJ_naf_if1 nd then PJ_naf_let2 nd else nd
        (nd, PJ_naf_let4 (PJ_naf_let3 mult nd))
      else (0, PJ_naf_let4 mult) := by
  unfold PJ_naf_let1 PJ_naf_let2 PJ_naf_let3 PJ_naf_let4
  simp only [nafStep, PJ_naf_if0, PJ_naf_if1, pmod, pdiv, decide_eq_true_eq]
  rfl

theorem naf_loop (mult : Int) :
    naf mult = if PJ_naf_while0 mult then (nafStep mult).1 :: naf (nafStep mult).2 else [] := by
  rw [naf]
  simp only [PJ_naf_while0, decide_eq_true_eq, ne_eq, dite_eq_ite, ite_not]

theorem table_order (P : PJ) :
    precomputeTable P =
      match truthy P.order with
      | none => .error .assertionError
      | some order =>
        let doubler : PJ := ⟨P.curve, P.x, P.y, P.z, some (PJ_maybe_precompute_let3 order), false⟩
        (pjX doubler).bind fun x => (pjY doubler).bind fun y =>
          tableLoop (PJ_maybe_precompute_let6 (PJ_maybe_precompute_let3 order)) 1 (by decide) doubler [(x, y)] := by
  unfold precomputeTable PJ_maybe_precompute_let3 PJ_maybe_precompute_let6
  cases truthy P.order <;> rfl

/-- `assert order` is the truthiness of `self.__order` (`None` and `0` fail) -/
theorem table_assert (o : Option Int) : (truthy o).isSome = PJ_maybe_precompute_assert0 (o.getD 0) :=
  truthy_isSome o

theorem table_loop (bound i : Int) (hi : 0 < i) (doubler : PJ) (acc : List (Int × Int)) :
    tableLoop bound i hi doubler acc =
      if PJ_maybe_precompute_while0 i bound then
        match pjDouble doubler with
        | .jac D => (pjScale D).bind fun S => (pjX S).bind fun x => (pjY S).bind fun y =>
            tableLoop bound (PJ_maybe_precompute_let7 i) (by unfold PJ_maybe_precompute_let7; omega) S (acc ++ [(x, y)])
        | _ => .error .attributeError
      else .ok acc := by
  rw [tableLoop]
  simp only [PJ_maybe_precompute_while0, PJ_maybe_precompute_let7, decide_eq_true_eq, dite_eq_ite]
  split
  · cases pjDouble doubler <;> rfl
  · rfl

theorem maybe_precompute (P : PJ) (pre : List (Int × Int)) :
    maybePrecompute P pre = if !P.generator || !pre.isEmpty then .ok pre else precomputeTable P := rfl

theorem mul_precompute_step (p a : Int) (st : Int × Int × Int × Int) (e : Int × Int) :
    mulPrecomputeStep p a st e =
      if PJ_mul_precompute_if0 st.1 then
        if PJ_mul_precompute_if1 st.1 then
          (PJ_mul_precompute_let2 st.1, Gen.k_add st.2.1 st.2.2.1 st.2.2.2 e.1 (PJ_mul_precompute_e0 e.2) 1 p a)
        else (PJ_mul_precompute_let4 st.1, Gen.k_add st.2.1 st.2.2.1 st.2.2.2 e.1 e.2 1 p a)
      else (PJ_mul_precompute_let6 st.1, st.2.1, st.2.2.1, st.2.2.2) := by
  simp only [mulPrecomputeStep, PJ_mul_precompute_if0, PJ_mul_precompute_if1, PJ_mul_precompute_let2, PJ_mul_precompute_let4,
    PJ_mul_precompute_let6, PJ_mul_precompute_e0, pmod, pdiv, decide_eq_true_eq]
  rfl

theorem mul_precompute (P : PJ) (table : List (Int × Int)) (k : Int) :
    mulPrecompute P table k =
      (let st := table.foldl (mulPrecomputeStep P.curve.p P.curve.a) (k, 0, 0, 1)
       if PJ_mul_precompute_if2 st.2.2.1 st.2.2.2 then .infinity
       else .jac ⟨P.curve, st.2.1, st.2.2.1, st.2.2.2, P.order, false⟩) := by
  unfold mulPrecompute
  simp only [C06t.Tie.coords_out]
  rfl

theorem mul_naf_step (p a X2 Y2 : Int) (acc : Int × Int × Int) (i : Int) :
    mulNafStep p a X2 Y2 acc i =
      (let d := Gen.k_double acc.1 acc.2.1 acc.2.2 p a
       if PJ_mul_if4 i then Gen.k_add d.1 d.2.1 d.2.2 X2 (PJ_mul_e0 Y2) 1 p a
       else if PJ_mul_if5 i then Gen.k_add d.1 d.2.1 d.2.2 X2 Y2 1 p a
       else d) := by
  simp only [mulNafStep, PJ_mul_if4, PJ_mul_if5, PJ_mul_e0, decide_eq_true_eq]

theorem mul (pre : List (Int × Int)) (P : PJ) (k : Int) :
    pjMulWith pre P k =
      if PJ_mul_if0 P.y k then .ok .infinity
      else if PJ_mul_if1 k then .ok (.jac P)
      else
        let k := match truthy P.order with
          | some o => PJ_mul_let0 k o
          | none => k
        (maybePrecompute P pre).bind fun table =>
          if !table.isEmpty then .ok (mulPrecompute P table k)
          else (pjScale P).bind fun S =>
            let acc := (naf k).reverse.foldl (mulNafStep S.curve.p S.curve.a S.x S.y) (0, 0, 1)
            .ok (if PJ_mul_if6 acc.2.1 acc.2.2 then .infinity else .jac ⟨S.curve, acc.1, acc.2.1, acc.2.2, S.order, false⟩) := by
  simp only [pjMulWith, PJ_mul_if0, PJ_mul_if1, PJ_mul_let0, pmod, C06t.Tie.coords_out, Bool.beq_eq_decide_eq, ne_eq,
    decide_not, Bool.not_not]
  rfl

theorem mul_order_test (o : Option Int) :
    (truthy o).isSome = PJ_mul_if2 (o.getD 0) ∧ (truthy o).isSome = PJ_mul_add_if4 (o.getD 0) :=
  ⟨truthy_isSome o, truthy_isSome o⟩

theorem mul_add_exits (preP preQ : List (Int × Int)) (P : PJ) (sm : Int) (other : Pt) (om : Int) :
    ((ptIsInf other || PJ_mul_add_c0 om) = true → pjMulAddWith preP preQ P sm other om = pjMulWith preP P sm)
    ∧ ((ptIsInf other || PJ_mul_add_c0 om) = false → PJ_mul_add_if1 sm = true →
        pjMulAddWith preP preQ P sm other om = ptMulWith preQ other om) := by
  simp only [PJ_mul_add_c0, PJ_mul_add_if1, ← Bool.beq_eq_decide_eq]
  exact ⟨fun h => by rw [pjMulAddWith.eq_def, if_pos h],
    fun h h2 => by rw [pjMulAddWith.eq_def, if_neg (ne_true_of_eq_false h), if_pos h2]⟩

theorem mul_add_fallback (Y Z : Int) : (Y == 0 || Z == 0) = PJ_mul_add_if5 Y Z := by
  simp only [PJ_mul_add_if5, Bool.beq_eq_decide_eq, ne_eq, decide_not, Bool.not_not]

/-- the main path of `mul_add` (both early exits not taken; a legacy `other` is first converted: `mul_add_affine`) -/
theorem mul_add_main (preP preQ : List (Int × Int)) (P Q : PJ) (sm om : Int)
    (h1 : (pjEqInf Q || PJ_mul_add_c0 om) = false) (h2 : PJ_mul_add_if1 sm = false) :
    pjMulAddWith preP preQ P sm (.jac Q) om =
      (maybePrecompute P preP).bind fun tP => (maybePrecompute Q preQ).bind fun tQ =>
        if !tP.isEmpty && !tQ.isEmpty then
          (pjMulWith tP P sm).bind fun r1 => (pjMulWith tQ Q om).bind fun r2 => ptAdd r1 r2
        else
          let smom := match truthy P.order with
            | some o => (PJ_mul_add_let1 sm o, PJ_mul_add_let2 om o)
            | none => (sm, om)
          let p := P.curve.p
          let a := P.curve.a
          (pjScale P).bind fun SP => (pjScale Q).bind fun SQ =>
            let mAmB := Gen.k_add SP.x (PJ_mul_add_e0 SP.y) SP.z SQ.x (PJ_mul_add_e1 SQ.y) SQ.z p a
            let pAmB := Gen.k_add SP.x SP.y SP.z SQ.x (PJ_mul_add_e2 SQ.y) SQ.z p a
            let mApB := Gen.k_add SP.x (PJ_mul_add_e3 SP.y) SP.z SQ.x SQ.y SQ.z p a
            let pApB := Gen.k_add SP.x SP.y SP.z SQ.x SQ.y SQ.z p a
            if PJ_mul_add_if5 pApB.2.1 pApB.2.2 then
              (pjMulWith tP SP smom.1).bind fun r1 => (pjMulWith tQ SQ smom.2).bind fun r2 => ptAdd r1 r2
            else
              let nafs := padNafs (naf smom.1).reverse (naf smom.2).reverse
              let acc := (nafs.1.zip nafs.2).foldl
                (mulAddStep p a (SP.x, SP.y, SP.z) (SQ.x, SQ.y, SQ.z) mAmB pAmB mApB pApB) (0, 0, 1)
              .ok (coordsOut P.curve P.order acc) := by
  simp only [PJ_mul_add_c0, PJ_mul_add_if1, ← Bool.beq_eq_decide_eq] at h1 h2
  rw [pjMulAddWith.eq_def, show ptIsInf (.jac Q) = pjEqInf Q from rfl, if_neg (ne_true_of_eq_false h1),
    if_neg (ne_true_of_eq_false h2)]
  simp only [← mul_add_fallback]
  rfl

theorem mul_add_affine (preP preQ : List (Int × Int)) (P : PJ) (A : AffPt) (sm om : Int)
    (h1 : PJ_mul_add_c0 om = false) (h2 : PJ_mul_add_if1 sm = false) (hq : pjEqInf (pjFromAffine A) = false) :
    pjMulAddWith preP preQ P sm (.aff A) om = pjMulAddWith preP preQ P sm (.jac (pjFromAffine A)) om := by
  have h1' : (om == 0) = false := (Bool.beq_eq_decide_eq om 0).trans h1
  have h2' : ¬ (sm == 0) = true := ne_true_of_eq_false ((Bool.beq_eq_decide_eq sm 0).trans h2)
  -- both sides pass the two early exits and then see the same converted operand
  have c1 : ¬ (ptIsInf (.aff A) || om == 0) = true := by rw [h1']; exact Bool.false_ne_true
  have c2 : ¬ (ptIsInf (.jac (pjFromAffine A)) || om == 0) = true := by
    rw [show ptIsInf (.jac (pjFromAffine A)) = pjEqInf (pjFromAffine A) from rfl, hq, h1']; exact Bool.false_ne_true
  rw [pjMulAddWith.eq_def, pjMulAddWith.eq_def, if_neg c1, if_neg h2', if_neg c2, if_neg h2']

/-- both multipliers are reduced by the order of `self` -/
theorem mul_add_reduce (sm om o : Int) :
    (pmod sm o, pmod om o) = (PJ_mul_add_let1 sm o, PJ_mul_add_let2 om o) := rfl

theorem mul_add_combos (X1 Y1 Z1 X2 Y2 Z2 p a : Int) :
    Gen.k_add X1 (-Y1) Z1 X2 (-Y2) Z2 p a = Gen.k_add X1 (PJ_mul_add_e0 Y1) Z1 X2 (PJ_mul_add_e1 Y2) Z2 p a
    ∧ Gen.k_add X1 Y1 Z1 X2 (-Y2) Z2 p a = Gen.k_add X1 Y1 Z1 X2 (PJ_mul_add_e2 Y2) Z2 p a
    ∧ Gen.k_add X1 (-Y1) Z1 X2 Y2 Z2 p a = Gen.k_add X1 (PJ_mul_add_e3 Y1) Z1 X2 Y2 Z2 p a := ⟨rfl, rfl, rfl⟩

theorem mul_add_pad (sa sb : List Int) :
    padNafs sa sb =
      if PJ_mul_add_if6 sa.length sb.length then
        (List.replicate (PJ_mul_add_e4 sb.length sa.length).toNat 0 ++ sa, sb)
      else if PJ_mul_add_if7 sa.length sb.length then
        (sa, List.replicate (PJ_mul_add_e5 sa.length sb.length).toNat 0 ++ sb)
      else (sa, sb) := by
  unfold padNafs PJ_mul_add_if6 PJ_mul_add_if7 PJ_mul_add_e4 PJ_mul_add_e5
  by_cases h1 : sa.length < sb.length <;> by_cases h2 : sa.length > sb.length <;> simp [h1, h2]
  all_goals (congr 2; omega)

theorem mul_add_step (p a : Int) (P1 P2 mAmB pAmB mApB pApB acc : Int × Int × Int) (A B : Int) :
    mulAddStep p a P1 P2 mAmB pAmB mApB pApB acc (A, B) =
      (let d := Gen.k_double acc.1 acc.2.1 acc.2.2 p a
       let add := fun (t : Int × Int × Int) => Gen.k_add d.1 d.2.1 d.2.2 t.1 t.2.1 t.2.2 p a
       if PJ_mul_add_if8 A then
         if PJ_mul_add_if9 B then d
         else if PJ_mul_add_if10 B then add (P2.1, PJ_mul_add_e6 P2.2.1, P2.2.2)
         else add P2
       else if PJ_mul_add_if11 A then
         if PJ_mul_add_if12 B then add (P1.1, PJ_mul_add_e7 P1.2.1, P1.2.2)
         else if PJ_mul_add_if13 B then add mAmB
         else add mApB
       else
         if PJ_mul_add_if14 B then add P1
         else if PJ_mul_add_if15 B then add pAmB
         else add pApB) := by
  simp only [mulAddStep, PJ_mul_add_if8, PJ_mul_add_if9, PJ_mul_add_if10, PJ_mul_add_if11, PJ_mul_add_if12, PJ_mul_add_if13,
    PJ_mul_add_if14, PJ_mul_add_if15, PJ_mul_add_e6, PJ_mul_add_e7, decide_eq_true_eq]

/-- the `assert`s inside the dispatch can not fail: they follow from the tests before them -/
theorem mul_add_asserts (A B : Int) :
    (PJ_mul_add_if9 B = false → PJ_mul_add_if10 B = false → PJ_mul_add_assert0 B = true)
    ∧ (PJ_mul_add_if8 A = false → PJ_mul_add_if11 A = false → PJ_mul_add_assert2 A = true)
    ∧ PJ_mul_add_assert1 B = PJ_mul_add_assert0 B ∧ PJ_mul_add_assert3 B = PJ_mul_add_assert0 B := by
  simp only [PJ_mul_add_if8, PJ_mul_add_if9, PJ_mul_add_if10, PJ_mul_add_if11, PJ_mul_add_assert0, PJ_mul_add_assert2,
    decide_eq_false_iff_not, decide_eq_true_eq]
  exact ⟨fun h0 h1 => by omega, fun h0 h1 => by omega, rfl, rfl⟩

theorem mul_add_exit (c : CurveFp) (order : Option Int) (t : Int × Int × Int) :
    coordsOut c order t = if PJ_mul_add_if16 t.2.1 t.2.2 then .infinity else .jac ⟨c, t.1, t.2.1, t.2.2, order, false⟩ :=
  C06t.Tie.coords_out c order t

theorem leftmost_loop (x result : Nat) (h : 0 < result) :
    leftmostLoop x result h =
      if Point_mul_while0 result x then leftmostLoop x (Point_mul_let1 result).toNat (by unfold Point_mul_let1; omega)
      else (Point_mul_ret0 result).toNat := by
  rw [leftmostLoop]
  simp only [Point_mul_while0, Point_mul_let1, Point_mul_ret0, decide_eq_true_eq, Int.ofNat_le, dite_eq_ite, fdiv_two,
    show ((2 : Int) * (result : Int)).toNat = 2 * result from by omega]

theorem point_mul (P : AffPt) (e : Int) :
    affMul P e =
      if Point_mul_if0 e ((truthy P.order).getD 0) then .ok .infinity
      else if Point_mul_if2 e then (affNeg P).bind fun N => affMulPos N (Point_mul_e0 e)
      else affMulPos P e := by
  -- a truthy order is not 0, so the generated `self.__order and e % self.__order == 0` is the model's `byOrder`
  have ho : ∀ o, truthy P.order = some o → o ≠ 0 := by
    intro o h
    unfold truthy at h
    split at h
    · split at h <;> cases h; assumption
    · cases h
  unfold affMul
  cases hc : truthy P.order with
  | none =>
    simp only [Point_mul_if0, Point_mul_if2, Point_mul_e0, Option.getD_none, ne_eq, not_true, decide_false, Bool.false_and,
      Bool.or_false, Bool.beq_eq_decide_eq, decide_eq_true_eq]
    rfl
  | some o =>
    simp only [Point_mul_if0, Point_mul_if2, Point_mul_e0, pmod, Option.getD_some, ne_eq, ho o hc, not_false_eq_true,
      decide_true, Bool.true_and, Bool.beq_eq_decide_eq, decide_eq_true_eq]
    rfl

theorem point_mul_pos (P : AffPt) (e : Int) :
    affMulPos P e =
      (mkPoint P.curve P.x (Point_mul_e1 P.y P.curve.p) P.order).bind fun negSelf =>
        affMulLoop (.aff P) (.aff negSelf) e.toNat (Point_mul_let3 e).toNat
          (Point_mul_let5 (leftmostBit (Point_mul_let3 e).toNat)).toNat (.aff P) := by
  simp only [affMulPos, Point_mul_e1, Point_mul_let3, Point_mul_let5, pmod, fdiv_two]
  rfl

theorem point_mul_loop (self negSelf : Pt) (e e3 i : Nat) (result : Pt) :
    affMulLoop self negSelf e e3 i result =
      if Point_mul_while1 i then
        (ptDouble result).bind fun r =>
          (if Point_mul_if3 e3 i e then ptAdd r self else pure r).bind fun r =>
            (if Point_mul_if4 e3 i e then ptAdd r negSelf else pure r).bind fun r =>
              affMulLoop self negSelf e e3 (Point_mul_let10 i).toNat r
      else .ok result := by
  rw [affMulLoop]
  simp only [Point_mul_while1, Point_mul_if3, Point_mul_if4, Point_mul_let10, pand_nat, fdiv_two, decide_eq_true_eq,
    Int.natCast_eq_zero, ne_eq, decide_not, bne, Bool.beq_eq_decide_eq, dite_eq_ite,
    show ((i : Int) > 1) = (i > 1) from propext ⟨fun h => by omega, fun h => by omega⟩]
  -- the model's `do` block repeats the rest of the round in both branches of each test
  generalize (!decide (e3 &&& i = 0) && decide (e &&& i = 0)) = b1
  generalize (decide (e3 &&& i = 0) && !decide (e &&& i = 0)) = b2
  cases b1 <;> cases b2 <;> rfl

end C07t.Tie
