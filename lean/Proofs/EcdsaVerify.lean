import Proofs.EcdsaGroup
/-!
# Proofs.EcdsaVerify — `Public_key.verifies` decides the FIPS 186-4 / SEC 1 verification rule
-/
namespace Ecdsa

variable {P : Type} {𝔾 : Type} [AddCommGroup 𝔾]
variable {ops : PointOps P} {G : 𝔾} {den : P → 𝔾} {xc : 𝔾 → Option ℤ} {valid : P → Prop}

/-- FIPS 186-4 §6.4.2 / SEC 1 §4.1.4: `1 ≤ r, s ≤ n−1`, `w = s⁻¹ mod n`, `u₁ = e·w mod n`, `u₂ = r·w mod n`,
`R = u₁G + u₂Q ≠ 𝒪`, `x(R) mod n = r` -/
def Fips (n : ℤ) (G Q : 𝔾) (xc : 𝔾 → Option ℤ) (e r s : ℤ) : Prop :=
  1 ≤ r ∧ r ≤ n - 1 ∧ 1 ≤ s ∧ s ≤ n - 1 ∧
    ((e * invZ n s) % n) • G + ((r * invZ n s) % n) • Q ≠ 0 ∧
    ∃ x, xc (((e * invZ n s) % n) • G + ((r * invZ n s) % n) • Q) = some x ∧ x % n = r

theorem combine_spec (C : PointOpsCorrect ops G den xc valid) (u1 u2 : ℤ) (Q : P) (hQ : valid Q) :
    ∃ R, combine ops u1 Q u2 = .ok R ∧ valid R ∧ den R = u1 • G + u2 • den Q := by
  unfold combine
  split
  · rename_i h; exact C.mulAddG h u1 Q u2 hQ
  · obtain ⟨A, hA, vA, dA⟩ := C.mulG u1
    obtain ⟨B, hB, vB, dB⟩ := C.mul u2 Q hQ
    obtain ⟨R, hR, vR, dR⟩ := C.add A B vA vB
    refine ⟨R, ?_, vR, by rw [dR, dA, dB]⟩
    simp [hA, hB, hR, bind, Except.bind]

/-- the two range tests `x < 1 or x > n - 1` of `verifies` (same text for `r` and for `s`) -/
theorem range_test_iff (x n : ℤ) : (decide (x < 1) || decide (x > n - 1)) = true ↔ ¬ (1 ≤ x ∧ x ≤ n - 1) := by
  simp only [Bool.or_eq_true, decide_eq_true_eq]; omega

section
open Classical

/-- C02 core: `verifies` never fails and returns `True` exactly on the FIPS predicate -/
theorem verifies_spec (C : PointOpsCorrect ops G den xc valid) (Q : P) (hQ : valid Q) (e r s : ℤ) :
    verifies ops Q e r s = .ok (decide (Fips ops.order G (den Q) xc e r s)) := by
  have hn := C.n_pos
  -- every refusal comes with a refutation of the predicate
  have no (h : ¬ Fips ops.order G (den Q) xc e r s) :
      (.ok false : Res Bool) = .ok (decide (Fips ops.order G (den Q) xc e r s)) := by rw [decide_eq_false h]
  unfold verifies Gen.Ecdsa.verifies_r_out Gen.Ecdsa.verifies_s_out
  simp only
  by_cases hr : 1 ≤ r ∧ r ≤ ops.order - 1
  swap
  · rw [if_pos ((range_test_iff _ _).mpr hr)]; exact no fun hf => hr ⟨hf.1, hf.2.1⟩
  rw [if_neg (mt (range_test_iff _ _).mp (not_not.mpr hr))]
  by_cases hs : 1 ≤ s ∧ s ≤ ops.order - 1
  swap
  · rw [if_pos ((range_test_iff _ _).mpr hs)]; exact no fun hf => hs ⟨hf.2.2.1, hf.2.2.2.1⟩
  rw [if_neg (mt (range_test_iff _ _).mp (not_not.mpr hs))]
  obtain ⟨hinv, -⟩ := inverseMod_eq_invZ C.n_prime hs.1 (by omega)
  have hu1 : Gen.Ecdsa.verifies_u1 e (invZ ops.order s) ops.order = (e * invZ ops.order s) % ops.order :=
    pmod_eq_emod hn
  have hu2 : Gen.Ecdsa.verifies_u2 r (invZ ops.order s) ops.order = (r * invZ ops.order s) % ops.order :=
    pmod_eq_emod hn
  obtain ⟨R, hR, vR, dR⟩ := combine_spec C ((e * invZ ops.order s) % ops.order) ((r * invZ ops.order s) % ops.order) Q hQ
  simp only [hinv, hu1, hu2, hR, bind, Except.bind]
  unfold Fips at no ⊢
  rw [← dR] at no ⊢
  by_cases hinf : ops.isInfinity R = true
  · rw [if_pos hinf]
    exact no fun hf => hf.2.2.2.2.1 ((C.isInf R vR).mp hinf)
  · have hne : den R ≠ 0 := fun h => hinf ((C.isInf R vR).mpr h)
    obtain ⟨x, hx, hxc⟩ := C.xOf R vR hne
    have hv : Gen.Ecdsa.verifies_v x ops.order = x % ops.order := pmod_eq_emod hn
    rw [if_neg hinf]
    simp only [hx, Gen.Ecdsa.verifies_ret, hv, hxc, Option.some.injEq, exists_eq_left']
    congr 1
    rw [decide_eq_decide]
    exact ⟨fun h => ⟨hr.1, hr.2, hs.1, hs.2, hne, h⟩, fun h => h.2.2.2.2.2⟩

theorem verifies_iff (C : PointOpsCorrect ops G den xc valid) (Q : P) (hQ : valid Q) (e r s : ℤ) :
    verifies ops Q e r s = .ok true ↔ Fips ops.order G (den Q) xc e r s := by
  rw [verifies_spec C Q hQ, Except.ok.injEq, decide_eq_true_eq]

theorem verifies_total (C : PointOpsCorrect ops G den xc valid) (Q : P) (hQ : valid Q) (e r s : ℤ) :
    verifies ops Q e r s = .ok true ∨ verifies ops Q e r s = .ok false := by
  rw [verifies_spec C Q hQ]; cases decide (Fips ops.order G (den Q) xc e r s) <;> simp

theorem verifies_congr (C : PointOpsCorrect ops G den xc valid) {Q Q' : P} (hQ : valid Q) (hQ' : valid Q')
    (h : den Q = den Q') (e r s : ℤ) : verifies ops Q e r s = verifies ops Q' e r s := by
  rw [verifies_spec C Q hQ, verifies_spec C Q' hQ', h]

end

end Ecdsa
