import Proofs.EcdsaInstCurve
/-!
# Proofs.EcdsaInstToy — `Matches` is satisfiable: y² = x³ + x + 6 over 𝔽₁₁, G = (2, 7), n = 13 (non-vacuity of the
ECDSA theorems instantiated at the model of the real point classes)
-/
namespace Ecdsa.OnCurve
open Curve Jac GroupInterface WeierstrassCurve

/-- the toy curve as the driver receives it: `11,1,6,2,7,13,1,j` -/
def toyCrv : Affine.Crv := ⟨11, 1, 6, 2, 7, 13, 1, true⟩

theorem toy_matches : ∃ C : Ctx 11 1 6, Matches toyCrv C := by
  obtain ⟨C, hn, hG⟩ := toy_ctx
  exact ⟨C, ⟨by decide, rfl, rfl, rfl, hn.symm, by decide, rfl, hG.onCurve, hG.inRange, hG.good⟩⟩

/-! Secret 3, hash integer 5 (digest `50`), nonce 2: public point 3G = (8,3); 2G = (5,2), so r = 5, s = 2⁻¹(5 + 5·3) = 10.
Evaluated once here for the closed examples of C01–C03 and C14. -/

theorem toy_pubkey : fromSecretExponent (ops toyCrv) 3 = .ok (.jac ⟨crvOf toyCrv, 8, 3, 1, some 13, false⟩) := by
  decide +kernel

theorem toy_sign : sign (ops toyCrv) 3 5 2 = .ok (5, 10) := by decide +kernel

theorem toy_signDigest : signDigest (ops toyCrv) 3 [0x50] (some 2) (fun _ => .error .other) encDer true
    = .ok [48, 6, 2, 1, 5, 2, 1, 10] := by decide +kernel

theorem toy_verifyDigest : verifyDigest (ops toyCrv) (.jac ⟨crvOf toyCrv, 8, 3, 1, some 13, false⟩) Util.sigdecodeDer
    [48, 6, 2, 1, 5, 2, 1, 10] [0x50] true = .ok true := by decide +kernel

end Ecdsa.OnCurve
