import Proofs.DerTlv
/-!
# Proofs.DerBits — BIT STRING, all three calling conventions of `encode_bitstring` / `remove_bitstring`
(`unused` an integer, `None`, or not given).
-/
namespace Der

/-- the padding condition of DER: no unused bits, or a last byte whose `unused` low bits are zero -/
def bitsPadOK (data : Bytes) (u : Nat) : Bool :=
  u == 0 || (match data.getLast? with | none => false | some last => !padBits last u)

theorem bitsPadOK_iff (data : Bytes) (u : Nat) :
    bitsPadOK data u = true
      ↔ (data = [] → u = 0) ∧ (∀ last, data.getLast? = some last → last.toNat % 2 ^ u = 0) := by
  unfold bitsPadOK padBits
  by_cases h0 : u = 0
  · subst h0; simp [Nat.mod_one]
  · cases hl : data.getLast? with
    | none => simp [h0, List.getLast?_eq_none_iff.mp hl]
    | some last =>
      have hne : data ≠ [] := fun h => by rw [h] at hl; cases hl
      simp [h0, hne, Nat.and_two_pow_sub_one_eq_mod]

theorem padCheck_eq (data : Bytes) (u : Nat) (E : PyErr) :
    padCheck data u E = if bitsPadOK data u then .ok () else .error E := by
  unfold padCheck bitsPadOK
  by_cases hu : u = 0
  · subst hu; simp
  · have : (u == 0) = false := by simpa using hu
    rw [if_pos hu, this]
    cases data.getLast? with
    | none => simp
    | some last => cases hp : padBits last u <;> simp [hp]

/-- `03 len unused data…` -/
def encodeBits (data : Bytes) (u : Nat) : Bytes :=
  [0x03] ++ encodeLength (data.length + 1) ++ [UInt8.ofNat u] ++ data

/-- `03 len s…` (the conventions where the caller supplies the unused-bits byte inside `s`) -/
def encodeBitsRaw (s : Bytes) : Bytes := [0x03] ++ encodeLength s.length ++ s

theorem encodeBits_eq_raw (data : Bytes) (u : Nat) : encodeBits data u = encodeBitsRaw (UInt8.ofNat u :: data) := by
  simp [encodeBits, encodeBitsRaw]

theorem encodeBitstring_some (data : Bytes) (k : Int) :
    encodeBitstring data (.some k) =
      if 0 ≤ k ∧ k ≤ 7 ∧ bitsPadOK data k.toNat = true then
        encodeLengthPy (data.length + 1) >>= fun l => .ok ([0x03] ++ l ++ [UInt8.ofNat k.toNat] ++ data)
      else .error .valueError := by
  unfold encodeBitstring
  simp only
  by_cases hk : 0 ≤ k ∧ k ≤ 7
  · rw [if_neg (not_not_intro hk), padCheck_eq, int2byte_of_range hk.1 (by omega)]
    by_cases hp : bitsPadOK data k.toNat = true
    · rw [if_pos hp, if_pos ⟨hk.1, hk.2, hp⟩]; rfl
    · rw [if_neg hp, if_neg (fun hc => hp hc.2.2)]; rfl
  · rw [if_pos hk, if_neg (fun hc => hk ⟨hc.1, hc.2.1⟩)]

theorem encodeBitstring_some_eq (data : Bytes) (u : Nat) (hu : u ≤ 7) (hp : bitsPadOK data u = true)
    (hl : data.length + 1 < 256 ^ 127) : encodeBitstring data (.some (u : Int)) = .ok (encodeBits data u) := by
  rw [encodeBitstring_some, if_pos ⟨by omega, by omega, hp⟩]
  exact encodeLengthPy_bind_eq hl _

theorem encodeBitstring_some_ok {data e : Bytes} {k : Int} (h : encodeBitstring data (.some k) = .ok e) :
    0 ≤ k ∧ k ≤ 7 ∧ bitsPadOK data k.toNat = true ∧ e = encodeBits data k.toNat := by
  rw [encodeBitstring_some] at h
  split at h
  · rename_i hk; exact ⟨hk.1, hk.2.1, hk.2.2, encodeLengthPy_bind_ok h⟩
  · cases h

theorem encodeBitstring_some_err {data : Bytes} {k : Int} {e : PyErr} (h : encodeBitstring data (.some k) = .error e) :
    e = .valueError ∨ (e = .other ∧ 256 ^ 127 ≤ data.length + 1) := by
  rw [encodeBitstring_some] at h
  split at h
  · exact Or.inr (encodeLengthPy_bind_err h)
  · cases h; exact Or.inl rfl

theorem encodeBitstring_none (s : Bytes) : encodeBitstring s .none = encodeBitstring s .legacy := rfl

theorem encodeBitstring_legacy_eq (s : Bytes) (hl : s.length < 256 ^ 127) :
    encodeBitstring s .legacy = .ok (encodeBitsRaw s) :=
  encodeLengthPy_bind_eq hl _

theorem encodeBitstring_legacy_ok {s e : Bytes} (h : encodeBitstring s .legacy = .ok e) : e = encodeBitsRaw s :=
  encodeLengthPy_bind_ok h

/-- does `remove_bitstring(·, e)` accept `u` unused bits?  Only an integer `k` is compared with the octet. -/
def Unused.admits : Unused → Nat → Prop
  | .some k, u => k = (u : Int)
  | _, _ => True

instance (e : Unused) (u : Nat) : Decidable (e.admits u) := by
  cases e <;> (unfold Unused.admits; infer_instance)

/-- what `remove_bitstring` returns besides the data: the count, under `None` only -/
def Unused.report : Unused → Nat → Option Nat
  | .none, u => Option.some u
  | _, _ => Option.none

def bitsCheck (e : Unused) (body rest : Bytes) : Res (Bytes × Option Nat × Bytes) :=
  if body.length = 0 then .error .unexpectedDER else bitsTail body rest e

theorem removeBitstring_eq (s : Bytes) (e : Unused) :
    removeBitstring s e = tlvRead (· = 0x03) (fun _ => bitsCheck e) s := by
  cases s with
  | nil => rfl
  | cons t s' =>
    rw [tlvRead_cons]
    simp only [removeBitstring, tlvBody]
    congr 1
    cases readLength ((t :: s').drop 1) with
    | error e => rfl
    | ok v =>
      obtain ⟨length, llen⟩ := v
      simp only [bind, Except.bind]
      cases hl : tooLong length (t :: s') llen with
      | true => split <;> rfl
      | false =>
        have hlen := take_length_of_fits hl
        simp only [Bool.false_eq_true, if_false]
        generalize ((t :: s').drop (1 + llen)).take length = body at hlen ⊢
        subst hlen
        rfl

theorem bitsCheck_legacy (body rest : Bytes) :
    bitsCheck .legacy body rest = if body = [] then .error .unexpectedDER else .ok (body, none, rest) := by
  cases body <;> rfl

/-- the `None` and integer conventions: the first content octet is the number of unused bits -/
theorem bitsCheck_cons (e : Unused) (he : e ≠ .legacy) (u : UInt8) (data rest : Bytes) :
    bitsCheck e (u :: data) rest =
      if u.toNat ≤ 7 ∧ e.admits u.toNat ∧ bitsPadOK data u.toNat = true then .ok (data, e.report u.toNat, rest)
      else .error .unexpectedDER := by
  have hpad := padCheck_eq data u.toNat .unexpectedDER
  cases e with
  | legacy => exact absurd rfl he
  | none =>
    simp only [bitsCheck, bitsTail, idx_zero_cons, bind, Except.bind, List.drop_succ_cons, List.drop_zero, hpad,
      Unused.admits, Unused.report, true_and, List.length_cons, Nat.add_one_ne_zero, if_false]
    by_cases hu : u.toNat ≤ 7 <;> by_cases hp : bitsPadOK data u.toNat = true <;> simp [hu, hp]
  | some k =>
    simp only [bitsCheck, bitsTail, idx_zero_cons, bind, Except.bind, List.drop_succ_cons, List.drop_zero, hpad,
      Unused.admits, Unused.report, List.length_cons, Nat.add_one_ne_zero, if_false]
    by_cases hu : u.toNat ≤ 7 <;> by_cases hk : k = (u.toNat : Int) <;>
      by_cases hp : bitsPadOK data u.toNat = true <;> simp [hu, hk, hp]

theorem bitsCheck_rest {e : Unused} {body rest data rest' : Bytes} {o : Option Nat}
    (h : bitsCheck e body rest = .ok (data, o, rest')) : rest' = rest := by
  match body, h with
  | ub :: d, h =>
    by_cases he : e = .legacy
    · subst he; cases h; rfl
    · rw [bitsCheck_cons e he] at h
      split at h
      · cases h; rfl
      · cases h

theorem encodeBitsRaw_append (s rest : Bytes) :
    encodeBitsRaw s ++ rest = 0x03 :: (encodeLength s.length ++ s ++ rest) := rfl

theorem removeBitstring_legacy_ok_iff (s b rest : Bytes) (o : Option Nat) :
    removeBitstring s .legacy = .ok (b, o, rest)
      ↔ o = none ∧ b ≠ [] ∧ b.length < 256 ^ 127 ∧ s = encodeBitsRaw b ++ rest := by
  rw [removeBitstring_eq, encodeBitsRaw_append]
  constructor
  · intro h
    obtain ⟨t, body, r, rfl, hs, hl, hk⟩ := tlvRead_ok h
    rw [bitsCheck_legacy] at hk
    split at hk
    · cases hk
    · rename_i hne; cases hk; exact ⟨rfl, hne, hl, hs⟩
  · intro ⟨ho, hne, hl, hs⟩
    rw [hs, ho, tlvRead_encode (by rfl) b rest hl, bitsCheck_legacy, if_neg hne]

theorem removeBitstring_ok_iff {e : Unused} (he : e ≠ .legacy) (s data rest : Bytes) (o : Option Nat) :
    removeBitstring s e = .ok (data, o, rest)
      ↔ ∃ u, u ≤ 7 ∧ e.admits u ∧ o = e.report u ∧ bitsPadOK data u = true ∧ data.length + 1 < 256 ^ 127
          ∧ s = encodeBits data u ++ rest := by
  rw [removeBitstring_eq]
  constructor
  · intro h
    obtain ⟨t, body, r, rfl, hs, hl, hk⟩ := tlvRead_ok h
    match body, hs, hl, hk with
    | ub :: d, hs, hl, hk =>
      rw [bitsCheck_cons e he] at hk
      split at hk
      · rename_i hc
        cases hk
        refine ⟨ub.toNat, hc.1, hc.2.1, rfl, hc.2.2, hl, ?_⟩
        rw [encodeBits_eq_raw, UInt8.ofNat_toNat]; exact hs
      · cases hk
  · intro ⟨u, hu, ha, ho, hp, hl, hs⟩
    have hu' : (UInt8.ofNat u).toNat = u := u8_ofNat_toNat u (by omega)
    rw [hs, ho, encodeBits_eq_raw, encodeBitsRaw_append, tlvRead_encode (by rfl) (UInt8.ofNat u :: data) rest hl,
      bitsCheck_cons e he, hu',
      if_pos ⟨hu, ha, hp⟩]

/-- every convention: only `UnexpectedDER` (in particular `str_idx_as_int(body, 0)` never raises) -/
theorem removeBitstring_err {s : Bytes} {expect : Unused} {e : PyErr}
    (h : removeBitstring s expect = .error e) : e = .unexpectedDER := by
  rw [removeBitstring_eq] at h
  refine tlvRead_err h (fun _ body rest hk => ?_)
  match body, hk with
  | [], hk => cases hk; rfl
  | ub :: d, hk =>
    by_cases he : expect = .legacy
    · subst he; cases hk
    · rw [bitsCheck_cons expect he] at hk
      split at hk
      · cases hk
      · cases hk; rfl

theorem removeBitstring_legacy_encode (s rest : Bytes) (hs : s ≠ []) (hl : s.length < 256 ^ 127) :
    removeBitstring (encodeBitsRaw s ++ rest) .legacy = .ok (s, none, rest) :=
  (removeBitstring_legacy_ok_iff _ s rest none).mpr ⟨rfl, hs, hl, rfl⟩

theorem removeBitstring_legacy_ok {s b rest : Bytes} {o : Option Nat}
    (h : removeBitstring s .legacy = .ok (b, o, rest)) :
    o = none ∧ b ≠ [] ∧ b.length < 256 ^ 127 ∧ s = encodeBitsRaw b ++ rest :=
  (removeBitstring_legacy_ok_iff s b rest o).mp h

theorem removeBitstring_none_encode (data rest : Bytes) (u : Nat) (hu : u ≤ 7) (hp : bitsPadOK data u = true)
    (hl : data.length + 1 < 256 ^ 127) :
    removeBitstring (encodeBits data u ++ rest) .none = .ok (data, some u, rest) :=
  (removeBitstring_ok_iff (by decide) _ data rest _).mpr ⟨u, hu, trivial, rfl, hp, hl, rfl⟩

theorem removeBitstring_none_ok {s data rest : Bytes} {o : Option Nat}
    (h : removeBitstring s .none = .ok (data, o, rest)) :
    ∃ u, o = some u ∧ u ≤ 7 ∧ bitsPadOK data u = true ∧ data.length + 1 < 256 ^ 127
      ∧ s = encodeBits data u ++ rest := by
  obtain ⟨u, hu, _, ho, hp, hl, hs⟩ := (removeBitstring_ok_iff (by decide) s data rest o).mp h
  exact ⟨u, ho, hu, hp, hl, hs⟩

theorem removeBitstring_some_encode (data rest : Bytes) (u : Nat) (hu : u ≤ 7) (hp : bitsPadOK data u = true)
    (hl : data.length + 1 < 256 ^ 127) :
    removeBitstring (encodeBits data u ++ rest) (.some (u : Int)) = .ok (data, none, rest) :=
  (removeBitstring_ok_iff (by simp) _ data rest _).mpr ⟨u, hu, rfl, rfl, hp, hl, rfl⟩

theorem removeBitstring_some_ok {s data rest : Bytes} {o : Option Nat} {k : Int}
    (h : removeBitstring s (.some k) = .ok (data, o, rest)) :
    o = none ∧ 0 ≤ k ∧ k ≤ 7 ∧ bitsPadOK data k.toNat = true ∧ data.length + 1 < 256 ^ 127
      ∧ s = encodeBits data k.toNat ++ rest := by
  obtain ⟨u, hu, hk, ho, hp, hl, hs⟩ := (removeBitstring_ok_iff (by simp) s data rest o).mp h
  have hk' : k = (u : Int) := hk
  subst hk'
  exact ⟨ho, by omega, by omega, hp, hl, hs⟩

end Der
