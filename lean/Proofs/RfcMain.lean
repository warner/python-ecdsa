import Proofs.RfcSpec
/-!
# Proofs.RfcMain — `Model.Rfc6979` computes the RFC 6979 candidate stream of `Proofs.RfcSpec`
-/
namespace Rfc
open Bits Rand

theorem bits2int_model (data : Bytes) (ql : Nat) (h : data ≠ []) :
    Rfc6979.bits2int data ql = .ok (bitsVal ((bitsOfBytes data).take ql)) := by
  have hne : data.isEmpty = false := List.isEmpty_eq_false_iff.2 h
  unfold Rfc6979.bits2int
  rw [bitsVal_take, bitsVal_bitsOfBytes, bitsOfBytes_length, hne, Nat.mul_comm]
  simp only [Bool.false_eq_true, if_false]
  split
  · rw [Nat.shiftRight_eq_div_pow]
  · rw [Nat.sub_eq_zero_of_le (Nat.le_of_not_lt ‹_›), Nat.pow_zero, Nat.div_one]

theorem bits2int_lt (q : Nat) (b : List Bool) : bits2int q b < 2 ^ qlen q :=
  Nat.lt_of_lt_of_le (bitsVal_lt _) (Nat.pow_le_pow_right (by decide) (List.length_take_le _ _))

theorem qlen_pos (q : Nat) : 1 ≤ qlen q := by unfold qlen bitLength1; split <;> omega

/-- `z1 < 2^qlen ≤ 2q`: one conditional subtraction is `mod q` -/
theorem bits2int_lt_two_q (q : Nat) (hq : 1 ≤ q) (b : List Bool) : bits2int q b < 2 * q := by
  have hlt := bits2int_lt q b
  have ⟨hle, _⟩ := qlen_spec q hq
  obtain ⟨m, hm⟩ : ∃ m, qlen q = m + 1 := ⟨qlen q - 1, by have := qlen_pos q; omega⟩
  rw [hm, Nat.pow_succ] at hlt
  rw [hm, Nat.add_sub_cancel] at hle
  omega

/-- `orderlen(q) = ⌈qlen/8⌉`: the code's byte length of the order is the RFC's `rlen/8` -/
theorem orderlen_eq (q : Nat) : Util.orderlen q = (bitLength1 q + 7) / 8 := by
  rcases Nat.eq_zero_or_pos q with rfl | hq
  · rw [Util.orderlen_zero, bitLength1, if_pos ((bitLength_eq_zero_iff 0).2 rfl)]
  · rw [bitLength1_eq q hq, Util.orderlen_eq_bitLength q hq]

theorem rolen_eq_orderlen (q : Nat) : rolen q = Util.orderlen q := (orderlen_eq q).symm

theorem int2octets_eq_beFixed (rolen x : Nat) : int2octets rolen x = beFixed rolen x := by
  induction rolen generalizing x with
  | zero => rfl
  | succ l ih =>
    rw [beFixed, ← ih, int2octets, List.range_succ, List.map_append]
    congr 1
    · unfold int2octets
      apply List.map_congr_left
      intro i hi
      have hi' := List.mem_range.1 hi
      have : l + 1 - 1 - i = (l - 1 - i) + 1 := by omega
      rw [this, Nat.pow_succ, Nat.mul_comm, Nat.div_div_eq_div_mul]
    · simp

theorem numberToStringCrop_of_lt {z q : Nat} (h : z < 256 ^ Util.orderlen q) :
    Util.numberToStringCrop z q = .ok (beFixed (Util.orderlen q) z) := by
  have hfit := (Util.fits_iff z _ (Util.orderlen_pos q)).2 h
  unfold Util.numberToStringCrop
  simp only
  rw [if_neg hfit.1, hfit.2, List.take_of_length_le (Nat.le_of_eq (beFixed_length _ _))]

theorem bits2octets_model (data : Bytes) (q : Nat) (hd : data ≠ []) (hq : 1 ≤ q) :
    Rfc6979.bits2octets data q = .ok (bits2octets q (bitsOfBytes data)) := by
  have hz := bits2int_lt_two_q q hq (bitsOfBytes data)
  unfold Rfc6979.bits2octets bits2octets
  rw [bits2int_model data _ hd, int2octets_eq_beFixed, rolen_eq_orderlen]
  simp only [bind, Except.bind]
  unfold bits2int qlen at hz ⊢
  generalize bitsVal ((bitsOfBytes data).take (bitLength1 q)) = z at hz ⊢
  have hmod : (if ((z : Int) - (q : Int)) < 0 then (z : Int) else (z : Int) - (q : Int)).toNat = z % q := by
    split
    · rw [Nat.mod_eq_of_lt (by omega), Int.toNat_natCast]
    · rw [Nat.mod_eq_sub_mod (by omega), Nat.mod_eq_of_lt (by omega)]
      omega
  rw [hmod, numberToStringCrop_of_lt (Nat.lt_trans (Nat.mod_lt _ (by omega)) (Util.lt_pow_orderlen q))]

theorem h2Loop_genT (hmac : Bytes → Bytes → Bytes) (K : Bytes) (hlen rol : Nat)
    (hlenH : ∀ k m, (hmac k m).length = hlen) (r : Nat) :
    ∀ (fuel : Nat) (v t : Bytes), rol ≤ t.length + hlen * r → (0 < r → t.length + hlen * (r - 1) < rol) → r ≤ fuel →
      Rfc6979.h2Loop hmac K rol fuel v t = some ((genT hmac K r v).1, t ++ (genT hmac K r v).2) := by
  induction r with
  | zero =>
    intro fuel v t h1 _ _
    have : ¬ t.length < rol := by omega
    cases fuel <;> simp [Rfc6979.h2Loop, this, genT]
  | succ r ih =>
    intro fuel v t h1 h2 h3
    obtain ⟨f, rfl⟩ : ∃ f, fuel = f + 1 := ⟨fuel - 1, by omega⟩
    have h2 := h2 (Nat.succ_pos r)
    rw [Nat.add_sub_cancel] at h2
    rw [Rfc6979.h2Loop, if_pos (by omega)]
    simp only
    rw [ih f (hmac K v) (t ++ hmac K v), genT, List.append_assoc]
    · rw [List.length_append, hlenH]; rw [Nat.mul_succ] at h1; omega
    · intro hr
      obtain ⟨r', rfl⟩ : ∃ r', r = r' + 1 := ⟨r - 1, by omega⟩
      rw [List.length_append, hlenH, Nat.add_sub_cancel]; rw [Nat.mul_succ] at h2; omega
    · omega

theorem genT_length (hmac : Bytes → Bytes → Bytes) (K : Bytes) (hlen : Nat)
    (hlenH : ∀ k m, (hmac k m).length = hlen) (r : Nat) (v : Bytes) : (genT hmac K r v).2.length = hlen * r := by
  induction r generalizing v with
  | zero => rfl
  | succ r ih => rw [genT, List.length_append, ih, hlenH, Nat.mul_succ, Nat.add_comm]

/-- the code's loop bound (`len(t) < rolen`, bytes) runs as often as the RFC's (`tlen < qlen`, bits), and that is at least once -/
theorem h2Loop_blocks (hmac : Bytes → Bytes → Bytes) (K v : Bytes) (hlen q : Nat) (hh : 0 < hlen)
    (hlenH : ∀ k m, (hmac k m).length = hlen) :
    Rfc6979.h2Loop hmac K (rolen q) (rolen q) v [] = some (genT hmac K (blocks hlen q) v) ∧ (genT hmac K (blocks hlen q) v).2 ≠ [] := by
  have ⟨b1, b2⟩ := blocks_spec hlen q hh
  rw [Nat.mul_assoc] at b1 b2
  have hq := qlen_pos q
  have hbpos : 0 < blocks hlen q := Nat.pos_of_ne_zero fun h => by rw [h] at b1; omega
  have b2 := b2 hbpos
  -- the model's fuel is `rolen q`: every round adds `hlen ≥ 1` bytes, so there are at most `rolen q` rounds
  have hle : blocks hlen q - 1 ≤ hlen * (blocks hlen q - 1) := Nat.le_mul_of_pos_left _ hh
  refine ⟨?_, List.ne_nil_of_length_pos (by rw [genT_length hmac K hlen hlenH]; exact Nat.mul_pos hh hbpos)⟩
  rw [h2Loop_genT hmac K hlen (rolen q) hlenH (blocks hlen q) (rolen q) v []]
  · rfl
  -- the three hypotheses of `h2Loop_genT` at `t = []`, from `b1`, `b2`, `hq`, `hle`
  · show rolen q ≤ 0 + _
    unfold rolen; omega
  · intro _
    show 0 + _ < rolen q
    unfold rolen; omega
  · unfold rolen; omega

theorem hLoop_succ (hmac : Bytes → Bytes → Bytes) (hlen q : Nat) (hh : 0 < hlen) (hlenH : ∀ k m, (hmac k m).length = hlen)
    (fuel : Nat) (kv : Bytes × Bytes) (retry : Int) :
    Rfc6979.hLoop hmac q (qlen q) (rolen q) (fuel + 1) kv.1 kv.2 retry =
      if acceptable q (candidate hmac hlen q kv).1 then
        if retry ≤ 0 then some (.ok (candidate hmac hlen q kv).1)
        else Rfc6979.hLoop hmac q (qlen q) (rolen q) fuel (candidate hmac hlen q kv).2.1 (candidate hmac hlen q kv).2.2 (retry - 1)
      else Rfc6979.hLoop hmac q (qlen q) (rolen q) fuel (candidate hmac hlen q kv).2.1 (candidate hmac hlen q kv).2.2 retry := by
  have ⟨hT, hTne⟩ := h2Loop_blocks hmac kv.1 kv.2 hlen q hh hlenH
  rw [Rfc6979.hLoop, hT]
  simp only
  rw [bits2int_model _ _ hTne]
  rfl

theorem count_candAt_succ (hmac : Bytes → Bytes → Bytes) (hlen q j : Nat) (kv : Bytes × Bytes) :
    ((List.range (j + 1)).filter fun i => decide (acceptable q (candAt hmac hlen q i kv))).length =
      (if acceptable q (candidate hmac hlen q kv).1 then 1 else 0) +
        ((List.range j).filter fun i => decide (acceptable q (candAt hmac hlen q i (candidate hmac hlen q kv).2))).length := by
  rw [List.range_succ_eq_map, List.filter_cons, List.filter_map]
  by_cases h : acceptable q (candidate hmac hlen q kv).1
  · rw [if_pos h, if_pos (decide_eq_true h : decide (acceptable q (candAt hmac hlen q 0 kv)) = true), List.length_cons,
      List.length_map, Nat.add_comm]
    rfl
  · rw [if_neg h, if_neg (fun h' => h (of_decide_eq_true h') : ¬ decide (acceptable q (candAt hmac hlen q 0 kv)) = true),
      List.length_map, Nat.zero_add]
    rfl

theorem hLoop_spec (hmac : Bytes → Bytes → Bytes) (hlen q : Nat) (hh : 0 < hlen)
    (hlenH : ∀ k m, (hmac k m).length = hlen) (fuel : Nat) :
    ∀ (kv : Bytes × Bytes) (retry : Int) (s : Nat),
      Rfc6979.hLoop hmac q (qlen q) (rolen q) fuel kv.1 kv.2 retry = some (.ok s) →
      IsNthAcceptable q (fun i => candAt hmac hlen q i kv) retry.toNat s := by
  induction fuel with
  | zero => intro kv retry s h; cases h
  | succ f ih =>
    intro kv retry s h
    rw [hLoop_succ hmac hlen q hh hlenH] at h
    split at h
    · rename_i hacc
      split at h
      · obtain rfl := Except.ok.inj (Option.some.inj h)
        exact ⟨0, rfl, hacc, show 0 = _ by omega⟩
      · obtain ⟨j, hj, hacc', hcnt⟩ := ih _ _ _ h
        exact ⟨j + 1, hj, hacc', by rw [count_candAt_succ, if_pos hacc, hcnt]; omega⟩
    · rename_i hacc
      obtain ⟨j, hj, hacc', hcnt⟩ := ih _ _ _ h
      exact ⟨j + 1, hj, hacc', by rw [count_candAt_succ, if_neg hacc, hcnt, Nat.zero_add]⟩

theorem hLoop_complete (hmac : Bytes → Bytes → Bytes) (hlen q : Nat) (hh : 0 < hlen)
    (hlenH : ∀ k m, (hmac k m).length = hlen) (j : Nat) :
    ∀ (fuel : Nat) (kv : Bytes × Bytes) (retry : Int) (s : Nat), j < fuel →
      candAt hmac hlen q j kv = s → acceptable q s →
      ((List.range j).filter fun i => decide (acceptable q (candAt hmac hlen q i kv))).length = retry.toNat →
      Rfc6979.hLoop hmac q (qlen q) (rolen q) fuel kv.1 kv.2 retry = some (.ok s) := by
  induction j with
  | zero =>
    intro fuel kv retry s hf hs hacc hcnt
    obtain ⟨f, rfl⟩ : ∃ f, fuel = f + 1 := ⟨fuel - 1, by omega⟩
    have hs : (candidate hmac hlen q kv).1 = s := hs
    have hr : retry ≤ 0 := by have : 0 = retry.toNat := hcnt; omega
    rw [hLoop_succ hmac hlen q hh hlenH, hs, if_pos hacc, if_pos hr]
  | succ j ih =>
    intro fuel kv retry s hf hs hacc hcnt
    obtain ⟨f, rfl⟩ : ∃ f, fuel = f + 1 := ⟨fuel - 1, by omega⟩
    rw [count_candAt_succ] at hcnt
    rw [hLoop_succ hmac hlen q hh hlenH]
    split
    · rw [if_pos ‹_›] at hcnt
      rw [if_neg (by omega)]
      exact ih f _ _ s (by omega) hs hacc (by omega)
    · rw [if_neg ‹_›] at hcnt
      exact ih f _ _ s (by omega) hs hacc (by omega)

theorem initKV_model (hmac : Bytes → Bytes → Bytes) (hlen q x : Nat) (h1 extra : Bytes) :
    Rfc6979.initKV hmac hlen (beFixed (Util.orderlen q) x ++ bits2octets q (bitsOfBytes h1) ++ extra)
      = initKV hmac hlen q x h1 extra := by
  rw [← rolen_eq_orderlen, ← int2octets_eq_beFixed]
  rfl

theorem generateK_spec (hmac : Bytes → Bytes → Bytes) (hlen : Nat) (hh : 0 < hlen)
    (hlenH : ∀ k m, (hmac k m).length = hlen) (q x : Nat) (h1 extra : Bytes) (retry : Int) (fuel : Nat) (s : Nat)
    (h : Rfc6979.generateK hmac hlen q x h1 retry extra fuel = some (.ok s)) :
    IsNthAcceptable q (stream hmac hlen q x h1 extra) retry.toNat s ∧ x < 256 ^ rolen q ∧ h1 ≠ [] := by
  unfold Rfc6979.generateK at h
  simp only at h
  split at h
  · cases h
  · rename_i bx0 hx
    obtain ⟨hxlt, rfl⟩ := Util.numberToString_ok hx
    split at h
    · cases h
    · rename_i bx1 hb
      have hne : h1 ≠ [] := by
        rintro rfl
        cases hb
      have hres := hLoop_spec hmac hlen q hh hlenH fuel _ retry s h
      -- q ≥ 1, otherwise no candidate is ever accepted
      have hq : 1 ≤ q := by
        obtain ⟨_, _, hacc, _⟩ := hres
        unfold acceptable at hacc; omega
      rw [bits2octets_model h1 q hne hq] at hb
      rw [← Except.ok.inj hb, initKV_model] at hres
      exact ⟨hres, by rw [rolen_eq_orderlen]; exact hxlt, hne⟩

theorem generateK_complete (hmac : Bytes → Bytes → Bytes) (hlen : Nat) (hh : 0 < hlen)
    (hlenH : ∀ k m, (hmac k m).length = hlen) (q x : Nat) (h1 extra : Bytes) (retry : Int) (fuel j s : Nat)
    (hx : x < 256 ^ rolen q) (hne : h1 ≠ []) (hj : j < fuel)
    (hs : stream hmac hlen q x h1 extra j = s) (hacc : acceptable q s)
    (hcnt : ((List.range j).filter (fun i => decide (acceptable q (stream hmac hlen q x h1 extra i)))).length = retry.toNat) :
    Rfc6979.generateK hmac hlen q x h1 retry extra fuel = some (.ok s) := by
  have hq : 1 ≤ q := by unfold acceptable at hacc; omega
  rw [rolen_eq_orderlen] at hx
  unfold Rfc6979.generateK
  simp only
  rw [Util.numberToString_eq _ _ hx, bits2octets_model h1 q hne hq]
  simp only
  rw [initKV_model]
  exact hLoop_complete hmac hlen q hh hlenH j fuel _ retry s hj hs hacc hcnt

end Rfc
