import Proofs.EcdsaGroup
/-!
# Proofs.EcdsaKeys — `Public_key.__init__` checks and `SigningKey.from_secret_exponent`
-/
namespace Ecdsa

variable {P : Type} {𝔾 : Type} [AddCommGroup 𝔾]
variable {ops : PointOps P} {G : 𝔾} {den : P → 𝔾} {xc : 𝔾 → Option ℤ} {valid : P → Prop}

/-- `hon`, `hnA`: what `verify=True` additionally tests (`contains_point`; `n * point` when the cofactor is not 1) -/
theorem publicKeyCheck_ok (C : PointOpsCorrect ops G den xc valid) (A : P) (hA : valid A) (hne : den A ≠ 0) (verify : Bool)
    (hon : verify = true → ∀ x y, ops.xOf A = .ok x → ops.yOf A = .ok y → ops.containsPoint x y = true)
    (hnA : verify = true → ops.order • den A = 0) : publicKeyCheck ops A verify = .ok true := by
  obtain ⟨x, hx, hxc⟩ := C.xOf A hA hne
  obtain ⟨y, hy, hy0, hy1⟩ := C.yOf A hA hne
  obtain ⟨hx0, hx1⟩ := C.xc_range _ _ hxc
  have hn := C.n_pos
  -- the checks, in the order of `Public_key.__init__`
  have notInfObj := C.isInfObj A hA hne
  have xIn : Gen.Ecdsa.pubkey_x_out x ops.p = false := by simp [Gen.Ecdsa.pubkey_x_out, hx0, hx1]
  have yIn : Gen.Ecdsa.pubkey_y_out y ops.p = false := by simp [Gen.Ecdsa.pubkey_y_out, hy0, hy1]
  have hasOrder : Gen.Ecdsa.pubkey_no_order ops.order = false := by simp [Gen.Ecdsa.pubkey_no_order]; omega
  unfold publicKeyCheck
  simp only [notInfObj, hx, xIn, hy, yIn, hasOrder, bind, Except.bind, Bool.false_eq_true, if_false]
  cases verify
  · rfl
  · -- `verify=True`: on the curve, and `n * point == INFINITY` when the cofactor is not 1
    obtain ⟨T, hT, vT, dT⟩ := C.mul ops.order A hA
    have nTimes : ops.isInfinity T = true := (C.isInf T vT).mpr (by rw [dT, hnA rfl])
    cases hc : ops.cofactorIsOne <;> simp [hon rfl x y hx hy, hT, nTimes]

/-- C03, public key: outside `1 ≤ d < n` it is `MalformedPointError` -/
theorem fromSecretExponent_spec (C : PointOpsCorrect ops G den xc valid) (d : ℤ) :
    (1 ≤ d ∧ d < ops.order → ∃ A, fromSecretExponent ops d = .ok A ∧ valid A ∧ den A = d • G) ∧
    (¬ (1 ≤ d ∧ d < ops.order) → fromSecretExponent ops d = .error .malformedPoint) := by
  constructor
  · rintro ⟨h1, h2⟩
    obtain ⟨A, hA, vA, dA⟩ := C.mulG d
    obtain ⟨B, hB, vB, dB⟩ := C.scale A vA
    have hne : den B ≠ 0 := by rw [dB, dA]; exact C.smul_ne_zero (not_dvd_of_range h1 h2)
    have hbad : Gen.Ecdsa.secexp_bad d ops.order = false := by
      simp [Gen.Ecdsa.secexp_bad, h1, h2]
    obtain ⟨vF, dF⟩ := C.fromAffine B vB
    have hneF : den (ops.fromAffine B) ≠ 0 := by rw [dF]; exact hne
    refine ⟨ops.fromAffine B, ?_, vF, by rw [dF, dB, dA]⟩
    unfold fromSecretExponent fromPublicPoint
    simp [hbad, hA, hB, C.isInfObj B vB hne, publicKeyCheck_ok C _ vF hneF false nofun nofun, bind, Except.bind]
  · intro h
    have hbad : Gen.Ecdsa.secexp_bad d ops.order = true := by
      simp only [Gen.Ecdsa.secexp_bad, Bool.not_eq_true', Bool.and_eq_false_iff, decide_eq_false_iff_not]
      omega
    unfold fromSecretExponent
    simp [hbad]

end Ecdsa
