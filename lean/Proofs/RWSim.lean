import Proofs.RWInv
/-! # Proofs.RWSim — the thread-level semantics and its counting abstraction simulate each other
(generic in the programs), and every reachable configuration of the generated programs satisfies `RInv` -/
namespace RW

def SRes.map {α β : Type} (f : α → β) : SRes α → SRes β
  | .ok a => .ok (f a)
  | .blocked => .blocked
  | .err => .err
  | .none => .none

theorem advance_pt {P : Progs} {t : Thread} {r rest} (hr : t.rounds = r :: rest) :
    (advance P t).pt = dest P r t.pc rest.head? := by
  unfold advance dest
  rw [hr]
  simp only
  split
  · simp [Thread.pt]
  · cases rest <;> simp [Thread.pt]

theorem pt_eq_some {t : Thread} {r : Role} {k : Nat} :
    t.pt = some (r, k) ↔ ∃ rest, t.rounds = r :: rest ∧ t.pc = k := by
  obtain ⟨rounds, pc⟩ := t
  cases rounds <;> simp [Thread.pt]

theorem cntAt_set (thr : List Thread) (i : Nat) (t t' : Thread) (src : Role × Nat)
    (hi : thr[i]? = some t) (hpt : t.pt = some src) :
    cntAt (thr.set i t') = move (cntAt thr) src t'.pt := by
  funext r k
  obtain ⟨hlt, hget⟩ := List.getElem?_eq_some_iff.mp hi
  simp only [cntAt, move]
  rw [List.countP_set hlt, hget]
  by_cases h1 : (r, k) = src
  · have : t.pt = some (r, k) := by rw [hpt, h1]
    simp [h1, this]
  · have : ¬ t.pt = some (r, k) := by rw [hpt]; intro h; exact h1 (Option.some.inj h).symm
    simp [h1, this]

theorem cntAt_ne_zero {thr : List Thread} {i : Nat} {t : Thread} {r k} (hi : thr[i]? = some t)
    (hpt : t.pt = some (r, k)) : cntAt thr r k ≠ 0 :=
  Nat.ne_of_gt (List.countP_pos_iff.mpr ⟨t, List.mem_of_getElem? hi, decide_eq_true hpt⟩)

theorem exists_of_cntAt_ne_zero {thr : List Thread} {r k} (h : cntAt thr r k ≠ 0) :
    ∃ (i : Nat) (t : Thread) (rest : List Role), thr[i]? = some t ∧ t.rounds = r :: rest ∧ t.pc = k := by
  obtain ⟨t, hmem, hp⟩ := List.countP_pos_iff.mp (Nat.pos_of_ne_zero h)
  obtain ⟨i, hi⟩ := List.getElem?_of_mem hmem
  obtain ⟨rest, hr, hk⟩ := pt_eq_some.mp (of_decide_eq_true hp)
  exact ⟨i, t, rest, hi, hr, hk⟩

/-- thread → abstraction, outcome by outcome (`ok` / `blocked` / `err`) -/
theorem sim_step (P : Progs) (c : Cfg) (i : Nat) (t : Thread) (r : Role) (rest : List Role)
    (ht : c.thr[i]? = some t) (hr : t.rounds = r :: rest) :
    cstep P ⟨r, t.pc, rest.head?⟩ (abs c) = (tstep P c i).map abs := by
  have hpt : t.pt = some (r, t.pc) := pt_eq_some.mpr ⟨rest, hr, rfl⟩
  have hne : (abs c).cnt r t.pc ≠ 0 := cntAt_ne_zero ht hpt
  unfold cstep tstep
  simp only [hne, if_false, ht, hr]
  cases hins : (P.round r)[t.pc]? with
  | none => rfl
  | some ins =>
    simp only [abs]
    cases hex : exec ins c.sh with
    | ok sh' =>
      simp only [SRes.map, abs]
      rw [cntAt_set c.thr i t (advance P t) (r, t.pc) ht hpt, advance_pt hr]
    | blocked => rfl
    | err => rfl

/-- abstraction → thread -/
theorem sim_back (P : Progs) (c : Cfg) (r : Role) (k : Nat) (h : (abs c).cnt r k ≠ 0) :
    ∃ (i : Nat) (t : Thread) (rest : List Role), c.thr[i]? = some t ∧ t.rounds = r :: rest ∧ t.pc = k ∧
      cstep P ⟨r, k, rest.head?⟩ (abs c) = (tstep P c i).map abs := by
  obtain ⟨i, t, rest, hi, hr, hk⟩ := exists_of_cntAt_ne_zero h
  refine ⟨i, t, rest, hi, hr, hk, ?_⟩
  rw [← hk]
  exact sim_step P c i t r rest hi hr

theorem tstep_some {P : Progs} {c : Cfg} {i : Nat} {res : SRes Cfg} (h : tstep P c i = res) (hne : res ≠ .none) :
    ∃ t r rest ins, c.thr[i]? = some t ∧ t.rounds = r :: rest ∧ (P.round r)[t.pc]? = some ins ∧
      res = match exec ins c.sh with
        | .ok sh' => .ok ⟨sh', c.thr.set i (advance P t)⟩
        | .blocked => .blocked
        | .err => .err := by
  unfold tstep at h
  split at h
  · exact absurd h.symm hne
  · rename_i t ht
    split at h
    · exact absurd h.symm hne
    · rename_i r rest hr
      split at h
      · exact absurd h.symm hne
      · rename_i ins hins
        exact ⟨t, r, rest, ins, ht, hr, hins, h.symm⟩

theorem sim_some {P : Progs} {c : Cfg} {i : Nat} {res : SRes Cfg} (h : tstep P c i = res) (hne : res ≠ .none) :
    ∃ l, cstep P l (abs c) = res.map abs := by
  obtain ⟨t, r, rest, -, ht, hr, -⟩ := tstep_some h hne
  exact ⟨_, h ▸ sim_step P c i t r rest ht hr⟩

theorem sim_ok {P : Progs} {c c' : Cfg} {i : Nat} (h : tstep P c i = .ok c') : ∃ l, cstep P l (abs c) = .ok (abs c') :=
  sim_some h nofun

theorem sim_err {P : Progs} {c : Cfg} {i : Nat} (h : tstep P c i = .err) : ∃ l, cstep P l (abs c) = .err :=
  sim_some h nofun

theorem cntAt_eq_zero {thr : List Thread} {r : Role} {k : Nat} (h : ∀ t ∈ thr, t.pt ≠ some (r, k)) :
    cntAt thr r k = 0 :=
  List.countP_eq_zero.mpr fun t ht => by simpa using h t ht

theorem pt_of_idle {t : Thread} (h : t.idle = true) {r : Role} {k : Nat} (hpt : t.pt = some (r, k)) : k = 0 := by
  obtain ⟨rest, hr, rfl⟩ := pt_eq_some.mp hpt
  simpa [Thread.idle, hr] using h

theorem idle_cnt_zero {thr : List Thread} (h : ∀ t ∈ thr, t.idle = true) (r : Role) (k : Nat) :
    cntAt thr r (k + 1) = 0 :=
  cntAt_eq_zero fun t ht hpt => absurd (pt_of_idle (h t ht) hpt) (Nat.succ_ne_zero k)

/-- `_LightSwitch.__init__` sets the counter to 0 -/
theorem GP_ctr0 : GP.ctr0 = 0 := rfl

theorem rinv_init (rs : List (List Role)) : RInv (abs (Cfg.init GP rs)) := by
  have hidle : ∀ t ∈ (Cfg.init GP rs).thr, t.idle = true := by
    intro t ht
    obtain ⟨l, -, rfl⟩ := List.mem_map.mp ht
    rfl
  exact (rinv_idle _ (idle_cnt_zero hidle .reader) (idle_cnt_zero hidle .writer)).mpr (congrArg Shared.init GP_ctr0)

theorem reach_rinv {rs : List (List Role)} {c : Cfg} (h : Reach GP rs c) : RInv (abs c) := by
  induction h with
  | init => exact rinv_init rs
  | step i _ hs ih =>
    obtain ⟨l, hl⟩ := sim_ok hs
    exact rinv_cstep l _ _ ih hl

end RW
