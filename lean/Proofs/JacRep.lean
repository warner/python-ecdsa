import Proofs.JacCast
/-!
# Proofs.JacRep — every generated kernel computes the group law on representations (integer level)

`IRep p a b H t g`: the integer triple `t` (as the code holds it) represents `g ∈ H`: the integer zero tests `not Y`,
`not Z` agree with the field (`ZT`, true for |c| < p — in particular for the `-Y2` the loops pass) and the residues
are a `Rep` of `g`.  Nothing is assumed about Δ: Mathlib's group is the group of nonsingular points.
-/
namespace Jac
open WeierstrassCurve WeierstrassCurve.Jacobian

variable {p : ℕ} [hp : Fact p.Prime]

def IRep (p : ℕ) [Fact p.Prime] (a b : ℤ) (H : AddSubgroup (Grp (a : ZMod p) (b : ZMod p)))
    (t : ℤ × ℤ × ℤ) (g : Grp (a : ZMod p) (b : ZMod p)) : Prop :=
  ZT p t.2.1 ∧ ZT p t.2.2 ∧ Rep (a : ZMod p) (b : ZMod p) H (cast3 p t) g

variable {a b : ℤ} {H : AddSubgroup (Grp (a : ZMod p) (b : ZMod p))}

namespace IRep
theorem ztZ {t : ℤ × ℤ × ℤ} {g} (h : IRep p a b H t g) : ZT p t.2.2 := h.2.1
theorem rep {t : ℤ × ℤ × ℤ} {g} (h : IRep p a b H t g) :
    Rep (a : ZMod p) (b : ZMod p) H (cast3 p t) g := h.2.2
end IRep

theorem IRep.of_inRange {t : ℤ × ℤ × ℤ} {g} (hr : InRange3 p t)
    (h : Rep (a : ZMod p) (b : ZMod p) H (cast3 p t) g) : IRep p a b H t g :=
  ⟨hr.y.zt, hr.z.zt, h⟩

theorem irep_sentinel : IRep p a b H (0, 0, 1) 0 :=
  .of_inRange inRange3_sentinel (rep_zero_of H (Or.inl (by simp)))

theorem IRep.zero_of {t : ℤ × ℤ × ℤ} (h1 : ZT p t.2.1) (h2 : ZT p t.2.2)
    (h0 : (t.2.1 : ZMod p) = 0 ∨ (t.2.2 : ZMod p) = 0) : IRep p a b H t 0 :=
  ⟨h1, h2, rep_zero_of H h0⟩

theorem IRep.eq_zero' {t : ℤ × ℤ × ℤ} {g} (h : IRep p a b H t g)
    (h0 : (t.2.1 : ZMod p) = 0 ∨ (t.2.2 : ZMod p) = 0) : g = 0 :=
  h.rep.eq_zero h0

theorem IRep.eq_zero {t : ℤ × ℤ × ℤ} {g} (h : IRep p a b H t g) (h0 : t.2.1 = 0 ∨ t.2.2 = 0) : g = 0 :=
  h.eq_zero' (h0.imp (fun e => by rw [e, Int.cast_zero]) (fun e => by rw [e, Int.cast_zero]))

theorem IRep.good {t : ℤ × ℤ × ℤ} {g} (h : IRep p a b H t g) (h1 : t.2.1 ≠ 0) (h2 : t.2.2 ≠ 0) :
    Good (a : ZMod p) (b : ZMod p) H (cast3 p t) g :=
  h.rep.good (h.1.ne h1) (h.ztZ.ne h2)

theorem IRep.mem {t : ℤ × ℤ × ℤ} {g} (h : IRep p a b H t g) : g ∈ H := h.rep.1

theorem k_double_with_z_1_correct (hH : NoOrder2 H) {X1 Y1 : ℤ} {g}
    (h : IRep p a b H (X1, Y1, 1) g) : IRep p a b H (Gen.k_double_with_z_1 X1 Y1 p a) (g + g) := by
  rcases k_double_with_z_1_cases (p := p) X1 Y1 a with ⟨hy, he⟩ | ⟨hy, hc⟩
  · rw [he, h.eq_zero' (Or.inl hy), add_zero]; exact irep_sentinel
  · exact .of_inRange (k_double_with_z_1_inRange _ _ _)
      (rep_double hH (h.rep.good hy (by simp)) (hc.trans (dblZ1F_eq _ (b : ZMod p) _ _ _ Int.cast_one)))

theorem k_double_correct (hH : NoOrder2 H) {X1 Y1 Z1 : ℤ} {g}
    (h : IRep p a b H (X1, Y1, Z1) g) : IRep p a b H (Gen.k_double X1 Y1 Z1 p a) (g + g) := by
  by_cases hZ : Z1 = 1
  · subst hZ; rw [k_double_z1]; exact k_double_with_z_1_correct hH h
  · rcases k_double_cases (p := p) X1 Y1 Z1 a hZ with ⟨h0, he⟩ | ⟨hy, hz, _, hc⟩
    · have : g = 0 := by
        rcases h0 with h0 | h0 | h0
        exacts [h.eq_zero (Or.inl h0), h.eq_zero (Or.inr h0), h.eq_zero' (Or.inl h0)]
      rw [he, this, add_zero]; exact irep_sentinel
    · exact .of_inRange (k_double_inRange _ _ _ _)
        (rep_double hH (h.good hy hz) (hc.trans (dblF_eq _ (b : ZMod p) _ _ _)))

theorem good_eq_iff_cross {X1 Y1 Z1 X2 Y2 Z2 : ℤ} {g h}
    (gP : Good (a : ZMod p) (b : ZMod p) H (cast3 p (X1, Y1, Z1)) g)
    (gQ : Good (a : ZMod p) (b : ZMod p) H (cast3 p (X2, Y2, Z2)) h) :
    ((X2 : ZMod p) * Z1 ^ 2 = X1 * Z2 ^ 2 ∧ (Y2 : ZMod p) * Z1 ^ 3 = Y1 * Z2 ^ 3) ↔
      cast3 p (X1, Y1, Z1) ≈ cast3 p (X2, Y2, Z2) := by
  rw [equiv_iff_cross gP.z_ne gQ.z_ne]
  exact ⟨fun ⟨e1, e2⟩ => ⟨e1.symm, e2.symm⟩, fun ⟨e1, e2⟩ => ⟨e1.symm, e2.symm⟩⟩

/-- the argument shared by the four addition variants: `t` is the result, `d` the doubling it falls through to when
its same-point test `Same` holds, `u` the unit by which its generic branch differs from Mathlib's `addXYZ` -/
theorem irep_add_kernel (hH : NoOrder2 H) {P Q t d : ℤ × ℤ × ℤ} {g h}
    (gP : Good (a : ZMod p) (b : ZMod p) H (cast3 p P) g) (gQ : Good (a : ZMod p) (b : ZMod p) H (cast3 p Q) h)
    (hr : InRange3 p t) (hd : g = h → IRep p a b H d (g + h)) {Same : Prop}
    (hx : Same ↔ cast3 p P ≈ cast3 p Q) {u : ZMod p} (hu : u ≠ 0)
    (hc : (Same ∧ t = d) ∨
      (¬Same ∧ cast3 p t = u • (shortW (a : ZMod p) (b : ZMod p)).addXYZ (cast3 p P) (cast3 p Q))) :
    IRep p a b H t (g + h) := by
  rcases hc with ⟨hs, rfl⟩ | ⟨hne, hc⟩
  · exact hd ((good_equiv_iff gP gQ).mp (hx.mp hs))
  · exact .of_inRange hr (rep_add_generic hH gP gQ (mt hx.mpr hne) hu.isUnit hc)

theorem k_add_with_z_1_correct (hp2 : p ≠ 2) (hH : NoOrder2 H) {X1 Y1 X2 Y2 : ℤ} {g h}
    (hP : IRep p a b H (X1, Y1, 1) g) (hQ : IRep p a b H (X2, Y2, 1) h) (hY1 : Y1 ≠ 0) (hY2 : Y2 ≠ 0) :
    IRep p a b H (Gen.k_add_with_z_1 X1 Y1 X2 Y2 p a) (g + h) := by
  have h2 := two_ne_zero_of hp2
  have gP := hP.good hY1 one_ne_zero
  have gQ := hQ.good hY2 one_ne_zero
  have hF := addZ1F_eq_smul _ (b : ZMod p) _ _ _ _ _ _ Int.cast_one Int.cast_one gP.equation gQ.equation
  exact irep_add_kernel hH gP gQ (k_add_with_z_1_inRange _ _ _ _ _)
    (fun e => by rw [← e]; exact k_double_with_z_1_correct hH hP) (by simpa using good_eq_iff_cross gP gQ)
    (neg_ne_zero.mpr h2)
    ((k_add_with_z_1_cases h2 X1 Y1 X2 Y2 a).imp_right (And.imp_right fun hc => hc.trans hF))

theorem k_add_with_z_eq_correct (hH : NoOrder2 H) {X1 Y1 Z1 X2 Y2 : ℤ} {g h}
    (hP : IRep p a b H (X1, Y1, Z1) g) (hQ : IRep p a b H (X2, Y2, Z1) h) (hY1 : Y1 ≠ 0) (hY2 : Y2 ≠ 0)
    (hZ1 : Z1 ≠ 0) :
    IRep p a b H (Gen.k_add_with_z_eq X1 Y1 Z1 X2 Y2 p a) (g + h) := by
  have gP := hP.good hY1 hZ1
  have gQ := hQ.good hY2 hZ1
  have hz : (Z1 : ZMod p) ≠ 0 := hP.ztZ.ne hZ1
  have hF := addZeqF_eq_smul _ (b : ZMod p) _ _ _ _ _ hz gP.equation gQ.equation
  exact irep_add_kernel hH gP gQ (k_add_with_z_eq_inRange _ _ _ _ _ _)
    (fun e => by rw [← e]; exact k_double_correct hH hP) (by simpa [hz] using good_eq_iff_cross gP gQ)
    (neg_ne_zero.mpr (inv_ne_zero hz))
    ((k_add_with_z_eq_cases X1 Y1 Z1 X2 Y2 a).imp_right (And.imp_right fun hc => hc.trans hF))

theorem k_add_with_z2_1_correct (hp2 : p ≠ 2) (hH : NoOrder2 H) {X1 Y1 Z1 X2 Y2 : ℤ} {g h}
    (hP : IRep p a b H (X1, Y1, Z1) g) (hQ : IRep p a b H (X2, Y2, 1) h) (hY1 : Y1 ≠ 0) (hY2 : Y2 ≠ 0)
    (hZ1 : Z1 ≠ 0) :
    IRep p a b H (Gen.k_add_with_z2_1 X1 Y1 Z1 X2 Y2 p a) (g + h) := by
  have h2 := two_ne_zero_of hp2
  have gP := hP.good hY1 hZ1
  have gQ := hQ.good hY2 one_ne_zero
  have hF := addZ21F_eq_smul _ (b : ZMod p) _ _ _ _ _ _ Int.cast_one gP.equation gQ.equation
  exact irep_add_kernel hH gP gQ (k_add_with_z2_1_inRange _ _ _ _ _ _)
    (fun e => by rw [e]; exact k_double_with_z_1_correct hH hQ) (by simpa using good_eq_iff_cross gP gQ)
    (mul_ne_zero (neg_ne_zero.mpr h2) (hP.ztZ.ne hZ1))
    ((k_add_with_z2_1_cases h2 X1 Y1 Z1 X2 Y2 a).imp_right (And.imp_right fun hc => hc.trans hF))

theorem k_add_with_z_ne_correct (hp2 : p ≠ 2) (hH : NoOrder2 H) {X1 Y1 Z1 X2 Y2 Z2 : ℤ} {g h}
    (hP : IRep p a b H (X1, Y1, Z1) g) (hQ : IRep p a b H (X2, Y2, Z2) h) (hY1 : Y1 ≠ 0) (hY2 : Y2 ≠ 0)
    (hZ1 : Z1 ≠ 0) (hZ2 : Z2 ≠ 0) :
    IRep p a b H (Gen.k_add_with_z_ne X1 Y1 Z1 X2 Y2 Z2 p a) (g + h) := by
  have h2 := two_ne_zero_of hp2
  have gP := hP.good hY1 hZ1
  have gQ := hQ.good hY2 hZ2
  have hF := addNeF_eq_smul _ (b : ZMod p) _ _ _ _ _ _ gP.equation gQ.equation
  exact irep_add_kernel hH gP gQ (k_add_with_z_ne_inRange _ _ _ _ _ _ _)
    (fun e => by rw [← e]; exact k_double_correct hH hP) (good_eq_iff_cross gP gQ)
    (mul_ne_zero (mul_ne_zero (neg_ne_zero.mpr h2) (hP.ztZ.ne hZ1)) (hQ.ztZ.ne hZ2))
    ((k_add_with_z_ne_cases h2 X1 Y1 Z1 X2 Y2 Z2 a).imp_right (And.imp_right fun hc => hc.trans hF))

theorem k_add_correct (hp2 : p ≠ 2) (hH : NoOrder2 H) {X1 Y1 Z1 X2 Y2 Z2 : ℤ} {g h}
    (hP : IRep p a b H (X1, Y1, Z1) g) (hQ : IRep p a b H (X2, Y2, Z2) h) :
    IRep p a b H (Gen.k_add X1 Y1 Z1 X2 Y2 Z2 p a) (g + h) := by
  refine k_add_dispatch (motive := fun t => IRep p a b H t (g + h)) X1 Y1 Z1 X2 Y2 Z2 p a ?_ ?_ ?_ ?_ ?_ ?_ ?_
  · intro c1
    rw [hP.eq_zero c1, zero_add]
    -- `Y2 % p` has the residue of `Y2` (`cast_fmod`)
    exact ⟨(inRange_fmod _).zt, hQ.ztZ, by simpa using hQ.rep⟩
  · intro c2
    rw [hQ.eq_zero c2, add_zero]; exact hP
  · rintro y1 y2 rfl rfl
    exact k_add_with_z_1_correct hp2 hH hP hQ y1 y2
  · rintro y1 z1 y2 rfl
    exact k_add_with_z_eq_correct hH hP hQ y1 y2 z1
  · rintro y1 y2 z2 rfl
    rw [add_comm]
    exact k_add_with_z2_1_correct hp2 hH hQ hP y2 y1 z2
  · rintro y1 z1 y2 rfl
    exact k_add_with_z2_1_correct hp2 hH hP hQ y1 y2 z1
  · intro y1 z1 y2 z2
    exact k_add_with_z_ne_correct hp2 hH hP hQ y1 y2 z1 z2

end Jac
