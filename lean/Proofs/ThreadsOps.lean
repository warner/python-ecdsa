import Proofs.ThreadsSpec
import Proofs.Threads
/-! # Proofs.ThreadsOps — every modelled `PointJacobi` method is `Safe`

Each proof follows the text of its method, one statement at a time, through a small set of rules about `den` (one per
construct of `M`, each for an arbitrary continuation).  A call is the callee's own theorem: `SafeP` states it with a
postcondition on the phases, so that the caller of `scale()` or `_maybe_precompute()` knows what has become canonical.

A hypothesis a rule hands over speaks of the state as the program built it (`{ s with ca := … }.ca`); it is restated in
the terms of the theorem before use (a definitional unfolding), and `dsimp only` flattens a state updated several times. -/
namespace ThreadProgs
open Access Threads C18

theorem Env.good_canon (E : Env) : ∀ k, ¬ E.free k → E.good k (E.canon k)
  | (_, .coords), _ => Or.inr rfl
  | (_, .pre), _ => Or.inr rfl
  | (_, .point), h => absurd trivial h

section
variable {E : Env} {id : Nat}

theorem GoodC.or_eq {c : Coords} {α : Type} (hc : GoodC E id c) (f : Coords → α) :
    f c = f (E.c0 id) ∨ f c = f (E.cS id) := hc.imp (congrArg f) (congrArg f)

theorem GoodC.of_or {α : Type} {f : Coords → α} {r : α} (h : r = f (E.c0 id) ∨ r = f (E.cS id)) :
    ∃ c, GoodC E id c ∧ r = f c :=
  h.elim (fun h => ⟨_, Or.inl rfl, h⟩) fun h => ⟨_, Or.inr rfl, h⟩

theorem scale_good (hok : ObjOK E id) {c : Coords} (hc : GoodC E id c) :
    Curve.pjScale (mkPJ (E.info id) c) = .ok (mkPJ (E.info id) (E.cS id)) := by
  rcases hc with rfl | rfl
  · exact hok.scale0
  · simp [Curve.pjScale, mkPJ, hok.zS]

theorem isInf_good (hok : ObjOK E id) {c : Coords} (hc : GoodC E id c) :
    isInfC c = isInfC (E.c0 id) := by
  rcases hc with rfl | rfl
  · rfl
  · exact hok.inf_ri.symm

theorem precompute_good (hok : ObjOK E id) (hg : (E.info id).generator = true) {c : Coords}
    (hc : GoodC E id c) : Curve.precomputeTable (mkPJ (E.info id) c) = .ok (E.tF id) := by
  rcases hc with rfl | rfl
  · exact (hok.table_gen hg).1
  · exact (hok.table_gen hg).2.1

end

theorem mkPJ_inj {i : ObjInfo} {c d : Coords} (h : mkPJ i c = mkPJ i d) : c = d := by
  obtain ⟨c1, c2, c3⟩ := c
  obtain ⟨d1, d2, d3⟩ := d
  simp only [mkPJ, Curve.PJ.mk.injEq] at h
  obtain ⟨_, h1, h2, h3, _⟩ := h
  simp [h1, h2, h3]

theorem z0_ne_one {E : Env} {id : Nat} (h : ObjOK E id) (hne : E.c0 id ≠ E.cS id) : (E.c0 id).2.2 ≠ 1 := by
  intro hz
  have h1 : Curve.pjScale (mkPJ (E.info id) (E.c0 id)) = .ok (mkPJ (E.info id) (E.c0 id)) := by
    simp [Curve.pjScale, mkPJ, hz]
  rw [h.scale0] at h1
  injection h1 with h1
  exact hne (mkPJ_inj h1).symm

theorem set_canon (ph : Phases Cell) (k : Cell) : ¬ (ph.set k k = .any) := by simp [Phases.set]

section cells
variable {E : Env} {acc : Res Out → Prop} {ph : Phases Cell} {cont : Val → P}

/-- a read of a cell of a point delivers the canonical value — from then on the cell is canonical for this thread — or,
as long as the thread has not seen that one, the other allowed value `v0` -/
theorem safe_read {k : Cell} (v0 : Val) (hnf : ¬ E.free k) (hg : ∀ v, E.good k v → v = v0 ∨ v = E.canon k)
    (h0 : ph k = .any → v0 ≠ E.canon k → SafeE E acc ph (cont v0))
    (hS : SafeE E acc (ph.set k) (cont (E.canon k))) : SafeE E acc ph (.read k cont) := by
  refine Safe.read hnf (fun hph v hgv hne => ?_) hS
  rcases hg v hgv with rfl | rfl
  · exact h0 hph hne
  · exact absurd rfl hne

theorem safe_read_coords {id : Nat}
    (h0 : ph (id, .coords) = .any → E.c0 id ≠ E.cS id → SafeE E acc ph (cont (.coords (E.c0 id))))
    (hS : SafeE E acc (ph.set (id, .coords)) (cont (.coords (E.cS id)))) :
    SafeE E acc ph (.read (id, .coords) cont) :=
  safe_read (.coords (E.c0 id)) (fun h => h) (fun _ h => h) (fun hph hne => h0 hph fun e => hne (congrArg _ e)) hS

theorem safe_read_pre {id : Nat}
    (h0 : ph (id, .pre) = .any → E.tF id ≠ [] → SafeE E acc ph (cont (.table [])))
    (hS : SafeE E acc (ph.set (id, .pre)) (cont (.table (E.tF id)))) :
    SafeE E acc ph (.read (id, .pre) cont) :=
  safe_read (.table []) (fun h => h) (fun _ h => h) (fun hph hne => h0 hph fun e => hne (congrArg _ e.symm)) hS

end cells

/-! ### rules for the structured language, one per statement of a program (not by evaluating `den` on a whole method) -/

theorem bindRes_ok {α : Type} (a : α) (kx : PyErr → P) (k : α → P) : bindRes (.ok a) kx k = k a := rfl
theorem bindRes_error {α : Type} (e : PyErr) (kx : PyErr → P) (k : α → P) : bindRes (.error e) kx k = kx e := rfl

theorem den_seq (a b : M) (s : Loc) (kx : PyErr → P) (kr k : Loc → P) :
    den (a ;; b) s kx kr k = den a s kx kr (fun s' => den b s' kx kr k) := rfl
theorem den_skip (s : Loc) (kx : PyErr → P) (kr k : Loc → P) : den .skip s kx kr k = k s := rfl
theorem den_ite (c : Loc → Bool) (t e : M) (s : Loc) (kx : PyErr → P) (kr k : Loc → P) :
    den (.ite c t e) s kx kr k = if c s then den t s kx kr k else den e s kx kr k := rfl
theorem den_ret (f : Loc → Res Out) (s : Loc) (kx : PyErr → P) (kr k : Loc → P) :
    den (.ret f) s kx kr k = bindRes (f s) kx (fun o => kr { s with out := o }) := rfl

theorem den_pure (f : Loc → Res Loc) (s : Loc) (kx : PyErr → P) (kr k : Loc → P) :
    den (.pure f) s kx kr k = bindRes (f s) kx k := rfl
theorem den_call (o : Obj) (nm : String) (body : M) (enter : Loc → Loc) (leave : Loc → Out → Loc) (s : Loc)
    (kx : PyErr → P) (kr k : Loc → P) :
    den (.call o nm body enter leave) s kx kr k =
      den body { enter s with self := s.obj o } kx (fun t => k (leave s t.out)) (fun t => k (leave s t.out)) := rfl
theorem den_callR (o : Obj) (nm : String) (body : M) (enter : Loc → Loc) (leave : Loc → Out → Loc) (s : Loc)
    (kx : PyErr → P) (kr k : Loc → P) :
    den (.callR o nm body enter leave) s kx kr k =
      den body (enter s) kx (fun t => k (leave s t.out)) (fun t => k (leave s t.out)) := rfl

theorem den_load {s : Loc} {o : Obj} (hf : s.fresh o = .shared) (f : Fld) (bind : Loc → Val → Loc) (kx : PyErr → P)
    (kr k : Loc → P) : den (.load o f bind) s kx kr k = .read (s.obj o, f) fun v => k (bind s v) := by
  simp only [den, hf]
theorem den_store {s : Loc} {o : Obj} (hf : s.fresh o = .shared) (f : Fld) (val : Loc → Val) (kx : PyErr → P)
    (kr k : Loc → P) : den (.store o f val) s kx kr k = .write (s.obj o, f) (val s) (k s) := by
  simp only [den, hf]

section rules
variable {E : Env} {acc : Res Out → Prop} {ph : Phases Cell} {s : Loc} {kx : PyErr → P} {kr k : Loc → P}

theorem safe_seq {a b : M} (h : SafeE E acc ph (den a s kx kr fun s' => den b s' kx kr k)) :
    SafeE E acc ph (den (a ;; b) s kx kr k) := h

theorem safe_skip (h : SafeE E acc ph (k s)) : SafeE E acc ph (den .skip s kx kr k) := h

theorem safe_ite {c : Loc → Bool} {t e : M} (ht : c s = true → SafeE E acc ph (den t s kx kr k))
    (he : c s = false → SafeE E acc ph (den e s kx kr k)) : SafeE E acc ph (den (.ite c t e) s kx kr k) := by
  rw [den_ite]
  cases h : c s
  · exact he h
  · exact ht h

theorem safe_then {c : Loc → Bool} {t e : M} (hc : c s = true) (h : SafeE E acc ph (den t s kx kr k)) :
    SafeE E acc ph (den (.ite c t e) s kx kr k) :=
  safe_ite (fun _ => h) fun h' => nomatch hc.symm.trans h'

theorem safe_else {c : Loc → Bool} {t e : M} (hc : c s = false) (h : SafeE E acc ph (den e s kx kr k)) :
    SafeE E acc ph (den (.ite c t e) s kx kr k) :=
  safe_ite (fun h' => nomatch hc.symm.trans h') fun _ => h

theorem safe_guard {c : Loc → Bool} {f : Loc → Res Out} {rest : M}
    (ht : c s = true → SafeE E acc ph (den (.ret f) s kx kr k))
    (he : c s = false → SafeE E acc ph (den rest s kx kr k)) :
    SafeE E acc ph (den (.ite c (.ret f) .skip ;; rest) s kx kr k) :=
  safe_seq (safe_ite ht he)

theorem safe_ret {f : Loc → Res Out} (h : acc (f s)) :
    SafeE E acc ph (den (.ret f) s (fun e => .ret (.error e)) (fun t => .ret (.ok t.out)) k) := by
  rw [den_ret]
  cases hf : f s <;> exact Safe.ret (hf ▸ h)

theorem safe_pure {f : Loc → Res Loc} {s' : Loc} (hf : f s = .ok s') (h : SafeE E acc ph (k s')) :
    SafeE E acc ph (den (.pure f) s kx kr k) := by
  simp only [den, hf]; exact h

theorem safe_store {o : Obj} {f : Fld} {val : Loc → Val} (hf : s.fresh o = .shared) (hnf : ¬ E.free (s.obj o, f))
    (hv : val s = E.canon (s.obj o, f)) (h : SafeE E acc (ph.set (s.obj o, f)) (k s)) :
    SafeE E acc ph (den (.store o f val) s kx kr k) := by
  rw [den_store hf, hv]; exact Safe.write hnf h

/-- a load of the coordinates of an operand: a step (two cases) for a shared object, no step for a local one -/
theorem safe_load_coords {o : Obj} {bind : Loc → Val → Loc}
    (h : ∀ (c : Coords) (ph' : Phases Cell), GoodOp E s o c → ph.Le ph' → SafeE E acc ph' (k (bind s (.coords c)))) :
    SafeE E acc ph (den (.load o .coords bind) s kx kr k) := by
  unfold GoodOp at h
  cases hfr : s.fresh o with
  | shared =>
    rw [den_load hfr]
    exact safe_read_coords (fun _ _ => h _ _ (by rw [hfr]; exact Or.inl rfl) fun _ h => h)
      (h _ _ (by rw [hfr]; exact Or.inr rfl) (Phases.le_set _ _))
  | inf => simp only [den, hfr]; exact h _ _ (by rw [hfr]; rfl) fun _ h => h
  | pj P => simp only [den, hfr]; exact h _ _ (by rw [hfr]; rfl) fun _ h => h

theorem safe_load_seen {o : Obj} {f : Fld} {bind : Loc → Val → Loc} (hf : s.fresh o = .shared)
    (hnf : ¬ E.free (s.obj o, f)) (hcan : ph (s.obj o, f) = .canon)
    (h : SafeE E acc (ph.set (s.obj o, f)) (k (bind s (E.canon (s.obj o, f))))) :
    SafeE E acc ph (den (.load o f bind) s kx kr k) := by
  rw [den_load hf]
  exact Safe.read hnf (fun hany => nomatch hcan.symm.trans hany) h

/-- a load of `__precompute` after `_maybe_precompute()`: the complete table (for a point that is not a generator both
allowed values are `[]`) -/
theorem safe_load_table {o : Obj} {bind : Loc → Val → Loc} (hf : s.fresh o = .shared) (hok : ObjOK E (s.obj o))
    (hcan : (E.info (s.obj o)).generator = true → ph (s.obj o, .pre) = .canon)
    (h : SafeE E acc (ph.set (s.obj o, .pre)) (k (bind s (.table (E.tF (s.obj o)))))) :
    SafeE E acc ph (den (.load o .pre bind) s kx kr k) := by
  rw [den_load hf]
  refine safe_read_pre (fun hany hne => ?_) h
  cases hg : (E.info (s.obj o)).generator with
  | false => exact absurd (hok.table_nogen hg) hne
  | true => exact nomatch (hcan hg).symm.trans hany

/-- `if x == INFINITY: return INFINITY`, `return x` (the last two statements of several methods) -/
theorem safe_ret_pt {x : Loc → Curve.Pt} (h : acc (.ok (.pt (x s)))) :
    SafeE E acc ph (den (.ite (fun s => x s == .infinity) (.ret fun _ => .ok (.pt .infinity)) .skip ;;
      .ret fun s => .ok (.pt (x s))) s (fun e => .ret (.error e)) (fun t => .ret (.ok t.out)) k) :=
  safe_guard (fun hx => safe_ret (beq_iff_eq.mp hx ▸ h)) fun _ => safe_ret h

end rules

theorem seqX_z1 (i : ObjInfo) {c : Coords} (h : (c.2.2 == 1) = true) : seqX i c = .ok (.int c.1) := by
  simp [seqX, Curve.pjX, mkPJ, beq_iff_eq.mp h, Except.map]
theorem seqY_z1 (i : ObjInfo) {c : Coords} (h : (c.2.2 == 1) = true) : seqY i c = .ok (.int c.2.1) := by
  simp [seqY, Curve.pjY, mkPJ, beq_iff_eq.mp h, Except.map]

theorem op_safe_x_g (E : Env) (s : Loc) (ph : Phases Cell) :
    SafeE E (fun r => ∃ c, GoodOp E s .self c ∧ r = seqX (E.info s.self) c) ph (toProg (mX E.info) s) := by
  unfold toProg mX
  refine safe_seq (safe_load_coords fun c ph' hc _ => ?_)
  exact safe_guard (fun hz => safe_ret ⟨c, hc, (seqX_z1 _ hz).symm⟩) fun _ => safe_ret ⟨c, hc, rfl⟩

theorem _root_.C18.op_safe_x (E : Env) (id : Nat) (ph : Phases Cell) :
    SafeE E ((Op.x id).acc E) ph ((Op.x id).prog E) :=
  (op_safe_x_g E { self := id } ph).weaken fun _ ⟨_, hc, hr⟩ => hr ▸ GoodC.or_eq hc _

theorem _root_.C18.op_safe_y (E : Env) (id : Nat) (ph : Phases Cell) :
    SafeE E ((Op.y id).acc E) ph ((Op.y id).prog E) := by
  unfold Op.prog Op.acc toProg mY
  refine safe_seq (safe_load_coords fun c ph' hc _ => ?_)
  have hr := GoodC.or_eq hc (seqY (E.info id))
  exact safe_guard (fun hz => safe_ret (seqY_z1 _ hz ▸ hr)) fun _ => safe_ret hr

theorem _root_.C18.op_safe_neg (E : Env) (id : Nat) (ph : Phases Cell) :
    SafeE E ((Op.neg id).acc E) ph ((Op.neg id).prog E) := by
  unfold Op.prog Op.acc toProg mNeg
  exact safe_seq (safe_load_coords fun c ph' hc _ => safe_ret (GoodC.or_eq hc (seqNeg (E.info id))))

theorem _root_.C18.op_safe_double (E : Env) (id : Nat) (ph : Phases Cell) :
    SafeE E ((Op.double id).acc E) ph ((Op.double id).prog E) := by
  unfold Op.prog Op.acc toProg mDouble
  refine safe_seq (safe_load_coords fun c ph' hc _ => ?_)
  have hr := GoodC.or_eq hc (seqDouble (E.info id))
  refine safe_guard (fun hy => safe_ret ?_) fun _ => safe_ret_pt hr
  -- y = 0: `pjDouble` is INFINITY as well
  have hd : Curve.pjDouble (mkPJ (E.info id) c) = .infinity := if_pos hy
  exact (show seqDouble (E.info id) c = _ from congrArg (fun x => Except.ok (Out.pt x)) hd) ▸ hr

/-- `__getstate__`: the pickled state is a pair (coordinates, table) of allowed values — never a partially updated
triple, never a partial table -/
theorem _root_.C18.op_safe_getstate (E : Env) (id : Nat) (ph : Phases Cell) :
    SafeE E ((Op.getstate id).acc E) ph ((Op.getstate id).prog E) := by
  unfold Op.prog Op.acc toProg mGetstate
  refine safe_seq (safe_load_coords fun c ph1 hc _ => ?_)
  rw [den_seq, loadTA, den_load rfl]
  exact safe_read_pre (fun _ _ => safe_ret ⟨c, [], hc, Or.inl rfl, rfl⟩) (safe_ret ⟨c, _, hc, Or.inr rfl, rfl⟩)

theorem op_safe_eqinf_g (E : Env) (s : Loc) (hinf : s.otherInf = true) (ph : Phases Cell) :
    SafeE E (fun r => ∃ c, GoodOp E s .self c ∧ r = .ok (.bool (isInfC c))) ph (toProg (mEq E.info) s) := by
  unfold toProg mEq
  refine safe_seq (safe_load_coords fun c ph' hc _ => ?_)
  exact safe_guard (fun _ => safe_ret ⟨c, hc, rfl⟩) fun h => nomatch hinf.symm.trans h

theorem _root_.C18.op_safe_eq_inf (E : Env) (id : Nat) (ph : Phases Cell) :
    SafeE E ((Op.eqInf id).acc E) ph ((Op.eqInf id).prog E) :=
  (op_safe_eqinf_g E { self := id, otherInf := true } rfl ph).weaken fun _ ⟨_, hc, hr⟩ =>
    hr ▸ GoodC.or_eq hc fun c => Except.ok (Out.bool (isInfC c))

/-! ### calls: a call is the callee's whole program followed by the caller's continuation -/

theorem bindRes_bind {α : Type} (r : Res α) (kx : PyErr → P) (k : α → P) (F : Res Out → P) :
    (bindRes r kx k).bind F = bindRes r (fun e => (kx e).bind F) (fun a => (k a).bind F) := by
  cases r <;> rfl

theorem den_bind (m : M) : ∀ (s : Loc) (kx : PyErr → P) (kr k : Loc → P) (F : Res Out → P),
    (den m s kx kr k).bind F = den m s (fun e => (kx e).bind F) (fun t => (kr t).bind F) (fun t => (k t).bind F) := by
  induction m with
  | seq a b iha ihb =>
    intro s kx kr k F
    simp only [den]
    rw [iha]
    exact congrArg _ (funext fun s' => ihb s' kx kr k F)
  | load o f bind => intro s kx kr k F; simp only [den]; cases s.fresh o <;> rfl
  | store o f val => intro s kx kr k F; simp only [den]; cases s.fresh o <;> rfl
  | pure f => intro s kx kr k F; exact bindRes_bind _ _ _ _
  | ret f => intro s kx kr k F; exact bindRes_bind _ _ _ _
  | ite c t e iht ihe =>
    intro s kx kr k F
    simp only [den]
    split
    · exact iht s kx kr k F
    · exact ihe s kx kr k F
  | call o nm body enter leave ih => intro s kx kr k F; exact ih _ kx _ _ F
  | callR o nm body enter leave ih => intro s kx kr k F; exact ih _ kx _ _ F
  | skip => intro s kx kr k F; rfl
  | loop body ih => intro s kx kr k F; rfl

theorem den_eq_bind (m : M) (s : Loc) (F : Res Out → P) :
    den m s (fun e => F (.error e)) (fun t => F (.ok t.out)) (fun t => F (.ok t.out)) = (toProg m s).bind F :=
  (den_bind m s (fun e => .ret (.error e)) (fun t => .ret (.ok t.out)) (fun t => .ret (.ok t.out)) F).symm

/-- `p` is safe and ends with a result and in phases allowed by `Q`.  `Safe` cannot speak of the phases a program ends
in, which a caller of `scale()` relies on (afterwards `__coords` is canonical for the thread); so the statement goes
through the continuations: `p` followed by any `F` that is safe wherever `Q` leaves it is safe. -/
def SafeP (E : Env) (Q : Res Out → Phases Cell → Prop) (ph : Phases Cell) (p : P) : Prop :=
  ∀ (acc : Res Out → Prop) (F : Res Out → P),
    (∀ r ph', Q r ph' → ph.Le ph' → SafeE E acc ph' (F r)) → SafeE E acc ph (p.bind F)

section calls
variable {E : Env} {acc : Res Out → Prop} {ph : Phases Cell}

theorem SafeP.safe {Q : Res Out → Phases Cell → Prop} {p : P} (h : SafeP E Q ph p) (hacc : ∀ r ph', Q r ph' → acc r) :
    SafeE E acc ph p :=
  Prog.bind_ret p ▸ h acc .ret fun r ph' hq _ => Safe.ret (hacc r ph' hq)

theorem SafeP.of_safe {p : P} (h : SafeE E acc ph p) : SafeP E (fun r _ => acc r) ph p :=
  fun _ F hF => Safe.bind h F hF

variable {o : Obj} {nm : String} {body : M} {enter : Loc → Loc} {leave : Loc → Out → Loc} {s : Loc} {kx : PyErr → P}
  {kr k : Loc → P} {Q : Res Out → Phases Cell → Prop}

theorem safe_body {s1 : Loc} {K : Out → P} (hb : SafeP E Q ph (toProg body s1))
    (hx : ∀ e ph', Q (.error e) ph' → ph.Le ph' → SafeE E acc ph' (kx e))
    (hk : ∀ out ph', Q (.ok out) ph' → ph.Le ph' → SafeE E acc ph' (K out)) :
    SafeE E acc ph (den body s1 kx (fun t => K t.out) fun t => K t.out) := by
  have h := hb acc (fun r => bindRes r kx K) fun r => by
    cases r with
    | error e => exact hx e
    | ok out => exact hk out
  rwa [← den_eq_bind] at h

theorem safe_call (hb : SafeP E Q ph (toProg body { enter s with self := s.obj o }))
    (hx : ∀ e ph', Q (.error e) ph' → ph.Le ph' → SafeE E acc ph' (kx e))
    (hk : ∀ out ph', Q (.ok out) ph' → ph.Le ph' → SafeE E acc ph' (k (leave s out))) :
    SafeE E acc ph (den (.call o nm body enter leave) s kx kr k) :=
  safe_body (K := fun out => k (leave s out)) hb hx hk

theorem safe_callR (hb : SafeP E Q ph (toProg body (enter s)))
    (hx : ∀ e ph', Q (.error e) ph' → ph.Le ph' → SafeE E acc ph' (kx e))
    (hk : ∀ out ph', Q (.ok out) ph' → ph.Le ph' → SafeE E acc ph' (k (leave s out))) :
    SafeE E acc ph (den (.callR o nm body enter leave) s kx kr k) :=
  safe_body (K := fun out => k (leave s out)) hb hx hk

end calls

/-- `scale()` stores nothing but the scaled triple, returns `self`, and leaves `self.__coords` canonical for the
thread -/
theorem scale_spec {E : Env} {id : Nat} (hok : ObjOK E id) (s : Loc) (hs : s.self = id) (hf : s.selfFresh = .shared)
    (ph : Phases Cell) :
    SafeP E (fun r ph' => r = .ok (.obj id) ∧ ph' (id, .coords) = .canon) ph (toProg (mScale E.info) s) := by
  subst hs
  intro acc F hF
  have done : ∀ ph' : Phases Cell, ph.Le ph' → SafeE E acc (ph'.set (s.self, .coords)) (F (.ok (.obj s.self))) :=
    fun ph' hle => hF _ _ ⟨rfl, Phases.set_self _ _⟩ (hle.trans (Phases.le_set _ _))
  rw [← den_eq_bind]
  unfold mScale
  rw [den_seq, loadA, den_load (o := .self) hf]
  refine safe_read_coords (fun _ hne => ?_) ?_
  · -- the unscaled triple: z ≠ 1, so it is scaled and stored
    refine safe_guard (fun hz => absurd (beq_iff_eq.mp hz) (z0_ne_one hok hne)) fun _ => ?_
    refine safe_seq (safe_pure (congrArg (Except.map _) hok.scale0) ?_)
    exact safe_seq (safe_store hf (fun h => h) rfl (done _ fun _ h => h))
  · exact safe_guard (fun _ => done _ fun _ h => h) fun hz => absurd hok.zS (beq_eq_false_iff_ne.mp hz)

theorem _root_.C18.op_safe_scale (E : Env) (id : Nat) (hok : ObjOK E id) (ph : Phases Cell) :
    SafeE E ((Op.scale id).acc E) ph ((Op.scale id).prog E) :=
  (scale_spec hok _ rfl rfl ph).safe fun _ _ h => h.1

theorem seqToAffine_inf (i : ObjInfo) (c : Coords) (h : isInfC c = true) : seqToAffine i c = .ok (.pt .infinity) := by
  simp only [isInfC] at h
  simp [seqToAffine, Curve.pjToAffine, mkPJ, h, Except.map]

theorem seqToAffine_fin (i : ObjInfo) (c cs : Coords) (h : isInfC c = false)
    (hsc : Curve.pjScale (mkPJ i c) = .ok (mkPJ i cs)) :
    seqToAffine i c = (Curve.mkPoint i.curve cs.1 cs.2.1 i.order).map fun A => .pt (.aff A) := by
  have h' : ((mkPJ i c).y == 0 || (mkPJ i c).z == 0) = false := h
  unfold seqToAffine Curve.pjToAffine
  simp only [h', Bool.false_eq_true, if_false]
  rw [hsc]
  simp only [mkPJ, bind, Except.bind]
  cases Curve.mkPoint i.curve cs.1 cs.2.1 i.order <;> rfl

theorem _root_.C18.op_safe_to_affine (E : Env) (id : Nat) (hok : ObjOK E id) (ph : Phases Cell) :
    SafeE E ((Op.toAffine id).acc E) ph ((Op.toAffine id).prog E) := by
  unfold Op.prog Op.acc toProg mToAffine
  refine safe_seq (safe_load_coords fun c ph1 hc _ => ?_)
  -- with the first snapshot `c` fixed, the result is `seqToAffine` of `c`
  refine Safe.weaken (fun r (hr : r = seqToAffine (E.info id) c) => hr ▸ GoodC.or_eq hc _) ?_
  refine safe_guard (fun hi => safe_ret (seqToAffine_inf _ _ hi).symm) fun hi => ?_
  refine safe_seq (safe_call (scale_spec hok _ rfl rfl _) (fun _ _ h => nomatch h.1) fun _ ph2 ⟨_, hcan⟩ _ => ?_)
  refine safe_seq (safe_load_seen rfl (fun h => h) hcan ?_)
  exact safe_ret (seqToAffine_fin _ _ _ hi (scale_good hok hc)).symm

theorem seqEq_ne {is io : ObjInfo} (a b : Coords) (h : (!is.curve.eqv io.curve) = true) :
    seqEq is a io b = .ok (.bool false) := if_pos h

theorem seqEq_eqv {is io : ObjInfo} {a b : Coords} (h : (!is.curve.eqv io.curve) = false) :
    seqEq is a io b = if isInfC a || isInfC b then .ok (.bool (isInfC a && isInfC b))
      else .ok (.bool (Curve.coordsEq is.curve.p a.1 a.2.1 a.2.2 b.1 b.2.1 b.2.2)) :=
  if_neg (h ▸ Bool.false_ne_true)

theorem isInfC_or (a b : Coords) : (a.2.1 == 0 || a.2.2 == 0 || b.2.1 == 0 || b.2.2 == 0) = (isInfC a || isInfC b) :=
  Bool.or_assoc _ _ _

/-- `P == Q` for two (possibly identical) shared points: the answer is the comparison of one allowed snapshot of each -/
theorem _root_.C18.op_safe_eq (E : Env) (s o : Nat) (ph : Phases Cell) :
    SafeE E ((Op.eq s o).acc E) ph ((Op.eq s o).prog E) := by
  unfold Op.prog Op.acc toProg mEq
  refine safe_seq (safe_load_coords fun a ph1 ha _ => ?_)
  refine safe_guard (fun h => nomatch h) fun _ => ?_
  -- the `isinstance(other, Point)` branch is never taken
  refine safe_seq (safe_ite (fun h => nomatch h) fun _ => safe_ite (fun _ => ?_) fun h => nomatch h)
  refine safe_load_coords fun b ph2 hb _ => ?_
  refine Safe.weaken (fun r (hr : r = seqEq (E.info s) a (E.info o) b) => ⟨a, b, ha, hb, hr⟩) ?_
  refine safe_guard (fun hc => safe_ret (seqEq_ne a b hc).symm) fun hc => ?_
  refine safe_guard (fun hi => ?_) fun hi => ?_
  · have hi' : (isInfC a || isInfC b) = true := (isInfC_or a b).symm.trans hi
    exact safe_ret ((seqEq_eqv hc).trans (if_pos hi')).symm
  · have hi' : ¬ (isInfC a || isInfC b) = true := (isInfC_or a b).symm.trans hi ▸ Bool.false_ne_true
    exact safe_ret ((seqEq_eqv hc).trans (if_neg hi')).symm

/-- what is assumed of an operand: `ObjOK` if it is a shared object, nothing if it is local -/
def OpOK (E : Env) (s : Loc) (o : Obj) : Prop :=
  match s.fresh o with
  | .shared => ObjOK E (s.obj o)
  | _ => True

theorem exists_goodOp (E : Env) (s : Loc) (o : Obj) : ∃ c, GoodOp E s o c := by
  unfold GoodOp
  cases s.fresh o with
  | shared => exact ⟨_, Or.inl rfl⟩
  | inf => exact ⟨_, rfl⟩
  | pj P => exact ⟨_, rfl⟩

theorem isInf_op {E : Env} {s : Loc} {o : Obj} (hok : OpOK E s o) {c c' : Coords} (hc : GoodOp E s o c)
    (hc' : GoodOp E s o c') : isInfC c = isInfC c' := by
  unfold GoodOp at hc hc'
  unfold OpOK at hok
  cases hfr : s.fresh o with
  | shared =>
    rw [hfr] at hc hc' hok
    rw [isInf_good hok hc, isInf_good hok hc']
  | inf => rw [hfr] at hc hc'; rw [hc, hc']
  | pj P => rw [hfr] at hc hc'; rw [hc, hc']

theorem seqAddG_fin {is io : ObjInfo} {rs ro : Out} {a b : Coords} (ha : isInfC a = false) (hb : isInfC b = false) :
    seqAddG is io rs ro a b =
      if !(is.curve.eqv io.curve) then .error .valueError else (Curve.pjAddCore (mkPJ is a) (mkPJ io b)).map .pt :=
  (if_neg (ha ▸ Bool.false_ne_true)).trans (if_neg (hb ▸ Bool.false_ne_true))

/-- the test `if not Y3 or not Z3` of `__add__`, taken on the value that is then returned -/
theorem addCore_inf {r : Res Curve.Pt} (h : (match r with
      | .ok .infinity => true
      | _ => false) = true) : r.map Out.pt = .ok (.pt .infinity) := by
  cases r with
  | error e => cases h
  | ok R => cases R <;> first | rfl | cases h

/-- `A + B` where each operand is a shared object or a local value (the result of a previous call): the sum of one
snapshot of each; the tests for the identity are taken on snapshots of their own, which agree with those (`isInf_op`) -/
theorem op_safe_add_g (E : Env) (s : Loc) (hs : OpOK E s .self) (ho : OpOK E s .other) (ph : Phases Cell) :
    SafeE E (accAddG E s) ph (toProg (mAdd E.info) s) := by
  unfold toProg mAdd
  refine safe_seq (safe_call (.of_safe (op_safe_eqinf_g E _ rfl ph)) (fun _ _ ⟨_, _, h⟩ => nomatch h)
    fun _ ph1 hr _ => ?_)
  obtain ⟨a1, ha1, hr⟩ := hr
  cases hr
  have ha1 : GoodOp E s .self a1 := ha1
  refine safe_guard (fun hi => ?_) fun hia => ?_
  · have hi : isInfC a1 = true := hi
    obtain ⟨b, hb⟩ := exists_goodOp E s .other
    exact safe_ret ⟨a1, b, ha1, hb, (if_pos hi).symm⟩
  have hia : isInfC a1 = false := hia
  refine safe_seq (safe_call (.of_safe (op_safe_eqinf_g E _ rfl ph1)) (fun _ _ ⟨_, _, h⟩ => nomatch h)
    fun _ ph2 hr _ => ?_)
  obtain ⟨b1, hb1, hr⟩ := hr
  cases hr
  have hb1 : GoodOp E s .other b1 := hb1
  dsimp only
  refine safe_guard (fun hi => ?_) fun hib => ?_
  · have hi : isInfC b1 = true := hi
    exact safe_ret ⟨a1, b1, ha1, hb1, ((if_neg (hia ▸ Bool.false_ne_true)).trans (if_pos hi)).symm⟩
  have hib : isInfC b1 = false := hib
  refine safe_guard (fun hc => ?_) fun hc => ?_
  · have hc : (!(infoOf E.info s .self).curve.eqv (infoOf E.info s .other).curve) = true := hc
    exact safe_ret ⟨a1, b1, ha1, hb1, ((seqAddG_fin hia hib).trans (if_pos hc)).symm⟩
  have hc : (!(infoOf E.info s .self).curve.eqv (infoOf E.info s .other).curve) = false := hc
  refine safe_seq (safe_load_coords fun a2 ph3 ha2 _ => ?_)
  have ha2 : GoodOp E s .self a2 := ha2
  refine safe_seq (safe_load_coords fun b2 ph4 hb2 _ => ?_)
  have hb2 : GoodOp E s .other b2 := hb2
  have hr : seqAddG (infoOf E.info s .self) (infoOf E.info s .other) (retOperand s .self) (retOperand s .other) a2 b2 =
      (Curve.pjAddCore (mkPJ (infoOf E.info s .self) a2) (mkPJ (infoOf E.info s .other) b2)).map .pt :=
    (seqAddG_fin (isInf_op hs ha2 ha1 ▸ hia) (isInf_op ho hb2 hb1 ▸ hib)).trans (if_neg (hc ▸ Bool.false_ne_true))
  exact safe_guard (fun hi => safe_ret ⟨a2, b2, ha2, hb2, hr.trans (addCore_inf hi) |>.symm⟩)
    fun _ => safe_ret ⟨a2, b2, ha2, hb2, hr.symm⟩

/-- `P + Q` for two (possibly identical) shared points: the sum of one allowed snapshot of each, with the tests for the
identity taken on allowed snapshots too (they agree on all of them by `inf_ri`) -/
theorem _root_.C18.op_safe_add (E : Env) (s o : Nat) (hs : ObjOK E s) (ho : ObjOK E o) (ph : Phases Cell) :
    SafeE E ((Op.add s o).acc E) ph ((Op.add s o).prog E) :=
  op_safe_add_g E { self := s, other := o } hs ho ph

theorem GoodOp.of_shared {E : Env} {s : Loc} {o : Obj} {c : Coords} (hf : s.fresh o = .shared) (h : GoodOp E s o c) :
    GoodC E (s.obj o) c := by
  unfold GoodOp at h; rw [hf] at h; exact h

/-- `_maybe_precompute()` stores nothing but the complete table, does not raise, and afterwards a generator's
`__precompute` is canonical for the thread -/
theorem maybe_precompute_spec {E : Env} {id : Nat} (hok : ObjOK E id) (s : Loc) (hs : s.self = id)
    (hf : s.selfFresh = .shared) (ph : Phases Cell) :
    SafeP E (fun r ph' => r = .ok .none ∧ ((E.info id).generator = true → ph' (id, .pre) = .canon)) ph
      (toProg (mMaybePrecompute E.info) s) := by
  subst hs
  intro acc F hF
  rw [← den_eq_bind]
  unfold mMaybePrecompute
  cases hg : (E.info s.self).generator with
  | false =>
    refine safe_seq (safe_ite (fun h => nomatch hg.symm.trans h) fun _ => safe_skip ?_)
    refine safe_guard (fun _ => hF _ _ ⟨rfl, fun h => nomatch hg.symm.trans h⟩ fun _ h => h) fun h => ?_
    have h : (!(E.info s.self).generator || !s.ta.isEmpty) = false := h
    rw [hg] at h; cases h
  | true =>
    have done : ∀ ph' : Phases Cell, ph.Le ph' → SafeE E acc (ph'.set (s.self, .pre)) (F (.ok .none)) :=
      fun ph' hle => hF _ _ ⟨rfl, fun _ => Phases.set_self _ _⟩ (hle.trans (Phases.le_set _ _))
    refine safe_seq (safe_ite (fun _ => ?_) fun h => nomatch hg.symm.trans h)
    rw [loadTA, den_load (o := .self) hf]
    refine safe_read_pre (fun _ _ => ?_) ?_
    · -- the table is still empty: it is computed from a snapshot of the coordinates, and stored
      refine safe_guard (fun h => ?_) fun _ => ?_
      · have h : (!(E.info s.self).generator || !([] : Table).isEmpty) = true := h
        rw [hg] at h; cases h
      refine safe_seq (safe_load_coords fun c ph1 hc hle => ?_)
      have hc : GoodC E s.self c := GoodOp.of_shared (o := .self) hf hc
      refine safe_seq (safe_pure (congrArg (Except.map _) (precompute_good hok hg hc)) ?_)
      exact safe_seq (safe_store hf (fun h => h) rfl (done _ hle))
    · refine safe_guard (fun _ => done _ fun _ h => h) fun h => ?_
      have h : (!(E.info s.self).generator || !(E.tF s.self).isEmpty) = false := h
      rw [hg, (hok.table_gen hg).2.2] at h; cases h

theorem _root_.C18.op_safe_maybe_precompute (E : Env) (id : Nat) (hok : ObjOK E id) (ph : Phases Cell) :
    SafeE E ((Op.maybePrecompute id).acc E) ph ((Op.maybePrecompute id).prog E) :=
  (maybe_precompute_spec hok _ rfl rfl ph).safe fun _ _ h => h.1

/-- `mulPrecompute` reads only the immutable fields of the point -/
theorem mulPrecompute_mkPJ (i : ObjInfo) (c c' : Coords) (t : Table) (k : Int) :
    Curve.mulPrecompute (mkPJ i c) t k = Curve.mulPrecompute (mkPJ i c') t k := rfl

/-- `_mul_precompute(k)`, called when the table is known to be complete -/
theorem op_safe_mul_precompute (E : Env) (s : Loc) (hf : s.selfFresh = .shared) {ph : Phases Cell}
    (hcan : ph (s.self, .pre) = .canon) :
    SafeE E (fun r => r = .ok (.pt (Curve.mulPrecompute (selfPJ E.info s) (E.tF s.self) s.ka))) ph
      (toProg (mMulPrecompute E.info) s) := by
  unfold toProg mMulPrecompute
  exact safe_seq (safe_load_seen (o := .self) hf (fun h => h) hcan (safe_ret_pt rfl))

theorem redK_eq (i : ObjInfo) (k : Int) :
    (match Curve.truthy i.order with
      | some o => pmod k (o * 2)
      | none => k) = redK i k := rfl

/-- `P * k` on a fresh generator object (neither early return taken): the table is built, `_mul_precompute` -/
theorem seqMul_gen {E : Env} {id : Nat} (hok : ObjOK E id) (hg : (E.info id).generator = true) {c : Coords}
    (hc : GoodC E id c) (k : Int) (h0 : (c.2.1 == 0 || k == 0) = false) (h1 : (k == 1) = false) :
    seqMul (E.info id) id c [] k = .ok (.pt (Curve.mulPrecompute (mkPJ (E.info id) c) (E.tF id) (redK (E.info id) k))) := by
  have hne : (E.tF id).isEmpty = false := (hok.table_gen hg).2.2
  have h0' : ((mkPJ (E.info id) c).y == 0 || k == 0) = false := h0
  simp only [seqMul, h0, h1, Bool.false_eq_true, if_false, Curve.pjMulWith, h0', Curve.maybePrecompute]
  have : (mkPJ (E.info id) c).generator = true := hg
  simp only [this, Bool.not_true, List.isEmpty_nil, Bool.false_or, Bool.false_eq_true, if_false]
  rw [precompute_good hok hg hc]
  simp only [bind, Except.bind, hne, Bool.not_false, if_true, Except.map]
  rfl

/-- … and on an object that is not a generator: `scale()`, then the NAF loop -/
theorem seqMul_nogen {E : Env} {id : Nat} (hok : ObjOK E id) (hg : (E.info id).generator = false) {c : Coords}
    (hc : GoodC E id c) (k : Int) (h0 : (c.2.1 == 0 || k == 0) = false) (h1 : (k == 1) = false) :
    seqMul (E.info id) id c [] k = .ok (.pt (mulNaf (E.info id) (E.cS id) (redK (E.info id) k))) := by
  have h0' : ((mkPJ (E.info id) c).y == 0 || k == 0) = false := h0
  simp only [seqMul, h0, h1, Bool.false_eq_true, if_false, Curve.pjMulWith, h0', Curve.maybePrecompute]
  have : (mkPJ (E.info id) c).generator = false := hg
  simp only [this, Bool.not_false, Bool.true_or, if_true, bind, Except.bind, List.isEmpty_nil, Bool.not_true,
    Bool.false_eq_true, if_false]
  rw [scale_good hok hc]
  simp only [Except.map]
  rfl

theorem _root_.C18.op_safe_mul (E : Env) (id : Nat) (k : Int) (hok : ObjOK E id) (ph : Phases Cell) :
    SafeE E ((Op.mul id k).acc E) ph ((Op.mul id k).prog E) := by
  unfold Op.prog Op.acc toProg mMul
  refine safe_seq (safe_load_coords fun c ph1 hc _ => ?_)
  have hc : GoodC E id c := hc
  -- with the first snapshot `c` fixed, the result is that of a sequential run that finds `c` and an empty table
  refine Safe.weaken (fun r (hr : r = seqMul (E.info id) id c [] k) => ⟨c, [], hc, Or.inl rfl, hr⟩) ?_
  refine safe_guard (fun h0 => ?_) fun h0 => ?_
  · have h0 : (c.2.1 == 0 || k == 0) = true := h0
    exact safe_ret (if_pos h0).symm
  have h0 : (c.2.1 == 0 || k == 0) = false := h0
  refine safe_guard (fun h1 => ?_) fun h1 => ?_
  · have h1 : (k == 1) = true := h1
    exact safe_ret ((if_neg (h0 ▸ Bool.false_ne_true)).trans (if_pos h1)).symm
  have h1 : (k == 1) = false := h1
  refine safe_seq (safe_pure rfl ?_)
  dsimp only
  refine safe_seq (safe_call (maybe_precompute_spec hok _ rfl rfl _) (fun _ _ h => nomatch h.1) fun _ ph2 hr _ => ?_)
  refine safe_seq (safe_load_table rfl hok hr.2 ?_)
  dsimp only
  refine (Bool.eq_false_or_eq_true (E.info id).generator).elim (fun hg => ?_) fun hg => ?_
  · -- a generator: the table is complete, `_mul_precompute` computes the product
    have hta : (!(E.tF id).isEmpty) = true := congrArg not (hok.table_gen hg).2.2
    refine safe_seq (safe_then hta ?_)
    refine safe_seq (safe_call (.of_safe (op_safe_mul_precompute E _ rfl (Phases.set_self _ _))) (fun _ _ h => nomatch h)
      fun _ ph3 hr _ => ?_)
    cases hr
    exact safe_ret ((seqMul_gen hok hg hc k h0 h1).trans
      (congrArg (fun x => Except.ok (Out.pt x)) (mulPrecompute_mkPJ _ _ _ _ _))).symm
  · -- not a generator: no table; `scale()`, then the NAF loop on the scaled triple
    have hta : (!(E.tF id).isEmpty) = false := by rw [hok.table_nogen hg]; rfl
    refine safe_seq (safe_else hta (safe_skip ?_))
    refine safe_seq (safe_call (scale_spec hok _ rfl rfl _) (fun _ _ h => nomatch h.1) fun _ ph3 hr _ => ?_)
    refine safe_seq (safe_load_seen rfl (fun h => h) hr.2 ?_)
    exact safe_ret_pt (seqMul_nogen hok hg hc k h0 h1).symm

section
variable {E : Env} {A : Res Out → Prop} {F : Out → Res Out → Prop} {ph : Phases Cell} {o : Obj} {nm : String} {body : M}
  {enter : Loc → Loc} {leave : Loc → Out → Loc} {s : Loc} {kr k : Loc → P}

/-- a call in a complete operation whose result is accepted by `accBind`: an exception of the callee escapes, a value
is passed on -/
theorem safe_call_bind (hb : SafeE E A ph (toProg body { enter s with self := s.obj o }))
    (hk : ∀ out ph', A (.ok out) → ph.Le ph' → SafeE E (F out) ph' (k (leave s out))) :
    SafeE E (accBind A F) ph (den (.call o nm body enter leave) s (fun e => .ret (.error e)) kr k) :=
  safe_call (.of_safe hb) (fun e _ he _ => Safe.ret (Or.inl ⟨e, he, rfl⟩))
    fun out ph' ho hle => (hk out ph' ho hle).weaken fun _ h => Or.inr ⟨out, ho, h⟩

theorem safe_callR_bind (hb : SafeE E A ph (toProg body (enter s)))
    (hk : ∀ out ph', A (.ok out) → ph.Le ph' → SafeE E (F out) ph' (k (leave s out))) :
    SafeE E (accBind A F) ph (den (.callR o nm body enter leave) s (fun e => .ret (.error e)) kr k) :=
  safe_callR (.of_safe hb) (fun e _ he _ => Safe.ret (Or.inl ⟨e, he, rfl⟩))
    fun out ph' ho hle => (hk out ph' ho hle).weaken fun _ h => Or.inr ⟨out, ho, h⟩

/-- `return self.callee()` -/
theorem safe_ret_call {acc : Res Out → Prop} (hb : SafeE E acc ph (toProg body { enter s with self := s.obj o })) :
    SafeE E acc ph (den (.call o nm body enter (fun s o => { s with r1 := o }) ;; .ret fun s => .ok s.r1) s
      (fun e => .ret (.error e)) (fun t => .ret (.ok t.out)) k) :=
  safe_seq (safe_call (.of_safe hb) (fun _ _ he _ => Safe.ret he) fun _ _ ho _ => safe_ret ho)

end

theorem _root_.C18.op_safe_ne (E : Env) (s o : Nat) (ph : Phases Cell) :
    SafeE E ((Op.ne s o).acc E) ph ((Op.ne s o).prog E) := by
  unfold Op.prog Op.acc toProg mNe
  exact safe_seq (safe_call (.of_safe (op_safe_eq E s o ph)) (fun _ _ he _ => Safe.ret ⟨_, he, rfl⟩)
    fun _ _ ho _ => safe_ret ⟨_, ho, rfl⟩)

theorem _root_.C18.op_safe_radd (E : Env) (s o : Nat) (hs : ObjOK E s) (ho : ObjOK E o) (ph : Phases Cell) :
    SafeE E ((Op.radd s o).acc E) ph ((Op.radd s o).prog E) := by
  unfold Op.prog Op.acc
  exact safe_ret_call (op_safe_add E s o hs ho ph)

theorem _root_.C18.op_safe_rmul (E : Env) (id : Nat) (k : Int) (hok : ObjOK E id) (ph : Phases Cell) :
    SafeE E ((Op.rmul id k).acc E) ph ((Op.rmul id k).prog E) := by
  unfold Op.prog Op.acc
  exact safe_ret_call (op_safe_mul E id k hok ph)

theorem _root_.C18.op_safe_from_affine (E : Env) (id : Nat) (g : Int) (ph : Phases Cell) :
    SafeE E ((Op.fromAffine id g).acc E) ph ((Op.fromAffine id g).prog E) := by
  unfold Op.prog Op.acc toProg mFromAffine
  refine safe_seq (safe_call (.of_safe (op_safe_x_g E { self := id } ph)) (fun e _ hx _ => ?_) fun ox ph1 hx _ => ?_)
  · obtain ⟨ca, hca, hx⟩ := hx
    exact Safe.ret ⟨ca, E.c0 id, hca, Or.inl rfl, by rw [← hx]; rfl⟩
  obtain ⟨ca, hca, hx⟩ := hx
  dsimp only
  refine safe_seq (safe_call (.of_safe (op_safe_y E id ph1)) (fun e _ hy _ => ?_) fun oy ph2 hy _ => ?_)
  · obtain ⟨cb, hcb, hy⟩ := GoodC.of_or hy
    exact Safe.ret ⟨ca, cb, hca, hcb, by rw [← hx, ← hy]; rfl⟩
  · obtain ⟨cb, hcb, hy⟩ := GoodC.of_or hy
    dsimp only
    exact safe_ret ⟨ca, cb, hca, hcb, by rw [← hx, ← hy]; rfl⟩

/-- `__setstate__` (run by unpickling on the NEW object): two stores, of exactly the pickled pair -/
theorem setstate_prog (s : Loc) (hf : s.selfFresh = .shared) :
    toProg mSetstate s = .write (s.self, .coords) (.coords s.ca) (.write (s.self, .pre) (.table s.ta) (.ret (.ok .none))) := by
  simp [toProg, mSetstate, den, Loc.fresh, hf, Loc.obj, bindRes]

theorem opOK_sum {E : Env} {a b : Nat} (ha : ObjOK E a) (hb : ObjOK E b) (o1 o2 : Out) :
    OpOK E (sumLoc a b o1 o2) .self ∧ OpOK E (sumLoc a b o1 o2) .other := by
  unfold OpOK
  simp only [sumLoc, Loc.fresh, Loc.obj]
  constructor
  · cases freshOf o1 <;> first | exact ha | trivial
  · cases freshOf o2 <;> first | exact hb | trivial

/-- `self * ka + other * kb` (`accSum` is `accBind` twice).  The acceptance predicate is a parameter: stated with
`accSum` of the fields of `s`, the lemma could not be applied to a state that differs from the caller's in other fields. -/
theorem safe_mulsum {E : Env} (s : Loc) (ha : ObjOK E s.self) (hb : ObjOK E s.other) {acc : Res Out → Prop}
    (hacc : ∀ r, accSum E s.self s.other s.ka s.kb r → acc r) (ph : Phases Cell) (k : Loc → P) :
    SafeE E acc ph (den (mMulSum E.info) s (fun e => .ret (.error e)) (fun t => .ret (.ok t.out)) k) := by
  refine Safe.weaken hacc ?_
  unfold mMulSum
  refine safe_seq (safe_call_bind (op_safe_mul E s.self s.ka ha ph) fun o1 ph1 _ _ => ?_)
  refine safe_seq (safe_call_bind (op_safe_mul E s.other s.kb hb ph1) fun o2 ph2 _ _ => ?_)
  have hok := opOK_sum ha hb o1 o2
  exact safe_seq (safe_callR (.of_safe (op_safe_add_g E (sumLoc s.self s.other o1 o2) hok.1 hok.2 ph2))
    (fun _ _ he _ => Safe.ret he) fun _ _ ho _ => safe_ret ho)

/-- the main path of `mul_add`: both points are scaled, so the joint loop runs on the scaled triples -/
theorem safe_mul_add_tail {E : Env} (s : Loc) (hoa : ObjOK E s.self) (hob : ObjOK E s.other)
    (hfa : s.selfFresh = .shared) (hfb : s.otherFresh = .shared) {acc : Res Out → Prop}
    (hsum : ∀ r, pApBInf (E.info s.self) (E.cS s.self) (E.cS s.other) = true →
      accSum E s.self s.other (redMA (E.info s.self) s.ka) (redMA (E.info s.self) s.kb) r → acc r)
    (hloop : pApBInf (E.info s.self) (E.cS s.self) (E.cS s.other) = false →
      acc (.ok (.pt (mulAddLoop (E.info s.self) (E.cS s.self) (E.cS s.other) (redMA (E.info s.self) s.ka)
        (redMA (E.info s.self) s.kb)))))
    (ph : Phases Cell) (k : Loc → P) :
    SafeE E acc ph (den (mMulAddTail E.info) s (fun e => .ret (.error e)) (fun t => .ret (.ok t.out)) k) := by
  unfold mMulAddTail
  refine safe_seq (safe_pure rfl ?_)
  refine safe_seq (safe_call (scale_spec hoa _ (by rfl) rfl _) (fun _ _ h => nomatch h.1) fun _ ph1 h1 _ => ?_)
  refine safe_seq (safe_load_seen (o := .self) hfa (fun h => h) h1.2 ?_)
  refine safe_seq (safe_call (scale_spec hob _ (by rfl) rfl _) (fun _ _ h => nomatch h.1) fun _ ph2 h2 _ => ?_)
  refine safe_seq (safe_load_seen (o := .other) hfb (fun h => h) h2.2 ?_)
  refine safe_seq (safe_ite (fun hp => ?_) fun hp => safe_skip ?_)
  · apply safe_mulsum
    · exact hoa
    · exact hob
    · exact fun r => hsum r hp
  · exact safe_ret_pt (hloop hp)

theorem _root_.C18.op_safe_mul_add (E : Env) (a : Nat) (ka : Int) (b : Nat) (kb : Int) (hoa : ObjOK E a)
    (hob : ObjOK E b) (ph : Phases Cell) :
    SafeE E ((Op.mulAdd a ka b kb).acc E) ph ((Op.mulAdd a ka b kb).prog E) := by
  unfold Op.prog Op.acc toProg mMulAdd
  refine safe_seq (safe_call (.of_safe (op_safe_eq_inf E b ph)) (fun _ _ h => by rcases h with h | h <;> cases h)
    fun out ph0 hr _ => ?_)
  have hout : out = .bool (isInfC (E.c0 b)) := by
    rcases hr with h | h <;> cases h
    · rfl
    · rw [hob.inf_ri]
  subst hout
  dsimp only
  refine safe_seq (safe_ite (fun h1 => ?_) fun h1 => safe_skip ?_)
  · have h1 : (isInfC (E.c0 b) || kb == 0) = true := h1
    exact Safe.weaken (fun _ h => Or.inl ⟨h1, h⟩) (safe_ret_call (op_safe_mul E a ka hoa ph0))
  have h1 : (isInfC (E.c0 b) || kb == 0) = false := h1
  refine safe_seq (safe_ite (fun h2 => ?_) fun h2 => safe_skip ?_)
  · have h2 : (ka == 0) = true := h2
    exact Safe.weaken (fun _ h => Or.inr (Or.inl ⟨h1, h2, h⟩)) (safe_ret_call (op_safe_mul E b kb hob ph0))
  have h2 : (ka == 0) = false := h2
  refine safe_seq (safe_call (maybe_precompute_spec hoa _ rfl rfl _) (fun _ _ h => nomatch h.1) fun _ ph1 hpa _ => ?_)
  refine safe_seq (safe_call (maybe_precompute_spec hob _ rfl rfl _) (fun _ _ h => nomatch h.1) fun _ ph2 hpb hle => ?_)
  refine safe_seq (safe_load_table rfl hoa (fun hg => hle _ (hpa.2 hg)) ?_)
  dsimp only
  -- the main path, taken unless both points have tables
  have tail : ∀ (ph3 : Phases Cell) (s3 : Loc), s3.self = a → s3.other = b → s3.ka = ka → s3.kb = kb →
      s3.selfFresh = .shared → s3.otherFresh = .shared →
      ((E.info a).generator && (E.info b).generator) = false →
      SafeE E (accMulAdd E a b ka kb) ph3 (den (mMulAddTail E.info) s3 (fun e => .ret (.error e))
        (fun t => .ret (.ok t.out)) (fun t => .ret (.ok t.out))) := by
    intro ph3 s3 e1 e2 e3 e4 f1 f2 hgg
    subst e1 e2 e3 e4
    exact safe_mul_add_tail s3 hoa hob f1 f2
      (fun r hp hr => Or.inr (Or.inr (Or.inr (Or.inl ⟨h1, h2, hgg, hp, hr⟩))))
      (fun hp => Or.inr (Or.inr (Or.inr (Or.inr ⟨h1, h2, hgg, hp, rfl⟩)))) _ _
  refine (Bool.eq_false_or_eq_true (E.info a).generator).elim (fun hga => ?_) fun hga => ?_
  · have hta : (!(E.tF a).isEmpty) = true := congrArg not (hoa.table_gen hga).2.2
    refine safe_seq (safe_then hta ?_)
    refine safe_load_table rfl hob (fun hg => Phases.le_set _ _ _ (hpb.2 hg)) ?_
    dsimp only
    refine (Bool.eq_false_or_eq_true (E.info b).generator).elim (fun hgb => ?_) fun hgb => ?_
    · have htb : (!(E.tF b).isEmpty) = true := congrArg not (hob.table_gen hgb).2.2
      have htab : (!(E.tF a).isEmpty && !(E.tF b).isEmpty) = true := by rw [hta, htb]; rfl
      refine safe_seq (safe_then htab ?_)
      exact safe_mulsum _ hoa hob (fun r hr => Or.inr (Or.inr (Or.inl ⟨h1, h2, by rw [hga, hgb]; rfl, hr⟩))) _ _
    · have htab : (!(E.tF a).isEmpty && !(E.tF b).isEmpty) = false := by rw [hob.table_nogen hgb]; exact Bool.and_false _
      refine safe_seq (safe_else htab (safe_skip ?_))
      exact tail _ _ rfl rfl rfl rfl rfl rfl (by rw [hgb]; exact Bool.and_false _)
  · have hta : (!(E.tF a).isEmpty) = false := by rw [hoa.table_nogen hga]; rfl
    refine safe_seq (safe_else hta (safe_skip ?_))
    have htab : (!(E.tF a).isEmpty && !([] : Table).isEmpty) = false := by rw [hta]; rfl
    refine safe_seq (safe_else htab (safe_skip ?_))
    exact tail _ _ rfl rfl rfl rfl rfl rfl (by rw [hga]; rfl)

end ThreadProgs
