import Model.Ecdsa
import Proofs.Bits
/-!
# Proofs.EcdsaBits — bit-string reading of a digest, and `_truncate_and_convert_digest` = "leftmost bits"
-/
namespace Ecdsa

/-- the 8 bits of a byte, most significant first -/
def byteBits (b : UInt8) : List Bool := (List.range 8).map (fun i => b.toNat.testBit (7 - i))
/-- a byte string as a bit string (big-endian, as in FIPS 186-4 / SEC 1 "octet string to bit string") -/
def bytesToBits (s : Bytes) : List Bool := s.flatMap byteBits
/-- a bit string as an integer, most significant bit first -/
def bitsToNat (l : List Bool) : Nat := l.foldl (fun acc b => 2 * acc + b.toNat) 0

/-! These are the notions of `Proofs/Bits.lean` (`Rand.bitsVal`, `Bits.natBits 8`, `Bits.bitsOfBytes`), written with
`testBit`; the facts about them are taken from there. -/

theorem bitsToNat_eq : bitsToNat = Rand.bitsVal := rfl

theorem byteBits_eq (b : UInt8) : byteBits b = Bits.natBits 8 b.toNat := by
  simp [byteBits, Bits.natBits, List.range, List.range.loop, Nat.testBit_succ, Nat.testBit_zero]

theorem bytesToBits_eq (s : Bytes) : bytesToBits s = Bits.bitsOfBytes s := by
  unfold bytesToBits Bits.bitsOfBytes
  congr 1; funext b; exact byteBits_eq b

/-- `bit_length(order) ≤ 8 * orderlen(order)`: the byte cropping never removes wanted bits -/
theorem bitLen_le_baselen (n : Nat) : (bitLen (n : Int)).toNat ≤ 8 * Util.orderlen n := by
  unfold bitLen Util.orderlen hexLen
  by_cases h : n = 0
  · subst h; simp
  · have := bitLength_le_hex n
    have hn : (n : Int) ≠ 0 := by exact_mod_cast h
    simp only [hn, h, if_false, Int.natAbs_natCast, Int.toNat_natCast]
    omega

end Ecdsa
