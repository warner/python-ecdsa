import Proofs.MulAll
import Proofs.Toy
import Mathlib.GroupTheory.OrderOfElement
/-!
# Proofs.GroupInterface — what the point layer guarantees, packaged for the ECDSA-level proofs (C01–C03, C05, C14)

Setting (`Ctx`): a curve (p, a, b) over an odd prime p, a base point `G` of Mathlib's group and an ODD integer n > 0 with
n • G = 0 (on the named curves: the prime group order); `C.H` = ⟨G⟩.  Because n is odd, ⟨G⟩ has no element of order two, so
the N2T hypothesis of C06/C07 (known finding K1) is DISCHARGED here: nothing below is `_partial` as long as every point
taking part denotes an element of ⟨G⟩ (on a cofactor-1 curve that is every point of the curve).
-/
namespace GroupInterface
open WeierstrassCurve WeierstrassCurve.Jacobian Curve Jac

variable {p : ℕ} [hp : Fact p.Prime] {a b : ℤ}

structure Ctx (p : ℕ) [Fact p.Prime] (a b : ℤ) where
  G : Grp (a : ZMod p) (b : ZMod p)
  n : ℤ
  hn : n • G = 0
  hodd : n % 2 = 1
  hpos : 0 < n

def Ctx.H (C : Ctx p a b) : AddSubgroup (Grp (a : ZMod p) (b : ZMod p)) := AddSubgroup.zmultiples C.G

theorem Ctx.G_mem (C : Ctx p a b) : C.G ∈ C.H := AddSubgroup.mem_zmultiples C.G

theorem Ctx.smul_mem (C : Ctx p a b) (k : ℤ) : k • C.G ∈ C.H :=
  AddSubgroup.zsmul_mem _ C.G_mem k

theorem Ctx.order_annihilates (C : Ctx p a b) {g} (hg : g ∈ C.H) : C.n • g = 0 := by
  obtain ⟨k, rfl⟩ := AddSubgroup.mem_zmultiples_iff.mp hg
  rw [smul_comm, C.hn, smul_zero]

theorem Ctx.n2t (C : Ctx p a b) : NoOrder2 C.H :=
  noOrder2_of_odd C.hodd fun _ hg => C.order_annihilates hg

/-- the usual way to obtain a context on a cofactor-1 curve: the SEC 2 / FIPS fact #E(𝔽_p) = n (a hypothesis of the
ECDSA-level theorems, DESIGN §4) with n odd; then EVERY point of the curve has n • g = 0 and N2T holds for the whole
group, for any base point G -/
def Ctx.ofCard (G : Grp (a : ZMod p) (b : ZMod p)) (n : ℕ) (hcard : Nat.card (Grp (a : ZMod p) (b : ZMod p)) = n)
    (hodd : n % 2 = 1) : Ctx p a b where
  G := G
  n := n
  hn := by
    have := card_nsmul_eq_zero' (G := Grp (a : ZMod p) (b : ZMod p)) (x := G)
    rw [hcard] at this
    exact_mod_cast this
  hodd := by omega
  hpos := by omega

theorem noOrder2_top_of_card (n : ℕ) (hcard : Nat.card (Grp (a : ZMod p) (b : ZMod p)) = n) (hodd : n % 2 = 1) :
    NoOrder2 (⊤ : AddSubgroup (Grp (a : ZMod p) (b : ZMod p))) := by
  refine noOrder2_of_odd (n := n) (by omega) fun g _ => ?_
  have hn := card_nsmul_eq_zero' (G := Grp (a : ZMod p) (b : ZMod p)) (x := g)
  rw [hcard] at hn
  exact_mod_cast hn

theorem Ctx.smul_mod (C : Ctx p a b) {g} (hg : g ∈ C.H) (k : ℤ) : (k % C.n) • g = k • g := by
  rw [← pmod_eq_emod C.hpos]
  exact smul_pmod (C.order_annihilates hg) k C.n dvd_rfl

/-- the declared order of a library object of this curve: n, or none; without an order the object must not be a
generator (`_maybe_precompute` asserts the order) -/
def OrderOK (C : Ctx p a b) (P : PJ) : Prop := P.order = some C.n ∨ (P.order = none ∧ P.generator = false)

theorem OrderOK.annihilates {C : Ctx p a b} {P : PJ} (ho : OrderOK C P) {g} (hg : g ∈ C.H) :
    ∀ m, truthy P.order = some m → m • g = 0 := by
  intro m hm
  rcases ho with ho | ⟨ho, _⟩
  · rw [ho] at hm
    rw [truthy_some_eq hm]
    exact C.order_annihilates hg
  · rw [ho] at hm; cases hm

theorem mulOK_of (C : Ctx p a b) {P : PJ} {g} (hP : PJRep p a b C.H P g) (ho : OrderOK C P) :
    MulOK p a b C.H P g := by
  refine ⟨hP, ho.annihilates hP.mem, ?_⟩
  intro hg
  rcases ho with ho | ⟨_, hf⟩
  · exact ⟨C.n, by simp [ho, truthy, (ne_of_gt C.hpos)], C.hpos⟩
  · rw [hf] at hg; cases hg

theorem mul (hp2 : p ≠ 2) (C : Ctx p a b) {P : PJ} {g} (hP : PJRep p a b C.H P g) (ho : OrderOK C P) (k : ℤ) :
    ∃ R, pjMul P k = .ok R ∧ PtRep p a b C.H R (k • g) :=
  pjMul_correct hp2 C.n2t (mulOK_of C hP ho) k

/-- this is what `Public_key.verifies` computes with P = G -/
theorem mul_add (hp2 : p ≠ 2) (C : Ctx p a b) {P Q : PJ} {g h} (hP : PJRep p a b C.H P g)
    (hQ : PJRep p a b C.H Q h) (hoP : OrderOK C P) (hoQ : OrderOK C Q) (u1 u2 : ℤ) :
    ∃ R, pjMulAdd P u1 (.jac Q) u2 = .ok R ∧ PtRep p a b C.H R (u1 • g + u2 • h) :=
  pjMulAdd_correct hp2 C.n2t (mulOK_of C hP hoP)
    (show PtMulOK p a b C.H (.jac Q) h from mulOK_of C hQ hoQ) (hoP.annihilates hQ.mem) u1 u2

theorem add (hp2 : p ≠ 2) (C : Ctx p a b) {A B : Pt} {g h} (hA : PtRep p a b C.H A g)
    (hB : PtRep p a b C.H B h) : ∃ R, ptAdd A B = .ok R ∧ PtRep p a b C.H R (g + h) :=
  ptAdd_correct hp2 C.n2t hA hB

theorem eq_iff (C : Ctx p a b) {A B : Pt} {g h} (hA : PtRep p a b C.H A g) (hB : PtRep p a b C.H B h) :
    ptEq A B = true ↔ g = h :=
  ptEq_iff C.n2t hA hB

theorem eq_infinity_iff (C : Ctx p a b) {A : Pt} {g} (hA : PtRep p a b C.H A g) :
    ptEq A .infinity = true ↔ g = 0 :=
  ptEq_iff C.n2t hA (show PtRep p a b C.H .infinity 0 from rfl)

theorem result_cases {H : AddSubgroup (Grp (a : ZMod p) (b : ZMod p))} {R : Pt} {g} (hR : PtRep p a b H R g) :
    (R = .infinity ∧ g = 0) ∨ (∃ J, R = .jac J ∧ PJRep p a b H J g ∧ g ≠ 0) ∨
      (∃ A, R = .aff A ∧ AffRep p a b H A g ∧ g ≠ 0) := by
  cases R with
  | infinity => exact Or.inl ⟨rfl, hR⟩
  | jac J => exact Or.inr (Or.inl ⟨J, rfl, hR, good_ne_zero (PJRep.good hR)⟩)
  | aff A => exact Or.inr (Or.inr ⟨A, rfl, hR, AffRep.ne_zero hR⟩)

theorem xy {H : AddSubgroup (Grp (a : ZMod p) (b : ZMod p))} {J : PJ} {g} (hJ : PJRep p a b H J g) :
    ∃ x y, pjX J = .ok x ∧ pjY J = .ok y ∧ 0 ≤ x ∧ x < p ∧ 0 ≤ y ∧ y < p ∧
      ∃ hn : (shortW (a : ZMod p) (b : ZMod p)).toAffine.Nonsingular (x : ZMod p) (y : ZMod p),
        g = Affine.Point.some _ _ hn := by
  obtain ⟨x, y, ex, ey, rx, ry, hn⟩ := pjXY_correct hJ
  exact ⟨x, y, ex, ey, rx.1, rx.2, ry.1, ry.2, hn⟩

theorem xy_unique {H : AddSubgroup (Grp (a : ZMod p) (b : ZMod p))} {J J' : PJ} {g}
    (hJ : PJRep p a b H J g) (hJ' : PJRep p a b H J' g) : pjX J = pjX J' ∧ pjY J = pjY J' :=
  pjXY_unique hJ hJ'

/-- what "x₁ of the point" means in the ECDSA statements (0 for the identity) -/
noncomputable def xOf : Grp (a : ZMod p) (b : ZMod p) → ℤ
  | .zero => 0
  | .some x _ _ => (ZMod.val x : ℤ)

theorem val_cast_of_inRange {x : ℤ} (h0 : 0 ≤ x) (h1 : x < p) : ((ZMod.val (x : ZMod p) : ℕ) : ℤ) = x := by
  have : NeZero p := ⟨hp.out.ne_zero⟩
  have e : ((x.toNat : ℕ) : ℤ) = x := Int.toNat_of_nonneg h0
  have : ((x.toNat : ℕ) : ZMod p) = (x : ZMod p) := by rw [← e]; push_cast; rw [e]
  rw [← this, ZMod.val_natCast, Nat.mod_eq_of_lt (by omega)]
  exact e

theorem xOf_spec {H : AddSubgroup (Grp (a : ZMod p) (b : ZMod p))} {J : PJ} {g} (hJ : PJRep p a b H J g) :
    pjX J = .ok (xOf g) := by
  obtain ⟨x, y, ex, _, rx, _, hn, hg⟩ := pjXY_correct hJ
  rw [ex, hg, xOf, val_cast_of_inRange rx.1 rx.2]

/-- the observable value of a point value: `none` for INFINITY, else the canonical affine pair `(x(), y())` -/
def canon : Pt → Res (Option (ℤ × ℤ))
  | .infinity => .ok none
  | .jac J => do
      let x ← pjX J
      let y ← pjY J
      .ok (some (x, y))
  | .aff A => .ok (some (A.x, A.y))

noncomputable def canonOf : Grp (a : ZMod p) (b : ZMod p) → Option (ℤ × ℤ)
  | .zero => none
  | .some x y _ => some ((ZMod.val x : ℤ), (ZMod.val y : ℤ))

theorem canon_spec {H : AddSubgroup (Grp (a : ZMod p) (b : ZMod p))} {R : Pt} {g} (hR : PtRep p a b H R g) :
    canon R = .ok (canonOf g) := by
  cases R with
  | infinity =>
    have : g = 0 := hR
    subst this; rfl
  | jac J =>
    obtain ⟨x, y, ex, ey, rx, ry, hn, hg⟩ := pjXY_correct (show PJRep p a b H J g from hR)
    simp only [canon, ex, ey, ok_bind, hg, canonOf]
    rw [val_cast_of_inRange rx.1 rx.2, val_cast_of_inRange ry.1 ry.2]
  | aff A =>
    obtain ⟨_, rx, ry, _, hn, hg⟩ := (show AffRep p a b H A g from hR)
    simp only [canon, ← hg, canonOf]
    rw [val_cast_of_inRange rx.1 rx.2, val_cast_of_inRange ry.1 ry.2]

theorem canon_unique {H : AddSubgroup (Grp (a : ZMod p) (b : ZMod p))} {R R' : Pt} {g}
    (hR : PtRep p a b H R g) (hR' : PtRep p a b H R' g) : canon R = canon R' := by
  rw [canon_spec hR, canon_spec hR']

theorem mul_repr_indep (hp2 : p ≠ 2) (C : Ctx p a b) {P P' : PJ} {g} (hP : PJRep p a b C.H P g)
    (hP' : PJRep p a b C.H P' g) (ho : OrderOK C P) (ho' : OrderOK C P') (k : ℤ) :
    ∃ R R', pjMul P k = .ok R ∧ pjMul P' k = .ok R' ∧ canon R = canon R' ∧
      canon R = .ok (canonOf (k • g)) := by
  obtain ⟨R, e, hR⟩ := mul hp2 C hP ho k
  obtain ⟨R', e', hR'⟩ := mul hp2 C hP' ho' k
  exact ⟨R, R', e, e', canon_unique hR hR', canon_spec hR⟩

theorem mul_add_repr_indep (hp2 : p ≠ 2) (C : Ctx p a b) {P P' Q Q' : PJ} {g h}
    (hP : PJRep p a b C.H P g) (hP' : PJRep p a b C.H P' g) (hQ : PJRep p a b C.H Q h)
    (hQ' : PJRep p a b C.H Q' h) (hoP : OrderOK C P) (hoP' : OrderOK C P') (hoQ : OrderOK C Q)
    (hoQ' : OrderOK C Q') (u1 u2 : ℤ) :
    ∃ R R', pjMulAdd P u1 (.jac Q) u2 = .ok R ∧ pjMulAdd P' u1 (.jac Q') u2 = .ok R' ∧
      canon R = canon R' ∧ canon R = .ok (canonOf (u1 • g + u2 • h)) := by
  obtain ⟨R, e, hR⟩ := mul_add hp2 C hP hQ hoP hoQ u1 u2
  obtain ⟨R', e', hR'⟩ := mul_add hp2 C hP' hQ' hoP' hoQ' u1 u2
  exact ⟨R, R', e, e', canon_unique hR hR', canon_spec hR⟩

theorem add_repr_indep (hp2 : p ≠ 2) (C : Ctx p a b) {A A' B B' : Pt} {g h}
    (hA : PtRep p a b C.H A g) (hA' : PtRep p a b C.H A' g) (hB : PtRep p a b C.H B h)
    (hB' : PtRep p a b C.H B' h) :
    ∃ R R', ptAdd A B = .ok R ∧ ptAdd A' B' = .ok R' ∧ canon R = canon R' ∧
      canon R = .ok (canonOf (g + h)) := by
  obtain ⟨R, e, hR⟩ := add hp2 C hA hB
  obtain ⟨R', e', hR'⟩ := add hp2 C hA' hB'
  exact ⟨R, R', e, e', canon_unique hR hR', canon_spec hR⟩

theorem scale {H : AddSubgroup (Grp (a : ZMod p) (b : ZMod p))} {P : PJ} {g} (hP : PJRep p a b H P g) :
    ∃ S, pjScale P = .ok S ∧ PJRep p a b H S g ∧ S.z = 1 ∧ S.curve = P.curve ∧ S.order = P.order ∧
      S.generator = P.generator := pjScale_correct hP

theorem to_affine {H : AddSubgroup (Grp (a : ZMod p) (b : ZMod p))} {P : PJ} {g} (hP : PJRep p a b H P g) :
    ∃ A, pjToAffine P = .ok (.aff A) ∧ AffRep p a b H A g ∧ A.order = P.order := pjToAffine_correct hP

theorem neg {H : AddSubgroup (Grp (a : ZMod p) (b : ZMod p))} {P : PJ} {g} (hP : PJRep p a b H P g) :
    PJRep p a b H (pjNeg P) (-g) := pjNeg_correct hP

theorem double (C : Ctx p a b) {P : PJ} {g} (hP : PJRep p a b C.H P g) :
    PtRep p a b C.H (pjDouble P) (g + g) := pjDouble_correct C.n2t hP

/-- what `PointJacobi(curve, x, y, 1, n)` and `from_affine` hold; membership in ⟨G⟩ is automatic when ⟨G⟩ is the whole
group (cofactor 1 with #E = n) -/
theorem pjRep_of_coords {H : AddSubgroup (Grp (a : ZMod p) (b : ZMod p))} (hH : NoOrder2 H)
    (c : CurveFp) (hc : OnCurve p a b c) (x y : ℤ) (hx : 0 ≤ x ∧ x < p) (hy : 0 ≤ y ∧ y < p)
    (hns : (shortW (a : ZMod p) (b : ZMod p)).toAffine.Nonsingular (x : ZMod p) (y : ZMod p))
    (hm : Affine.Point.some _ _ hns ∈ H) (o : Option ℤ) (gen : Bool) :
    PJRep p a b H ⟨c, x, y, 1, o, gen⟩ (Affine.Point.some _ _ hns) :=
  AffRep.pj hH (A := ⟨c, x, y, o⟩) ⟨hc, hx, hy, hm, hns, rfl⟩ gen

theorem legacy_mul (hp2 : p ≠ 2) (C : Ctx p a b) {A : AffPt} {g} (hA : AffRep p a b C.H A g)
    (ho : A.order = some C.n ∨ A.order = none) (e : ℤ) :
    ∃ R, affMul A e = .ok R ∧ PtRep p a b C.H R (e • g) := by
  refine affMul_correct hp2 C.n2t hA ?_ e
  intro m hm
  rcases ho with ho | ho
  · rw [ho] at hm
    rw [truthy_some_eq hm]
    exact C.order_annihilates hA.mem
  · rw [ho] at hm; cases hm

theorem toy_ctx : ∃ C : Ctx 11 1 6, C.n = 13 ∧ PJRep 11 1 6 C.H toyG C.G := by
  obtain ⟨g, hg⟩ := toyG_rep
  exact ⟨⟨g, 13, toyG_order hg, by decide, by decide⟩, rfl, hg.onCurve, hg.inRange, AddSubgroup.mem_zmultiples g,
    hg.good.2⟩

/-! non-vacuity: a context on the toy curve y² = x³ + x + 6 over F₁₁ with G = (2, 7), n = 13 -/
example : ∃ C : Ctx 11 1 6, C.n = 13 ∧ ∃ g, PJRep 11 1 6 ⊤ toyG g ∧ C.G = g := by
  obtain ⟨g, hg⟩ := toyG_rep
  exact ⟨⟨g, 13, toyG_order hg, by decide, by decide⟩, rfl, g, hg, rfl⟩

end GroupInterface
