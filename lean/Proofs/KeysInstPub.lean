import Proofs.KeysPem
import Props.C15
import Model.KeysWire
import Mathlib.Data.ZMod.Basic
import Proofs.NamedCurves
/-!
# Proofs.KeysInstPub — discharging the hypotheses on the external functions for `KeysWire.modelExt`, the `Ext` whose
components are the models of the other layers (what the driver runs in `m` mode)

* `SqrtSpec` holds for `NT.squareRootModPrime`, for every odd prime: `C15.sqrt_spec`.
* For every row of the generated curve table with `p` and `n` prime, `(generator * d).scale()` of the point-arithmetic
  model is, for `1 ≤ d < n`, a point with coordinates in `[0, p)` that satisfies the curve equation and passes the model's
  subgroup test: C07's `mul` theorem through `GroupInterface` on `Named.baseCtx` (order of the base point checked by the
  kernel), plus: `n` prime and `G ≠ 0` give `d • G ≠ 0`.
* `InSubgroup r x y` is the property's "the point lies in the subgroup generated by G", read literally in Mathlib's point
  group.
-/
namespace KeysP
open Keys Curve Jac GroupInterface WeierstrassCurve

theorem sqrtSpec_model (p : Nat) (hp : p.Prime) (hp2 : p ≠ 2) : SqrtSpec NT.squareRootModPrime p := by
  haveI := Fact.mk hp
  have hdvd : ∀ a y : Int, (y * y - a) % (p : Int) = 0 → IsSquare ((a : Int) : ZMod p) := by
    intro a y h
    refine ⟨(y : ZMod p), ?_⟩
    have hd : (p : Int) ∣ y * y - a := Int.dvd_of_emod_eq_zero h
    have := (ZMod.intCast_zmod_eq_zero_iff_dvd (y * y - a) p).mpr hd
    push_cast at this
    exact (sub_eq_zero.mp this).symm
  constructor
  · intro a β h0 h1 hs
    obtain ⟨hsq, hnsq⟩ := C15.sqrt_spec p hp hp2 a h0 h1
    by_cases hq : IsSquare ((a : Int) : ZMod p)
    · obtain ⟨r, hr, r0, r1, r2⟩ := hsq hq
      rw [hr] at hs
      injection hs with hs; subst hs
      refine ⟨r0, r1, ?_⟩
      exact Int.emod_eq_zero_of_dvd (Int.ModEq.dvd (show a ≡ r * r [ZMOD (p : Int)] from r2.symm))
    · rw [hnsq hq] at hs; cases hs
  · intro a e h0 h1 hs
    obtain ⟨hsq, hnsq⟩ := C15.sqrt_spec p hp hp2 a h0 h1
    by_cases hq : IsSquare ((a : Int) : ZMod p)
    · obtain ⟨r, hr, _⟩ := hsq hq
      rw [hr] at hs; cases hs
    · rw [hnsq hq] at hs
      injection hs with hs
      exact ⟨hs.symm, fun y hy => hq (hdvd a y hy)⟩

theorem sqrtSpec_modelExt (p : Nat) (hp : p.Prime) (hp2 : p ≠ 2) : SqrtSpec KeysWire.modelExt.sqrtModP p :=
  sqrtSpec_model p hp hp2

/-- on the curves of the table only the primality of `p` is needed (no `p` of the table is 2) -/
theorem sqrtSpec_table (hprime : ∀ c ∈ Gen.curveTable, c.p.Prime) :
    ∀ c ∈ Gen.curveTable, SqrtSpec KeysWire.modelExt.sqrtModP c.p := by
  intro c hc
  exact sqrtSpec_modelExt c.p (hprime c hc) (by have := (table_sanity c hc).1; omega)

theorem onCurve_eq_containsPoint (r : Gen.CurveRow) (x y : Int) :
    onCurve r x y = Curve.containsPoint (KeysWire.curveFp r) x y := by
  simp only [onCurve, Gen.Keys.contains_point, Curve.containsPoint, pmod, KeysWire.curveFp]
  by_cases h : (y * y - ((x * x + r.a) * x + r.b)).fmod (r.p : ℤ) = 0
  · simp [h]
  · simp [h]

theorem valid_of_mem (r : Gen.CurveRow) [Fact r.p.Prime] (K : Named.Checked r) (hn : r.n.Prime) (X Y : ℤ)
    (hx : 0 ≤ X ∧ X < r.p) (hy : 0 ≤ Y ∧ Y < r.p)
    (hns : (shortW ((r.a : ℤ) : ZMod r.p) ((r.b : ℤ) : ZMod r.p)).toAffine.Nonsingular (X : ZMod r.p) (Y : ZMod r.p))
    (hm : Affine.Point.some _ _ hns ∈ (Named.baseCtx r K).H) :
    onCurve r X Y = true ∧ KeysWire.subgroupOkModel r X.toNat Y.toNat = true := by
  have M := Named.matches_row K hn
  have hc : Jac.OnCurve r.p r.a r.b (KeysWire.curveFp r) := ⟨rfl, rfl, rfl⟩
  constructor
  · rw [onCurve_eq_containsPoint]; exact Jac.containsPoint_of hc hns
  · have hP := pjRep_of_coords (Named.baseCtx r K).n2t (KeysWire.curveFp r) hc X Y hx hy hns hm (some (r.n : ℤ)) false
    obtain ⟨R, hR, hrep⟩ := GroupInterface.mul M.hp2 (Named.baseCtx r K) hP (Or.inl rfl) (r.n : ℤ)
    have h0 : (r.n : ℤ) • Affine.Point.some _ _ hns = 0 := (Named.baseCtx r K).order_annihilates hm
    rw [h0] at hrep
    have hinf := (GroupInterface.eq_infinity_iff (Named.baseCtx r K) hrep).mpr rfl
    unfold KeysWire.subgroupOkModel
    rw [Int.toNat_of_nonneg hx.1, Int.toNat_of_nonneg hy.1, hR]
    exact hinf

theorem pubPoint_denotes (r : Gen.CurveRow) (hr : r ∈ Gen.curveTable) [Fact r.p.Prime] (hn : r.n.Prime) (d : Nat)
    (h1 : 1 ≤ d) (h2 : d < r.n) :
    ∃ X Y : ℤ, KeysWire.pubPointModel r d = some (X, Y) ∧ (0 ≤ X ∧ X < r.p) ∧ (0 ≤ Y ∧ Y < r.p) ∧
      ∃ hns : (shortW ((r.a : ℤ) : ZMod r.p) ((r.b : ℤ) : ZMod r.p)).toAffine.Nonsingular (X : ZMod r.p) (Y : ZMod r.p),
        (d : ℤ) • (Named.baseCtx r (Named.checked_of_mem hr)).G = Affine.Point.some _ _ hns := by
  have K := Named.checked_of_mem hr
  have M := Named.matches_row K hn
  have hG : PJRep r.p r.a r.b (Named.baseCtx r K).H ⟨KeysWire.curveFp r, r.gx, r.gy, 1, some r.n, true⟩
      (Named.baseCtx r K).G := M.genRep
  obtain ⟨R, hR, hrep⟩ := GroupInterface.mul M.hp2 (Named.baseCtx r K) hG (Or.inl rfl) (d : ℤ)
  have hG0 : (Named.baseCtx r K).G ≠ 0 := by
    rcases result_cases (R := .jac ⟨KeysWire.curveFp r, r.gx, r.gy, 1, some r.n, true⟩) hG with
      ⟨h, _⟩ | ⟨_, _, _, h⟩ | ⟨_, h, _⟩
    · cases h
    · exact h
    · cases h
  have hnG : r.n • (Named.baseCtx r K).G = 0 := by
    have := (Named.baseCtx r K).hn
    rwa [show (Named.baseCtx r K).n = (r.n : ℤ) from rfl, natCast_zsmul] at this
  haveI := Fact.mk hn
  have hord : addOrderOf (Named.baseCtx r K).G = r.n := addOrderOf_eq_prime hnG hG0
  have hne : (d : ℤ) • (Named.baseCtx r K).G ≠ 0 := by
    rw [natCast_zsmul]
    intro h0
    have := addOrderOf_dvd_of_nsmul_eq_zero h0
    rw [hord] at this
    have := Nat.le_of_dvd (by omega) this
    omega
  unfold KeysWire.pubPointModel
  rw [hR]
  rcases result_cases hrep with ⟨_, h0⟩ | ⟨J, hJ, hJrep, _⟩ | ⟨A, hA, hArep, _⟩
  · exact absurd h0 hne
  · subst hJ
    obtain ⟨S, hS, hSrep, hz, _⟩ := GroupInterface.scale hJrep
    obtain ⟨x, y, ex, ey, x0, x1, y0, y1, hns, hg⟩ := GroupInterface.xy hSrep
    have exS : pjX S = .ok S.x := by unfold pjX; rw [if_pos hz]
    have eyS : pjY S = .ok S.y := by unfold pjY; rw [if_pos hz]
    rw [exS] at ex; rw [eyS] at ey
    injection ex with ex; injection ey with ey
    subst ex ey
    simp only [hS]
    exact ⟨S.x, S.y, rfl, ⟨x0, x1⟩, ⟨y0, y1⟩, hns, hg⟩
  · subst hA
    obtain ⟨_, hx, hy, _, hns, hg⟩ := hArep
    exact ⟨A.x, A.y, rfl, hx, hy, hns, hg.symm⟩

theorem pubKey_model (r : Gen.CurveRow) (hr : r ∈ Gen.curveTable) [Fact r.p.Prime] (hn : r.n.Prime) (d : Nat)
    (h1 : 1 ≤ d) (h2 : d < r.n) :
    ∃ x y : Nat, KeysWire.pubPointModel r d = some ((x : Int), (y : Int)) ∧ ValidPoint KeysWire.modelExt r x y := by
  obtain ⟨X, Y, hp, hx, hy, hns, hg⟩ := pubPoint_denotes r hr hn d h1 h2
  have hm : Affine.Point.some _ _ hns ∈ (Named.baseCtx r (Named.checked_of_mem hr)).H := by
    rw [← hg]; exact (Named.baseCtx r (Named.checked_of_mem hr)).smul_mem d
  obtain ⟨v1, v2⟩ := valid_of_mem r (Named.checked_of_mem hr) hn X Y hx hy hns hm
  refine ⟨X.toNat, Y.toNat, by rw [hp, Int.toNat_of_nonneg hx.1, Int.toNat_of_nonneg hy.1], by omega, by omega, ?_,
    fun _ => v2⟩
  rw [Int.toNat_of_nonneg hx.1, Int.toNat_of_nonneg hy.1]; exact v1

theorem pubSpec_model (r : Gen.CurveRow) (hr : r ∈ Gen.curveTable) [Fact r.p.Prime] (hn : r.n.Prime) :
    PubSpec KeysWire.modelExt r := by
  intro d h1 h2
  obtain ⟨x, y, hp, hv⟩ := pubKey_model r hr hn d h1 h2
  exact ⟨x, y, hp, hv.1, hv.2.1⟩

/-- `(x, y)` is a point of ⟨G⟩ on the curve of row `r` -/
def InSubgroup (r : Gen.CurveRow) [Fact r.p.Prime] (K : Named.Checked r) (x y : Nat) : Prop :=
  ∃ hns : (shortW ((r.a : ℤ) : ZMod r.p) ((r.b : ℤ) : ZMod r.p)).toAffine.Nonsingular ((x : ℤ) : ZMod r.p) ((y : ℤ) : ZMod r.p),
    Affine.Point.some _ _ hns ∈ AddSubgroup.zmultiples (Named.Gpt r K)

/-- completeness on all 17 curves, cofactor 4 included -/
theorem validPoint_of_inSubgroup (r : Gen.CurveRow) [Fact r.p.Prime] (K : Named.Checked r) (hn : r.n.Prime) (x y : Nat)
    (hx : x < r.p) (hy : y < r.p) (h : InSubgroup r K x y) : ValidPoint KeysWire.modelExt r x y := by
  obtain ⟨hns, hm⟩ := h
  obtain ⟨v1, v2⟩ := valid_of_mem r K hn (x : ℤ) (y : ℤ) ⟨by omega, by omega⟩ ⟨by omega, by omega⟩ hns hm
  simp only [Int.toNat_natCast] at v2
  exact ⟨hx, hy, v1, fun _ => v2⟩

/-- soundness for cofactor 1 under #E(𝔽_p) = n -/
theorem inSubgroup_of_validPoint (r : Gen.CurveRow) [Fact r.p.Prime] (K : Named.Checked r) (hn : r.n.Prime)
    (hcard : Nat.card (Grp ((r.a : ℤ) : ZMod r.p) ((r.b : ℤ) : ZMod r.p)) = r.n) (x y : Nat)
    (h : ValidPoint KeysWire.modelExt r x y) : InSubgroup r K x y := by
  obtain ⟨hx, hy, hc, _⟩ := h
  have M := Named.matchesRec_row K hn hcard
  rw [onCurve_eq_containsPoint] at hc
  exact M.allInH (x : ℤ) (y : ℤ) (by omega) (by exact_mod_cast hx) (by omega) (by exact_mod_cast hy) hc

end KeysP
