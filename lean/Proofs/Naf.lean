import Model.Curve
import Mathlib.Algebra.Group.Basic
import Mathlib.Algebra.Module.Basic
import Mathlib.Tactic.Ring
import Mathlib.Tactic.Abel
import Mathlib.Tactic.Module
import Mathlib.Tactic.Linarith
import Mathlib.Tactic.LinearCombination
import Mathlib.Tactic.Positivity

/-!
# Proofs.Naf — signed-digit recodings of `ellipticcurve.py` and the double-and-add invariants

Everything is for EVERY integer (no bounds) unless a hypothesis says otherwise.  What a loop computes is proved on group
elements and lifted to the concrete state by `foldl_rel`.
-/

namespace Naf

/-- little-endian -/
def nafVal : List ℤ → ℤ
  | [] => 0
  | d :: ds => d + 2 * nafVal ds

@[simp] theorem nafVal_nil : nafVal [] = 0 := rfl
@[simp] theorem nafVal_cons (d : ℤ) (ds : List ℤ) : nafVal (d :: ds) = d + 2 * nafVal ds := rfl

theorem nafVal_eq_foldr (ds : List ℤ) : nafVal ds = ds.foldr (fun d acc => d + 2 * acc) 0 := by
  induction ds with
  | nil => rfl
  | cons d ds ih => simp [ih]

theorem nafVal_append (l₁ l₂ : List ℤ) :
    nafVal (l₁ ++ l₂) = nafVal l₁ + 2 ^ l₁.length * nafVal l₂ := by
  induction l₁ with
  | nil => simp
  | cons d ds ih => simp only [List.cons_append, nafVal_cons, ih, List.length_cons, pow_succ]; ring

theorem nafVal_replicate_zero (n : ℕ) : nafVal (List.replicate n 0) = 0 := by
  induction n with
  | zero => rfl
  | succ n ih => simp [List.replicate_succ, ih]

theorem nafVal_append_zeros (l : List ℤ) (n : ℕ) : nafVal (l ++ List.replicate n 0) = nafVal l := by
  rw [nafVal_append, nafVal_replicate_zero]; ring

/-! ### `_naf` -/

theorem nafStep_spec (m : ℤ) :
    (Curve.nafStep m).1 + 2 * (Curve.nafStep m).2 = m ∧
    ((Curve.nafStep m).1 = -1 ∨ (Curve.nafStep m).1 = 0 ∨ (Curve.nafStep m).1 = 1) ∧
    ((Curve.nafStep m).1 ≠ 0 → (Curve.nafStep m).2 % 2 = 0) := by
  unfold Curve.nafStep pmod pdiv
  simp only [Curve.fmod2, Curve.fmod4, Curve.fdiv2]
  split_ifs <;> (refine ⟨?_, ?_, ?_⟩ <;> omega)

theorem nafStep_fst_of_even (m : ℤ) (h : m % 2 = 0) : (Curve.nafStep m).1 = 0 := by
  have := nafStep_spec m
  omega

theorem naf_zero : Curve.naf 0 = [] := by rw [Curve.naf]; simp

theorem naf_of_ne_zero {k : ℤ} (h : k ≠ 0) :
    Curve.naf k = (Curve.nafStep k).1 :: Curve.naf (Curve.nafStep k).2 := by
  rw [Curve.naf]; simp [h]

theorem naf_sum (k : ℤ) : nafVal (Curve.naf k) = k := by
  fun_induction Curve.naf k with
  | case1 => rfl
  | case2 m hm ih => rw [nafVal_cons, ih]; exact (nafStep_spec m).1

theorem naf_sum_foldr (k : ℤ) : (Curve.naf k).foldr (fun d acc => d + 2 * acc) 0 = k := by
  rw [← nafVal_eq_foldr, naf_sum]

example : nafVal (Curve.naf (-7)) = -7 := naf_sum _
example : Curve.naf (-7) = [1, 0, 0, -1] := by simp [Curve.naf, Curve.nafStep, pmod, pdiv]
example : Curve.naf 0 = [] := naf_zero

theorem naf_digits (k : ℤ) : ∀ d ∈ Curve.naf k, d = -1 ∨ d = 0 ∨ d = 1 := by
  fun_induction Curve.naf k with
  | case1 => simp
  | case2 m hm ih =>
    intro d hd
    rcases List.mem_cons.1 hd with rfl | hd
    · exact (nafStep_spec m).2.1
    · exact ih d hd

example : ∀ d ∈ Curve.naf 1234567, d = -1 ∨ d = 0 ∨ d = 1 := naf_digits _

theorem naf_nonadjacent (k : ℤ) : List.IsChain (fun d e => d = 0 ∨ e = 0) (Curve.naf k) := by
  fun_induction Curve.naf k with
  | case1 => exact List.isChain_nil
  | case2 m hm ih =>
    by_cases h2 : (Curve.nafStep m).2 = 0
    · rw [h2, naf_zero]; exact List.isChain_singleton _
    · rw [naf_of_ne_zero h2] at ih ⊢
      refine List.isChain_cons_cons.2 ⟨?_, ih⟩
      by_cases h1 : (Curve.nafStep m).1 = 0
      · exact Or.inl h1
      · exact Or.inr (nafStep_fst_of_even _ ((nafStep_spec m).2.2 h1))

example : List.IsChain (fun d e => d = 0 ∨ e = 0) (Curve.naf (-1000003)) := naf_nonadjacent _

theorem naf_getLast_ne_zero (k : ℤ) : ∀ d ∈ (Curve.naf k).getLast?, d ≠ 0 := by
  fun_induction Curve.naf k with
  | case1 => simp
  | case2 m hm ih =>
    by_cases h2 : (Curve.nafStep m).2 = 0
    · rw [h2, naf_zero]
      have := (nafStep_spec m).1
      simp only [List.getLast?_singleton, Option.mem_def, Option.some.injEq, forall_eq']
      omega
    · rw [naf_of_ne_zero h2] at ih ⊢
      rwa [List.getLast?_cons_cons]

/-! ### left-to-right double-and-add (`__mul__`) -/

section Group
variable {G : Type*} [AddCommGroup G]

/-- one iteration of `for i in reversed(self._naf(other))` on group elements -/
def step (g : G) (acc : G) (d : ℤ) : G :=
  (acc + acc) + (if d < 0 then -g else if d > 0 then g else 0)

theorem digit_smul (g : G) (d : ℤ) (hd : d = -1 ∨ d = 0 ∨ d = 1) :
    (if d < 0 then -g else if d > 0 then g else 0) = d • g := by
  rcases hd with rfl | rfl | rfl <;> simp

/-- `R s h`: the concrete state `s` represents the group element `h` -/
theorem foldl_rel {S α : Type*} (R : S → G → Prop) (f : S → α → S) (F : G → α → G) (P : α → Prop)
    (hf : ∀ s h x, P x → R s h → R (f s x) (F h x)) (l : List α) (hl : ∀ x ∈ l, P x) {s : S} {h : G}
    (hs : R s h) : R (l.foldl f s) (l.foldl F h) := by
  induction l generalizing s h with
  | nil => exact hs
  | cons x l ih =>
    exact ih (fun y hy => hl y (List.mem_cons_of_mem _ hy)) (hf s h x (hl x List.mem_cons_self) hs)

theorem evalNaf_eq (g : G) (ds : List ℤ) (hd : ∀ d ∈ ds, d = -1 ∨ d = 0 ∨ d = 1) :
    ds.reverse.foldl (step g) 0 = nafVal ds • g := by
  induction ds with
  | nil => simp
  | cons d ds ih =>
    rw [List.reverse_cons, List.foldl_append, List.foldl_cons, List.foldl_nil,
      ih (fun x hx => hd x (List.mem_cons_of_mem _ hx)), step, digit_smul g d (hd d List.mem_cons_self), nafVal_cons]
    module

theorem evalNaf_naf (g : G) (k : ℤ) : (Curve.naf k).reverse.foldl (step g) 0 = k • g := by
  rw [evalNaf_eq g _ (naf_digits k), naf_sum]

theorem evalNaf_naf_rel {S : Type*} (R : S → G → Prop) (f : S → ℤ → S) (g : G) (s0 : S)
    (hf : ∀ s h d, R s h → (d = -1 ∨ d = 0 ∨ d = 1) →
      R (f s d) ((h + h) + (if d < 0 then -g else if d > 0 then g else 0)))
    (h0 : R s0 0) (k : ℤ) : R ((Curve.naf k).reverse.foldl f s0) (k • g) := by
  rw [← evalNaf_naf g k]
  exact foldl_rel R f (step g) _ (fun s h d hd hs => hf s h d hs hd) _
    (fun d hd => naf_digits k d (List.mem_reverse.mp hd)) h0

example : (Curve.naf (-7)).reverse.foldl (step (5 : ℤ)) 0 = (-7 : ℤ) • (5 : ℤ) := evalNaf_naf _ _
example : [1, 0, 0, -1].reverse.foldl (step (5 : ℤ)) 0 = -35 := by decide

/-! ### the two-scalar loop of `mul_add` -/

theorem padNafs_spec (sa sb : List ℤ) :
    let r := Curve.padNafs sa.reverse sb.reverse
    r.1.length = r.2.length ∧ nafVal r.1.reverse = nafVal sa ∧ nafVal r.2.reverse = nafVal sb ∧
    ((∀ d ∈ sa, d = -1 ∨ d = 0 ∨ d = 1) → ∀ d ∈ r.1, d = -1 ∨ d = 0 ∨ d = 1) ∧
    ((∀ d ∈ sb, d = -1 ∨ d = 0 ∨ d = 1) → ∀ d ∈ r.2, d = -1 ∨ d = 0 ∨ d = 1) := by
  have hz : ∀ (l : List ℤ) (n : ℕ), (∀ d ∈ l, d = -1 ∨ d = 0 ∨ d = 1) →
      ∀ d ∈ List.replicate n 0 ++ l.reverse, d = -1 ∨ d = 0 ∨ d = 1 := by
    intro l n hl d hd
    rcases List.mem_append.1 hd with h | h
    · exact Or.inr (Or.inl (List.eq_of_mem_replicate h))
    · exact hl d (List.mem_reverse.1 h)
  have hr : ∀ (l : List ℤ), (∀ d ∈ l, d = -1 ∨ d = 0 ∨ d = 1) →
      ∀ d ∈ l.reverse, d = -1 ∨ d = 0 ∨ d = 1 := fun l hl d hd => hl d (List.mem_reverse.1 hd)
  unfold Curve.padNafs
  simp only [List.length_reverse]
  split_ifs with h1 h2
  · refine ⟨?_, ?_, ?_, hz sa _, hr sb⟩
    · simp only [List.length_append, List.length_replicate, List.length_reverse]; omega
    · simp [nafVal_append_zeros]
    · simp
  · refine ⟨?_, ?_, ?_, hr sa, hz sb _⟩
    · simp only [List.length_append, List.length_replicate, List.length_reverse]; omega
    · simp
    · simp [nafVal_append_zeros]
  · refine ⟨?_, ?_, ?_, hr sa, hr sb⟩
    · simp only [List.length_reverse]; omega
    · simp
    · simp

example : Curve.padNafs [1, 0, -1] [1] = ([1, 0, -1], [0, 0, 1]) := by decide

/-- the two-scalar step on group elements -/
def step2 (gP gQ : G) (acc : G) (AB : ℤ × ℤ) : G := (acc + acc) + (AB.1 • gP + AB.2 • gQ)

/-- Shamir's trick as in `mul_add`; digit strings most significant first -/
theorem fold2_eq (gP gQ : G) (la lb : List ℤ) (hlen : la.length = lb.length) (h : G) :
    (la.zip lb).foldl (step2 gP gQ) h =
      (2 : ℤ) ^ la.length • h + (nafVal la.reverse • gP + nafVal lb.reverse • gQ) := by
  induction la generalizing lb h with
  | nil =>
    cases lb with
    | nil => simp
    | cons b lb => simp at hlen
  | cons a la ih =>
    cases lb with
    | nil => simp at hlen
    | cons b lb =>
      have hlen' : la.length = lb.length := by simpa using hlen
      rw [List.zip_cons_cons, List.foldl_cons, ih lb hlen', step2]
      simp only [List.reverse_cons, nafVal_append, List.length_reverse, List.length_cons, nafVal_cons,
        nafVal_nil, ← hlen']
      module

theorem mulAdd_eq (gP gQ : G) (a b : ℤ) :
    let nafs := Curve.padNafs (Curve.naf a).reverse (Curve.naf b).reverse
    (nafs.1.zip nafs.2).foldl (step2 gP gQ) 0 = a • gP + b • gQ := by
  obtain ⟨hlen, hva, hvb, -⟩ := padNafs_spec (Curve.naf a) (Curve.naf b)
  dsimp only at hlen hva hvb ⊢
  rw [fold2_eq gP gQ _ _ hlen, hva, hvb, naf_sum, naf_sum, smul_zero, zero_add]

theorem mulAdd_rel {S : Type*} (R : S → G → Prop) (f : S → ℤ × ℤ → S) (gP gQ : G)
    (hf : ∀ s h A B, R s h → (A = -1 ∨ A = 0 ∨ A = 1) → (B = -1 ∨ B = 0 ∨ B = 1) →
      R (f s (A, B)) ((h + h) + (A • gP + B • gQ)))
    (s0 : S) (h0 : R s0 0) (a b : ℤ) :
    let nafs := Curve.padNafs (Curve.naf a).reverse (Curve.naf b).reverse
    R ((nafs.1.zip nafs.2).foldl f s0) (a • gP + b • gQ) := by
  obtain ⟨-, -, -, hda, hdb⟩ := padNafs_spec (Curve.naf a) (Curve.naf b)
  dsimp only at hda hdb ⊢
  rw [← mulAdd_eq gP gQ a b]
  exact foldl_rel R f (step2 gP gQ) (fun AB => (AB.1 = -1 ∨ AB.1 = 0 ∨ AB.1 = 1) ∧ (AB.2 = -1 ∨ AB.2 = 0 ∨ AB.2 = 1))
    (fun s h AB hAB hs => hf s h AB.1 AB.2 hs hAB.1 hAB.2) _
    (fun AB hAB => ⟨hda (naf_digits a) _ (List.of_mem_zip hAB).1, hdb (naf_digits b) _ (List.of_mem_zip hAB).2⟩) h0

example :
    let nafs := Curve.padNafs (Curve.naf 11).reverse (Curve.naf (-3)).reverse
    (nafs.1.zip nafs.2).foldl (step2 (7 : ℤ) (100 : ℤ)) 0 = (11 : ℤ) • (7 : ℤ) + (-3 : ℤ) • (100 : ℤ) :=
  mulAdd_eq _ _ _ _

end Group

/-! ### the recoding of `_mul_precompute` (right-to-left, with the table `2^i • g`) -/

/-- integer part of one iteration of `for X2, Y2 in self.__precompute`: (signed digit, new value of `other`) -/
def recStep (other : ℤ) : ℤ × ℤ :=
  if pmod other 2 ≠ 0 then
    if pmod other 4 ≥ 2 then (-1, pdiv (other + 1) 2)
    else (1, pdiv (other - 1) 2)
  else (0, pdiv other 2)

theorem mulPrecomputeStep_fst (p a : ℤ) (st : ℤ × ℤ × ℤ × ℤ) (e : ℤ × ℤ) :
    (Curve.mulPrecomputeStep p a st e).1 = (recStep st.1).2 := by
  unfold Curve.mulPrecomputeStep recStep
  dsimp only
  split_ifs <;> rfl

theorem mulPrecomputeStep_snd (p a : ℤ) (st : ℤ × ℤ × ℤ × ℤ) (e : ℤ × ℤ) :
    (Curve.mulPrecomputeStep p a st e).2 =
      if (recStep st.1).1 = -1 then Gen.k_add st.2.1 st.2.2.1 st.2.2.2 e.1 (-e.2) 1 p a
      else if (recStep st.1).1 = 1 then Gen.k_add st.2.1 st.2.2.1 st.2.2.2 e.1 e.2 1 p a
      else st.2 := by
  unfold Curve.mulPrecomputeStep recStep
  dsimp only
  by_cases h1 : pmod st.1 2 ≠ 0 <;> by_cases h2 : pmod st.1 4 ≥ 2 <;> simp [h1, h2]

example : (Curve.mulPrecomputeStep 23 1 (7, 0, 0, 1) (3, 10)).1 = (recStep 7).2 :=
  mulPrecomputeStep_fst _ _ _ _

theorem recStep_eq_nafStep (m : ℤ) : recStep m = Curve.nafStep m := by
  unfold recStep Curve.nafStep pmod pdiv
  simp only [Curve.fmod2, Curve.fmod4, Curve.fdiv2]
  split_ifs <;> simp only [Prod.mk.injEq] <;> omega

theorem recStep_spec (m : ℤ) :
    (recStep m).1 + 2 * (recStep m).2 = m ∧
    ((recStep m).1 = -1 ∨ (recStep m).1 = 0 ∨ (recStep m).1 = 1) ∧
    (0 ≤ m → 0 ≤ (recStep m).2 ∧ 2 * (recStep m).2 ≤ m + 1) := by
  rw [recStep_eq_nafStep]
  have := nafStep_spec m
  omega

theorem recStep_zero : recStep 0 = (0, 0) := by decide
theorem recStep_one : recStep 1 = (1, 0) := by decide

/-- value of `other` after `j` iterations -/
def recRem : ℕ → ℤ → ℤ
  | 0, k => k
  | j + 1, k => recRem j (recStep k).2

/-- the signed digits produced by the first `j` iterations (least significant first) -/
def recDigits : ℕ → ℤ → List ℤ
  | 0, _ => []
  | j + 1, k => (recStep k).1 :: recDigits j (recStep k).2

@[simp] theorem recDigits_length (j : ℕ) (k : ℤ) : (recDigits j k).length = j := by
  induction j generalizing k with
  | zero => rfl
  | succ j ih => simp [recDigits, ih]

theorem recRem_succ' (j : ℕ) (k : ℤ) : recRem (j + 1) k = (recStep (recRem j k)).2 := by
  induction j generalizing k with
  | zero => rfl
  | succ j ih => exact ih _

theorem recDigits_digits (j : ℕ) (k : ℤ) : ∀ d ∈ recDigits j k, d = -1 ∨ d = 0 ∨ d = 1 := by
  induction j generalizing k with
  | zero => simp [recDigits]
  | succ j ih =>
    intro d hd
    rcases List.mem_cons.1 hd with rfl | hd
    · exact (recStep_spec k).2.1
    · exact ih _ d hd

theorem rec_value (j : ℕ) (k : ℤ) : k = nafVal (recDigits j k) + 2 ^ j * recRem j k := by
  induction j generalizing k with
  | zero => simp [recDigits, recRem]
  | succ j ih =>
    have h1 := (recStep_spec k).1
    have h2 := ih (recStep k).2
    simp only [recDigits, recRem, nafVal_cons, pow_succ]
    linear_combination (-1 : ℤ) * h1 + 2 * h2

theorem recRem_bounds (j : ℕ) (k : ℤ) (h0 : 0 ≤ k) : 0 ≤ recRem j k ∧ recRem j k ≤ k / 2 ^ j + 1 := by
  induction j with
  | zero => simp [recRem, h0]
  | succ j ih =>
    rw [recRem_succ']
    have h := (recStep_spec (recRem j k)).2.2 ih.1
    have hdiv : k / 2 ^ (j + 1) = k / 2 ^ j / 2 := by
      rw [pow_succ, Int.ediv_ediv_of_nonneg (by positivity)]
    rw [hdiv]
    omega

example : (13 : ℤ) = nafVal (recDigits 2 13) + 2 ^ 2 * recRem 2 13 := rec_value 2 13
example : recRem 2 13 ≤ 13 / 2 ^ 2 + 1 := (recRem_bounds 2 13 (by decide)).2

/-- `L = m + 1` is tight for `k < 2^m`: `k = 3`, `m = 2` needs 3 iterations.  Downstream there is room to spare: the
table has `L = m + 1` entries with `2^m ≥ 4·o`, while `0 ≤ k < 2·o`, so even `k < 2^(m-1)`. -/
theorem recDigits_sum (k : ℤ) (L : ℕ) (h0 : 0 ≤ k) (hk : k < 2 ^ (L - 1)) (hL : 1 ≤ L) :
    nafVal (recDigits L k) = k ∧ recRem L k = 0 := by
  obtain ⟨j, rfl⟩ : ∃ j, L = j + 1 := ⟨L - 1, by omega⟩
  simp only [Nat.add_sub_cancel] at hk
  have hrem : recRem (j + 1) k = 0 := by
    obtain ⟨hlo, hhi⟩ := recRem_bounds j k h0
    rw [Int.ediv_eq_zero_of_lt h0 hk] at hhi
    rw [recRem_succ']
    have h01 : recRem j k = 0 ∨ recRem j k = 1 := by omega
    rcases h01 with h | h <;> rw [h]
    · rw [recStep_zero]
    · rw [recStep_one]
  have := rec_value (j + 1) k
  rw [hrem] at this
  exact ⟨by linarith, hrem⟩

example : nafVal (recDigits 3 3) = 3 ∧ recRem 3 3 = 0 := recDigits_sum 3 3 (by decide) (by decide) (by decide)
example : recDigits 3 3 = [-1, 0, 1] := by decide
example : recRem 2 3 = 1 := by decide   -- `L = m + 1` is tight

theorem recDigits_sum_table (o k : ℤ) (m L : ℕ) (hm : 4 * o ≤ 2 ^ m) (h0 : 0 ≤ k) (hk : k < 2 * o)
    (hL : m + 1 ≤ L) : nafVal (recDigits L k) = k ∧ recRem L k = 0 := by
  have hpow : (2 : ℤ) ^ m ≤ 2 ^ (L - 1) := pow_le_pow_right₀ (by norm_num) (by omega)
  exact recDigits_sum k L h0 (by omega) (by omega)

example : nafVal (recDigits 6 9) = 9 ∧ recRem 6 9 = 0 :=
  recDigits_sum_table 5 9 5 6 (by decide) (by decide) (by decide) (by decide)

section Group
variable {G : Type*} [AddCommGroup G]

section
variable {S E : Type*} (R : S → G → Prop) (T : E → G → Prop) (f : ℤ × S → E → ℤ × S) (g : G)
  (hf1 : ∀ st e, (f st e).1 = (recStep st.1).2)
  (hf2 : ∀ st e h t, R st.2 h → T e t → R (f st e).2 (h + (recStep st.1).1 • t))
include hf1 hf2

/-- `R s h`: the accumulator `s` represents `h`; `T e t`: the table entry `e` represents `t`; entries from position `i` on -/
theorem recFold_rel_from (table : List E) (i : ℕ)
    (hT : ∀ j (hj : j < table.length), T table[j] ((2 : ℤ) ^ (i + j) • g))
    (k : ℤ) (s : S) (h : G) (hs : R s h) :
    (table.foldl f (k, s)).1 = recRem table.length k ∧
    R (table.foldl f (k, s)).2 (h + ((2 : ℤ) ^ i * nafVal (recDigits table.length k)) • g) := by
  induction table generalizing i k s h with
  | nil => simpa [recRem, recDigits] using hs
  | cons e table ih =>
    have hT0 : T e ((2 : ℤ) ^ i • g) := hT 0 (by simp)
    have hT' : ∀ j (hj : j < table.length), T table[j] ((2 : ℤ) ^ (i + 1 + j) • g) := by
      intro j hj
      have := hT (j + 1) (by simp; omega)
      rw [show i + (j + 1) = i + 1 + j by omega] at this
      exact this
    have h1 := hf1 (k, s) e
    have h2 := hf2 (k, s) e h _ hs hT0
    have := ih (i + 1) hT' (recStep k).2 (f (k, s) e).2 _ h2
    rw [List.foldl_cons, ← Prod.mk.eta (p := f (k, s) e), h1]
    simp only [List.length_cons, recRem, recDigits, nafVal_cons]
    refine ⟨this.1, ?_⟩
    convert this.2 using 1
    simp only [pow_succ]
    module

/-- the state of the loop of `_mul_precompute` is `(other, accumulator)` -/
theorem mulPrecompute_rel (table : List E) (hT : ∀ j (hj : j < table.length), T table[j] ((2 : ℤ) ^ j • g))
    (k : ℤ) (s0 : S) (hs : R s0 0)
    (h0 : 0 ≤ k) (hk : k < 2 ^ (table.length - 1)) (hL : 1 ≤ table.length) :
    (table.foldl f (k, s0)).1 = 0 ∧ R (table.foldl f (k, s0)).2 (k • g) := by
  obtain ⟨h1, h2⟩ := recFold_rel_from R T f g hf1 hf2 table 0 (by simpa using hT) k s0 0 hs
  obtain ⟨hs, hr⟩ := recDigits_sum k table.length h0 hk hL
  rw [hs, pow_zero, one_mul, zero_add] at h2
  rw [hr] at h1
  exact ⟨h1, h2⟩

end

/-- the table loop on group elements -/
def stepT (st : ℤ × G) (t : G) : ℤ × G := ((recStep st.1).2, st.2 + (recStep st.1).1 • t)

example : ([1, 2, 4, 8, 16].foldl stepT ((11 : ℤ), (0 : ℤ))) = (0, (11 : ℤ) • (1 : ℤ)) := by
  have := mulPrecompute_rel (G := ℤ) (fun s h => s = h) (fun e t => e = t) stepT 1
    (fun _ _ => rfl) (fun st e h t hs ht => by subst hs; subst ht; rfl) [1, 2, 4, 8, 16]
    (by decide) 11 0 rfl (by decide) (by decide) (by decide)
  exact Prod.ext this.1 this.2

end Group

/-! ### `leftmost_bit` -/

theorem leftmostLoop_spec (x result : ℕ) (h : 0 < result)
    (hr : ∃ i, result = 2 ^ (i + 1) ∧ 2 ^ i ≤ x) :
    ∃ j, Curve.leftmostLoop x result h = 2 ^ j ∧ 2 ^ j ≤ x ∧ x < 2 ^ (j + 1) := by
  fun_induction Curve.leftmostLoop x result h with
  | case1 result h h2 ih =>
    obtain ⟨i, rfl, hi⟩ := hr
    exact ih ⟨i + 1, by rw [pow_succ 2 (i + 1)]; omega, h2⟩
  | case2 result h h2 =>
    obtain ⟨i, rfl, hi⟩ := hr
    refine ⟨i, ?_, hi, by omega⟩
    rw [pow_succ]; omega

theorem leftmostBit_spec (x : ℕ) (hx : 0 < x) :
    ∃ j, Curve.leftmostBit x = 2 ^ j ∧ 2 ^ j ≤ x ∧ x < 2 ^ (j + 1) := by
  unfold Curve.leftmostBit
  rw [Curve.leftmostLoop]
  simp only [show (1 : ℕ) ≤ x from hx, dite_true]
  exact leftmostLoop_spec x (2 * 1) (by decide) ⟨0, rfl, hx⟩

theorem leftmostBit_eq (x : ℕ) (hx : 0 < x) : Curve.leftmostBit x = 2 ^ Nat.log2 x := by
  obtain ⟨j, hj, h1, h2⟩ := leftmostBit_spec x hx
  rw [hj, (Nat.log2_eq_iff (by omega)).2 ⟨h1, h2⟩]

example : ∃ j, Curve.leftmostBit 21 = 2 ^ j ∧ 2 ^ j ≤ 21 ∧ 21 < 2 ^ (j + 1) := leftmostBit_spec 21 (by decide)
example : Curve.leftmostBit 21 = 16 := by rw [leftmostBit_eq 21 (by decide)]; decide

end Naf
