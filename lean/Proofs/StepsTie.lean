import Model.Curve
import Generated.Steps
/-!
# Proofs.StepsTie — the step functions of the hand-written folds ARE the generated loop bodies

`Generated/Steps.lean` is rewritten from `ellipticcurve.py` on every run (loop bodies of `_naf`, `_mul_precompute`,
`__mul__`, `mul_add`; `contains_point`; the arithmetic of `__eq__`, `scale`, `x`, `y`).  The equalities below make every
theorem about these model functions a theorem about the current source text: a change in a body breaks its equality.
The generated bodies test `decide p` where the model tests `p`, and name the components of a kernel's result where the
model passes the triple on: after unfolding, `decide p = true` becomes `p` and the sides agree up to pair eta.
Core Lean only.
-/
namespace StepsTie
open Curve

theorem nafStep_tie (m : Int) : nafStep m = Gen.s_naf_step m := by
  simp only [nafStep, Gen.s_naf_step, pmod, pdiv, decide_eq_true_eq]
  -- the generated body branches on the digit correction `nd ≥ 2` outside the pair, the model inside
  by_cases h : Int.fmod m 4 ≥ 2 <;> simp only [h, if_true, if_false]

theorem mulPrecomputeStep_tie (p a : Int) (st : Int × Int × Int × Int) (e : Int × Int) :
    mulPrecomputeStep p a st e =
      Gen.s_mul_precompute_step st.1 st.2.1 st.2.2.1 st.2.2.2 e.1 e.2 p a := by
  simp only [mulPrecomputeStep, Gen.s_mul_precompute_step, pmod, pdiv, decide_eq_true_eq]
  rfl

theorem mulNafStep_tie (p a X2 Y2 : Int) (acc : Int × Int × Int) (i : Int) :
    mulNafStep p a X2 Y2 acc i = Gen.s_mul_step acc.1 acc.2.1 acc.2.2 X2 Y2 i p a := by
  simp only [mulNafStep, Gen.s_mul_step, decide_eq_true_eq]

theorem mulAddStep_tie (p a : Int) (P1 P2 mAmB pAmB mApB pApB acc : Int × Int × Int) (A B : Int) :
    mulAddStep p a P1 P2 mAmB pAmB mApB pApB acc (A, B) =
      Gen.s_mul_add_step acc.1 acc.2.1 acc.2.2 A B P1.1 P1.2.1 P1.2.2 P2.1 P2.2.1 P2.2.2
        mAmB.1 mAmB.2.1 mAmB.2.2 pAmB.1 pAmB.2.1 pAmB.2.2 mApB.1 mApB.2.1 mApB.2.2 pApB.1 pApB.2.1 pApB.2.2
        p a := by
  simp only [mulAddStep, Gen.s_mul_add_step, decide_eq_true_eq]

theorem combos_tie (X1 Y1 Z1 X2 Y2 Z2 p a : Int) :
    Gen.s_mul_add_combos X1 Y1 Z1 X2 Y2 Z2 p a =
      let mAmB := Gen.k_add X1 (-Y1) Z1 X2 (-Y2) Z2 p a
      let pAmB := Gen.k_add X1 Y1 Z1 X2 (-Y2) Z2 p a
      let mApB := Gen.k_add X1 (-Y1) Z1 X2 Y2 Z2 p a
      let pApB := Gen.k_add X1 Y1 Z1 X2 Y2 Z2 p a
      (mAmB.1, mAmB.2.1, mAmB.2.2, pAmB.1, pAmB.2.1, pAmB.2.2, mApB.1, mApB.2.1, mApB.2.2,
        pApB.1, pApB.2.1, pApB.2.2) := rfl

theorem containsPoint_tie (c : CurveFp) (x y : Int) :
    containsPoint c x y = Gen.s_contains_point x y c.p c.a c.b := by
  rfl

theorem coordsEq_tie (p x1 y1 z1 x2 y2 z2 : Int) :
    coordsEq p x1 y1 z1 x2 y2 z2 = Gen.s_eq_coords x1 y1 z1 x2 y2 z2 p := by
  rfl

theorem pjScale_tie (P : PJ) (zi : Int) (hz : P.z ≠ 1) (hi : inverseMod P.z P.curve.p = .ok zi) :
    pjScale P = .ok { P with x := (Gen.s_scale_coords P.x P.y zi P.curve.p).1,
                             y := (Gen.s_scale_coords P.x P.y zi P.curve.p).2, z := 1 } := by
  simp only [pjScale, if_neg hz, hi]
  rfl

theorem pjX_tie (P : PJ) (zi : Int) (hz : P.z ≠ 1) (hi : inverseMod P.z P.curve.p = .ok zi) :
    pjX P = .ok (Gen.s_x_coord P.x zi P.curve.p) := by
  simp only [pjX, if_neg hz, hi]
  rfl

theorem pjY_tie (P : PJ) (zi : Int) (hz : P.z ≠ 1) (hi : inverseMod P.z P.curve.p = .ok zi) :
    pjY P = .ok (Gen.s_y_coord P.y zi P.curve.p) := by
  simp only [pjY, if_neg hz, hi]
  rfl

end StepsTie
