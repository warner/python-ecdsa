import Proofs.UtilTie
/-!
# Proofs.UtilTieFn — the codec functions of `Model/Util.lean` restated WHOLE with the tests / integer expressions that
`gen_der.py` extracts from the current `src/ecdsa/util.py` (`Generated/UtilGuards.lean`), and proved equal to the model
functions themselves, so a transcription error in the model breaks a theorem.  Hand-written on the right-hand sides:
`hexLen` (= `len("%x" % n)`), `beFixed` / the digit count of `"%0{2l}x"` + `unhexlify`, `beVal`, list slicing.
-/
namespace C12.Tie
open Gen.UtilCodec Util

theorem ev_orderlen (order : Nat) : (orderlen_ret0 (hexLen order)).toNat = orderlen order := by
  rw [← orderlen_expr]; rfl
theorem ev_nts_e0 (l : Nat) : (number_to_string_e0 l).toNat = 2 * l := by
  rw [← (number_to_string_guards l 0).1]; rfl
theorem ev_ntsc_e0 (l : Nat) : (number_to_string_crop_e0 l).toNat = 2 * l := by
  rw [← (number_to_string_guards l 0).2.1]; rfl
theorem ev_nts_assert0 (len l : Nat) : number_to_string_assert0 len l = decide (len = l) :=
  (number_to_string_guards l len).2.2.1.symm
theorem ev_stnf_assert0 (len l : Nat) : string_to_number_fixedlen_assert0 len l = decide (len = l) :=
  (number_to_string_guards l len).2.2.2.symm
theorem ev_sds_if0 (len l : Nat) : sigdecode_string_if0 len l = decide (len ≠ 2 * l) := (sigdecode_guards len l).1.symm
theorem ev_sdss_if0 (len : Nat) : sigdecode_strings_if0 len = decide (len ≠ 2) := (sigdecode_guards len 0).2.1.symm
theorem ev_sdss_if1 (len l : Nat) : sigdecode_strings_if1 len l = decide (len ≠ l) := (sigdecode_guards len l).2.2.1.symm
theorem ev_sdss_if2 (len l : Nat) : sigdecode_strings_if2 len l = decide (len ≠ l) := (sigdecode_guards len l).2.2.2.symm

theorem fn_orderlen (order : Nat) : orderlen order = (orderlen_ret0 (hexLen order)).toNat := (ev_orderlen order).symm

theorem fn_numberToString (num order : Nat) :
    numberToString num order =
      (let l := orderlen order
       let digits := max (hexLen num) (number_to_string_e0 l).toNat
       if digits % 2 = 1 then .error .binasciiError
       else if ¬ number_to_string_assert0 (digits / 2 : Nat) l then .error .assertionError
       else .ok (beFixed l num)) := by
  simp only [ev_nts_e0, ev_nts_assert0, decide_eq_true_eq]
  rfl

theorem fn_numberToStringCrop (num order : Nat) :
    numberToStringCrop num order =
      (let l := orderlen order
       let digits := max (hexLen num) (number_to_string_crop_e0 l).toNat
       if digits % 2 = 1 then .error .binasciiError
       else .ok ((beFixed (digits / 2) num).take l)) := by
  simp only [ev_ntsc_e0]
  rfl

theorem fn_stringToNumberFixedlen (s : Bytes) (order : Nat) :
    stringToNumberFixedlen s order =
      if ¬ string_to_number_fixedlen_assert0 s.length (orderlen order) then .error .assertionError
      else if s.isEmpty then .error .valueError
      else .ok (beVal s) := by
  simp only [ev_stnf_assert0, decide_eq_true_eq]
  rfl

theorem fn_sigdecodeString (sig : Bytes) (order : Nat) :
    sigdecodeString sig order =
      (let l := orderlen order
       if sigdecode_string_if0 sig.length l then .error .malformedSignature
       else (stringToNumberFixedlen (sig.take l) order).bind fun r =>
         (stringToNumberFixedlen (sig.drop l) order).bind fun s => .ok (r, s)) := by
  simp only [ev_sds_if0, decide_eq_true_eq]
  rfl

theorem fn_sigdecodeStrings (rs : List Bytes) (order : Nat) :
    sigdecodeStrings rs order =
      if sigdecode_strings_if0 rs.length then .error .malformedSignature
      else match rs with
        | [rStr, sStr] =>
          let l := orderlen order
          if sigdecode_strings_if1 rStr.length l then .error .malformedSignature
          else if sigdecode_strings_if2 sStr.length l then .error .malformedSignature
          else (stringToNumberFixedlen rStr order).bind fun r =>
            (stringToNumberFixedlen sStr order).bind fun s => .ok (r, s)
        | _ => .error .malformedSignature := by
  simp only [ev_sdss_if0, ev_sdss_if1, ev_sdss_if2, decide_eq_true_eq]
  match rs with
  | [] => rfl
  | [_] => rfl
  | [a, b] => simp only [List.length_cons, List.length_nil]; rfl
  | _ :: _ :: _ :: t => simp [sigdecodeStrings]

/-- `sigdecode_der` has no integer test: `remove_sequence`, the `empty != b""` test, two `remove_integer`, the
second `empty != b""` test, in this order (its skeleton is pinned by `Tie.skeleton`) -/
theorem fn_sigdecodeDer (sig : Bytes) (order : Nat) :
    sigdecodeDer sig order =
      (Der.removeSequence sig).bind fun (rsStrings, empty) =>
        if empty ≠ [] then .error .unexpectedDER
        else (Der.removeInteger rsStrings).bind fun (r, rest) =>
          (Der.removeInteger rest).bind fun (s, empty) =>
            if empty ≠ [] then .error .unexpectedDER else .ok (r, s) := rfl

/-- compositions without integer tests -/
theorem fn_sigencode (r s order : Nat) :
    sigencodeStrings r s order
      = ((numberToString r order).bind fun rs => (numberToString s order).bind fun ss => .ok (rs, ss))
    ∧ sigencodeString r s order = ((sigencodeStrings r s order).bind fun (rs, ss) => .ok (rs ++ ss))
    ∧ sigencodeDer r s order = ((Der.encodeIntegerPy r).bind fun a => (Der.encodeIntegerPy s).bind fun b =>
        Der.encodeSequencePy [a, b]) := ⟨rfl, rfl, rfl⟩

end C12.Tie
