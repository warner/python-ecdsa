import Proofs.JacBase
/-!
# Proofs.JacField — the five formula variants of `ellipticcurve.py`, read in a field, versus Mathlib

`addZ1F … dblZ1F` are the `% p`-free readings of `Gen.k_*`.  Each addition variant is a unit multiple of Mathlib's `addXYZ`
(units −2, −Z₁⁻¹, −2·Z₁, −2·Z₁·Z₂), both doublings *equal* `dblXYZ`.  Only one textbook formula, `addCoreF`, is compared
with Mathlib (through `addX_eq'`, `negAddY_eq'`): the general variant is twice it, the co-Z variant is it divided through
by Z₁³, the variants for Z = 1 are the general one with the 1 put in.
-/
namespace Jac
open WeierstrassCurve WeierstrassCurve.Jacobian

variable {F : Type*} [Field F]

/-- `_add_with_z_1`, generic branch -/
def addZ1F (X1 Y1 X2 Y2 : F) : Fin 3 → F :=
  let H := X2 - X1
  let HH := H * H
  let I := 4 * HH
  let J := H * I
  let r := 2 * (Y2 - Y1)
  let V := X1 * I
  let X3 := r ^ 2 - J - 2 * V
  let Y3 := r * (V - X3) - 2 * Y1 * J
  let Z3 := 2 * H
  ![X3, Y3, Z3]

/-- `_add_with_z_eq`, generic branch -/
def addZeqF (X1 Y1 Z1 X2 Y2 : F) : Fin 3 → F :=
  let A := (X2 - X1) ^ 2
  let B := X1 * A
  let C := X2 * A
  let D := (Y2 - Y1) ^ 2
  let X3 := D - B - C
  let Y3 := (Y2 - Y1) * (B - X3) - Y1 * (C - B)
  let Z3 := Z1 * (X2 - X1)
  ![X3, Y3, Z3]

/-- `_add_with_z2_1`, generic branch -/
def addZ21F (X1 Y1 Z1 X2 Y2 : F) : Fin 3 → F :=
  let Z1Z1 := Z1 * Z1
  let U2 := X2 * Z1Z1
  let S2 := Y2 * Z1 * Z1Z1
  let H := U2 - X1
  let HH := H * H
  let I := 4 * HH
  let J := H * I
  let r := 2 * (S2 - Y1)
  let V := X1 * I
  let X3 := r * r - J - 2 * V
  let Y3 := r * (V - X3) - 2 * Y1 * J
  let Z3 := (Z1 + H) ^ 2 - Z1Z1 - HH
  ![X3, Y3, Z3]

/-- `_add_with_z_ne`, generic branch -/
def addNeF (X1 Y1 Z1 X2 Y2 Z2 : F) : Fin 3 → F :=
  let Z1Z1 := Z1 * Z1
  let Z2Z2 := Z2 * Z2
  let U1 := X1 * Z2Z2
  let U2 := X2 * Z1Z1
  let S1 := Y1 * Z2 * Z2Z2
  let S2 := Y2 * Z1 * Z1Z1
  let H := U2 - U1
  let I := 4 * H * H
  let J := H * I
  let r := 2 * (S2 - S1)
  let V := U1 * I
  let X3 := r * r - J - 2 * V
  let Y3 := r * (V - X3) - 2 * S1 * J
  let Z3 := ((Z1 + Z2) ^ 2 - Z1Z1 - Z2Z2) * H
  ![X3, Y3, Z3]

/-- `_double`, generic branch -/
def dblF (a X1 Y1 Z1 : F) : Fin 3 → F :=
  let XX := X1 * X1
  let YY := Y1 * Y1
  let YYYY := YY * YY
  let ZZ := Z1 * Z1
  let S := 2 * ((X1 + YY) ^ 2 - XX - YYYY)
  let M := 3 * XX + a * ZZ * ZZ
  let T := M * M - 2 * S
  let Y3 := M * (S - T) - 8 * YYYY
  let Z3 := (Y1 + Z1) ^ 2 - YY - ZZ
  ![T, Y3, Z3]

/-- `_double_with_z_1`, generic branch -/
def dblZ1F (a X1 Y1 : F) : Fin 3 → F :=
  let XX := X1 * X1
  let YY := Y1 * Y1
  let YYYY := YY * YY
  let S := 2 * ((X1 + YY) ^ 2 - XX - YYYY)
  let M := 3 * XX + a
  let T := M * M - 2 * S
  let Y3 := M * (S - T) - 8 * YYYY
  let Z3 := 2 * Y1
  ![T, Y3, Z3]

def addCoreF (X1 Y1 Z1 X2 Y2 Z2 : F) : Fin 3 → F :=
  let U1 := X1 * Z2 ^ 2
  let U2 := X2 * Z1 ^ 2
  let S1 := Y1 * Z2 ^ 3
  let S2 := Y2 * Z1 ^ 3
  let H := U2 - U1
  let r := S2 - S1
  let X3 := r ^ 2 - H ^ 3 - 2 * U1 * H ^ 2
  ![X3, r * (U1 * H ^ 2 - X3) - S1 * H ^ 3, Z1 * Z2 * H]

omit [Field F] in
theorem vec3_congr {x y z x' y' z' : F} (h0 : x = x') (h1 : y = y') (h2 : z = z') :
    ![x, y, z] = ![x', y', z'] := by rw [h0, h1, h2]

section
variable (a b X1 Y1 Z1 X2 Y2 Z2 : F)

theorem addCoreF_eq_smul (hP : (shortW a b).Equation ![X1, Y1, Z1])
    (hQ : (shortW a b).Equation ![X2, Y2, Z2]) :
    addCoreF X1 Y1 Z1 X2 Y2 Z2 =
      (-(Z1 * Z2)) • (shortW a b).addXYZ ![X1, Y1, Z1] ![X2, Y2, Z2] := by
  have hX := addX_eq' hP hQ
  have hY := negAddY_eq' (W' := shortW a b) ![X1, Y1, Z1] ![X2, Y2, Z2]
  simp only [shortW, addZ, Matrix.cons_val_zero, Matrix.cons_val_one, Matrix.cons_val_two,
    Matrix.head_cons, Matrix.tail_cons, zero_mul, sub_zero, add_zero] at hX hY
  rw [smul_fin3, addXYZ_X, addXYZ_Y, addXYZ_Z, addY, negY_eq, addZ]
  simp only [shortW, Matrix.cons_val_zero, Matrix.cons_val_two, Matrix.head_cons, Matrix.tail_cons, zero_mul,
    sub_zero]
  refine vec3_congr ?_ ?_ ?_
  · linear_combination -hX
  · linear_combination -hY + (Y2 * Z1 ^ 3 - Y1 * Z2 ^ 3) * hX
  · ring

theorem addNeF_eq_core : addNeF X1 Y1 Z1 X2 Y2 Z2 = (2 : F) • addCoreF X1 Y1 Z1 X2 Y2 Z2 := by
  rw [smul_fin3]
  refine vec3_congr ?_ ?_ ?_ <;>
    simp only [addCoreF, Matrix.cons_val_zero, Matrix.cons_val_one, Matrix.cons_val_two, Matrix.head_cons,
      Matrix.tail_cons] <;> ring

theorem addZ21F_eq_addNeF : addZ21F X1 Y1 Z1 X2 Y2 = addNeF X1 Y1 Z1 X2 Y2 1 :=
  vec3_congr (by simp only [mul_one, mul_assoc]) (by simp only [mul_one, mul_assoc]) (by ring)

theorem addZ1F_eq_addZ21F : addZ1F X1 Y1 X2 Y2 = addZ21F X1 Y1 1 X2 Y2 :=
  vec3_congr (by simp only [mul_one, pow_two]) (by simp only [mul_one, pow_two]) (by ring)

theorem addZeqF_core : Z1 ^ 3 • addZeqF X1 Y1 Z1 X2 Y2 = addCoreF X1 Y1 Z1 X2 Y2 Z1 := by
  rw [smul_fin3]
  refine vec3_congr ?_ ?_ ?_ <;>
    simp only [addZeqF, Matrix.cons_val_zero, Matrix.cons_val_one, Matrix.cons_val_two, Matrix.head_cons,
      Matrix.tail_cons] <;> ring

theorem addNeF_eq_smul (hP : (shortW a b).Equation ![X1, Y1, Z1])
    (hQ : (shortW a b).Equation ![X2, Y2, Z2]) :
    addNeF X1 Y1 Z1 X2 Y2 Z2 =
      (-2 * Z1 * Z2) • (shortW a b).addXYZ ![X1, Y1, Z1] ![X2, Y2, Z2] := by
  rw [addNeF_eq_core, addCoreF_eq_smul a b _ _ _ _ _ _ hP hQ, smul_smul]
  congr 1; ring

/- In the variants for Z = 1 the 1 is a variable with a hypothesis, so that they apply to the residue of the integer 1. -/

theorem addZ21F_eq_smul (h2 : Z2 = 1) (hP : (shortW a b).Equation ![X1, Y1, Z1])
    (hQ : (shortW a b).Equation ![X2, Y2, Z2]) :
    addZ21F X1 Y1 Z1 X2 Y2 = (-2 * Z1) • (shortW a b).addXYZ ![X1, Y1, Z1] ![X2, Y2, Z2] := by
  subst h2
  rw [addZ21F_eq_addNeF, addNeF_eq_smul a b _ _ _ _ _ _ hP hQ, mul_one]

theorem addZ1F_eq_smul (h1 : Z1 = 1) (h2 : Z2 = 1) (hP : (shortW a b).Equation ![X1, Y1, Z1])
    (hQ : (shortW a b).Equation ![X2, Y2, Z2]) :
    addZ1F X1 Y1 X2 Y2 = (-2 : F) • (shortW a b).addXYZ ![X1, Y1, Z1] ![X2, Y2, Z2] := by
  subst h1 h2
  rw [addZ1F_eq_addZ21F, addZ21F_eq_smul a b _ _ _ _ _ _ rfl hP hQ, mul_one]

theorem addZeqF_eq_smul (hZ : Z1 ≠ 0) (hP : (shortW a b).Equation ![X1, Y1, Z1])
    (hQ : (shortW a b).Equation ![X2, Y2, Z1]) :
    addZeqF X1 Y1 Z1 X2 Y2 = (-Z1⁻¹) • (shortW a b).addXYZ ![X1, Y1, Z1] ![X2, Y2, Z1] := by
  rw [← inv_smul_smul₀ (pow_ne_zero 3 hZ) (addZeqF X1 Y1 Z1 X2 Y2), addZeqF_core,
    addCoreF_eq_smul a b _ _ _ _ _ _ hP hQ, smul_smul]
  congr 1; field_simp

theorem dblF_eq : dblF a X1 Y1 Z1 = (shortW a b).dblXYZ ![X1, Y1, Z1] := by
  rw [dblXYZ, dblY, dblX, negDblY, dblX, dblZ, dblU_eq, negY_eq, negY_eq]
  simp only [shortW, Matrix.cons_val_zero, Matrix.cons_val_one, Matrix.cons_val_two,
    Matrix.head_cons, Matrix.tail_cons, zero_mul, sub_zero, mul_zero]
  refine vec3_congr ?_ ?_ ?_ <;> ring

theorem dblZ1F_eq (h1 : Z1 = 1) : dblZ1F a X1 Y1 = (shortW a b).dblXYZ ![X1, Y1, Z1] := by
  subst h1
  rw [← dblF_eq a b]
  exact vec3_congr (by simp only [mul_one]) (by simp only [mul_one]) (by ring)

end
end Jac
