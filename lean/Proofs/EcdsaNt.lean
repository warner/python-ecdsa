import Model.Ecdsa
import Proofs.Basic
import Mathlib.Data.Int.ModEq
import Mathlib.Data.Int.GCD
import Mathlib.Data.Nat.Prime.Basic
import Mathlib.Data.ZMod.Basic
import Mathlib.Tactic.Ring
import Mathlib.Tactic.Linarith
import Mathlib.Tactic.LinearCombination
/-!
# Proofs.EcdsaNt — `Ecdsa.inverseMod` (the model of `numbertheory.inverse_mod` = `pow(a, -1, m)`) is the modular inverse
-/
namespace Ecdsa

theorem xgcd_spec (a b : Nat) :
    (xgcd a b).1 * (a : Int) + (xgcd a b).2.1 * (b : Int) = ((xgcd a b).2.2 : Int) ∧ (xgcd a b).2.2 = Nat.gcd a b := by
  fun_induction xgcd a b with
  | case1 b => simp
  | case2 a b r ih =>
    obtain ⟨h1, h2⟩ := ih
    refine ⟨?_, by rw [h2]; exact (Nat.gcd_rec (a+1) b).symm⟩
    have hdiv : (b : Int) = ((b % (a+1) : Nat) : Int) + ((a+1 : Nat) : Int) * ((b / (a+1) : Nat) : Int) := by
      exact_mod_cast (Nat.mod_add_div b (a+1)).symm
    rw [← h1]
    linear_combination (r.1 : Int) * hdiv

theorem inverseMod_unfold (a m : Int) (hm : 0 < m) (ha : a ≠ 0) :
    ∃ x y : Int, ∃ g : Nat, x * (a % m) + y * m = g ∧ g = Int.gcd a m ∧
      inverseMod a m = if g ≠ 1 then .error .valueError else .ok (x % m) := by
  have hM : (m.natAbs : Int) = m := Int.natAbs_of_nonneg hm.le
  have hA : ((a % m).toNat : Int) = a % m := Int.toNat_of_nonneg (Int.emod_nonneg a hm.ne')
  obtain ⟨h1, h2⟩ := xgcd_spec (a % m).toNat m.natAbs
  rw [hA, hM] at h1
  refine ⟨_, _, _, h1, ?_, ?_⟩
  · rw [h2, ← Int.gcd_emod a m, ← hA, ← hM]; rfl
  · simp [inverseMod, ha, hm.ne', hM, pmod_eq_emod hm]

theorem inverseMod_ok (a m : Int) (hm : 0 < m) (ha : a ≠ 0) (hg : Int.gcd a m = 1) :
    ∃ c, inverseMod a m = .ok c ∧ 0 ≤ c ∧ c < m ∧ a * c ≡ 1 [ZMOD m] := by
  obtain ⟨x, y, g, h1, rfl, hdef⟩ := inverseMod_unfold a m hm ha
  refine ⟨x % m, by rw [hdef]; simp [hg], Int.emod_nonneg _ hm.ne', Int.emod_lt_of_pos _ hm, ?_⟩
  rw [hg] at h1
  -- a·(x mod m) ≡ (a mod m)·x = 1 − y·m
  calc a * (x % m) ≡ (a % m) * x [ZMOD m] := (Int.mod_modEq a m).symm.mul (Int.mod_modEq x m)
    _ ≡ 1 [ZMOD m] := Int.modEq_iff_dvd.mpr ⟨y, by push_cast at h1; linear_combination -h1⟩

/-- `pow(a, -1, m)` raises `ValueError` when `a` is not invertible -/
theorem inverseMod_err (a m : Int) (hm : 0 < m) (ha : a ≠ 0) (hg : Int.gcd a m ≠ 1) :
    inverseMod a m = .error .valueError := by
  obtain ⟨x, y, g, -, rfl, hdef⟩ := inverseMod_unfold a m hm ha
  rw [hdef, if_pos hg]

theorem inverseMod_zero (m : Int) : inverseMod 0 m = .ok 0 := by simp [inverseMod]

/-- the spec-level inverse: `k⁻¹` in `ZMod n`, as the integer in `[0, n)` -/
noncomputable def invZ (n k : Int) : Int := (((k : ZMod n.toNat)⁻¹).val : Int)

theorem coprime_of_prime_range {n k : Int} (hn : Nat.Prime n.toNat) (h1 : 1 ≤ k) (h2 : k < n) : Int.gcd k n = 1 := by
  have hnpos : 0 < n := by
    rcases lt_or_ge 0 n with h | h
    · exact h
    · rw [Int.toNat_of_nonpos h] at hn; exact absurd hn (by decide)
  have hk : k = (k.toNat : Int) := (Int.toNat_of_nonneg (by omega)).symm
  have hn' : n = (n.toNat : Int) := (Int.toNat_of_nonneg (by omega)).symm
  rw [hk, hn', Int.gcd_natCast_natCast, Nat.gcd_comm]
  exact (Nat.Prime.coprime_iff_not_dvd hn).mpr (fun hd => by
    have := Nat.le_of_dvd (by omega) hd; omega)

theorem invZ_unique {n k c : Int} (hnpos : 0 < n) (c0 : 0 ≤ c) (cn : c < n) (hmul : k * c ≡ 1 [ZMOD n]) : invZ n k = c := by
  have : NeZero n.toNat := ⟨by omega⟩
  have hn' : ((n.toNat : Nat) : Int) = n := Int.toNat_of_nonneg (le_of_lt hnpos)
  have hz : (k : ZMod n.toNat) * (c : ZMod n.toNat) = 1 := by
    rw [← Int.cast_mul, ← Int.cast_one, ZMod.intCast_eq_intCast_iff, hn']; exact hmul
  unfold invZ
  rw [ZMod.inv_eq_of_mul_eq_one _ _ _ hz, ZMod.val_intCast, hn']; exact Int.emod_eq_of_lt c0 cn

theorem inverseMod_eq_invZ {n k : Int} (hn : Nat.Prime n.toNat) (h1 : 1 ≤ k) (h2 : k < n) :
    inverseMod k n = .ok (invZ n k) ∧ 0 ≤ invZ n k ∧ invZ n k < n ∧ invZ n k * k ≡ 1 [ZMOD n] := by
  obtain ⟨c, hc, c0, cn, hmul⟩ := inverseMod_ok k n (by omega) (by omega) (coprime_of_prime_range hn h1 h2)
  rw [invZ_unique (by omega) c0 cn hmul]; exact ⟨hc, c0, cn, mul_comm k c ▸ hmul⟩

theorem not_dvd_of_range {n k : Int} (h1 : 1 ≤ k) (h2 : k < n) : ¬ n ∣ k :=
  fun h => by have := Int.le_of_dvd (by omega) h; omega

theorem emod_range_of_not_dvd {n k : Int} (hn : 0 < n) (hk : ¬ n ∣ k) : 1 ≤ k % n ∧ k % n < n :=
  ⟨by have := (Int.emod_pos_of_not_dvd hk).resolve_left hn.ne'; omega, Int.emod_lt_of_pos _ hn⟩

end Ecdsa
