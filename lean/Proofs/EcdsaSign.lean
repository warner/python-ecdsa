import Proofs.EcdsaGroup
/-!
# Proofs.EcdsaSign — `Private_key.sign` computes the standard (r, s)
-/
namespace Ecdsa

variable {P : Type} {𝔾 : Type} [AddCommGroup 𝔾]
variable {ops : PointOps P} {G : 𝔾} {den : P → 𝔾} {xc : 𝔾 → Option ℤ} {valid : P → Prop}

/-- whichever of `kt * G`, `ks * G` the bit-length test selects, it denotes `k • G` -/
theorem noncePoint_spec (C : PointOpsCorrect ops G den xc valid) (k : ℤ) :
    ∃ R, noncePoint ops k = .ok R ∧ valid R ∧ den R = k • G := by
  have key (j : ℤ) (hj : j • G = k • G) : ∃ R, ops.mulG j = .ok R ∧ valid R ∧ den R = k • G := by
    obtain ⟨R, h1, h2, h3⟩ := C.mulG j
    exact ⟨R, h1, h2, h3.trans hj⟩
  unfold noncePoint
  simp only
  split
  · exact key _ (by rw [Gen.Ecdsa.sign_kt, Gen.Ecdsa.sign_ks, add_zsmul, add_zsmul, C.nG, add_zero, add_zero])
  · exact key _ (by rw [Gen.Ecdsa.sign_ks, add_zsmul, C.nG, add_zero])

/-- C03 core: `Private_key.sign` returns the standard pair `r = x(kG) mod n`, `s = k⁻¹(e + r d) mod n`, or `RSZeroError`
exactly when that `r` or `s` is 0 — for every nonce not divisible by `n` (the `k + n` / `k + 2n` blinding denotes `k • G`) -/
theorem sign_spec (C : PointOpsCorrect ops G den xc valid) (d e k : ℤ) (hk : ¬ ops.order ∣ k) :
    ∃ x, xc (k • G) = some x ∧
      sign ops d e k =
        (let r := x % ops.order
         let s := invZ ops.order (k % ops.order) * (e + r * d) % ops.order
         if r = 0 ∨ s = 0 then .error .rsZero else .ok (r, s)) := by
  have hn := C.n_pos
  obtain ⟨R, hR, hv, hden⟩ := noncePoint_spec C (k % ops.order)
  rw [C.smul_mod] at hden
  obtain ⟨x, hx, hxc⟩ := C.xOf R hv (by rw [hden]; exact C.smul_ne_zero hk)
  rw [hden] at hxc
  refine ⟨x, hxc, ?_⟩
  obtain ⟨hk1, hk2⟩ := emod_range_of_not_dvd hn hk
  obtain ⟨hinv, -⟩ := inverseMod_eq_invZ C.n_prime hk1 hk2
  have hkk : Gen.Ecdsa.sign_k k ops.order = k % ops.order := pmod_eq_emod hn
  have hr : Gen.Ecdsa.sign_r x ops.order = x % ops.order := pmod_eq_emod hn
  -- `kinv * (hash + d * r % n) % n`: the inner reduction and the order of the factors do not matter modulo `n`
  have hs : ∀ w r, Gen.Ecdsa.sign_s w e d r ops.order = w * (e + r * d) % ops.order := by
    intro w r
    show pmod (w * (e + pmod (d * _) _)) _ = _
    rw [pmod_eq_emod hn, pmod_eq_emod hn, mul_comm d]
    exact ((Int.mod_modEq _ _).add_left e).mul_left w
  unfold sign
  simp only [hkk, hR, hx, hinv, bind, Except.bind, hr, hs, Gen.Ecdsa.sign_r_zero, Gen.Ecdsa.sign_s_zero]
  by_cases h1 : x % ops.order = 0
  · simp [h1]
  · by_cases h2 : invZ ops.order (k % ops.order) * (e + x % ops.order * d) % ops.order = 0 <;> simp [h1, h2]

theorem sign_eq_ok (C : PointOpsCorrect ops G den xc valid) {d e k r s : ℤ} (hk : ¬ ops.order ∣ k)
    (hsig : sign ops d e k = .ok (r, s)) :
    ∃ x, xc (k • G) = some x ∧ x % ops.order = r ∧ (1 ≤ r ∧ r < ops.order) ∧ (1 ≤ s ∧ s < ops.order) ∧
      s * k ≡ e + r * d [ZMOD ops.order] := by
  have hn := C.n_pos
  obtain ⟨x, hx, hspec⟩ := sign_spec C d e k hk
  rw [hspec] at hsig
  simp only at hsig
  split at hsig
  · cases hsig
  · rename_i hnz
    injection hsig with hsig
    injection hsig with hr hs
    rw [hr] at hs
    rw [hr, hs, not_or] at hnz
    have hr0 := Int.emod_nonneg x hn.ne'
    have hs0 := Int.emod_nonneg (invZ ops.order (k % ops.order) * (e + r * d)) hn.ne'
    rw [hr] at hr0; rw [hs] at hs0
    refine ⟨x, hx, hr, ⟨by omega, hr ▸ Int.emod_lt_of_pos _ hn⟩, ⟨by omega, hs ▸ Int.emod_lt_of_pos _ hn⟩, ?_⟩
    obtain ⟨hk1, hk2⟩ := emod_range_of_not_dvd hn hk
    obtain ⟨-, -, -, hkinv⟩ := inverseMod_eq_invZ C.n_prime hk1 hk2
    -- s·k ≡ k⁻¹(e + r d)·k ≡ (k⁻¹·k)(e + r d)
    calc s * k ≡ invZ ops.order (k % ops.order) * (e + r * d) * (k % ops.order) [ZMOD ops.order] :=
          hs ▸ (Int.mod_modEq _ _).mul (Int.mod_modEq _ _).symm
      _ = (invZ ops.order (k % ops.order) * (k % ops.order)) * (e + r * d) := by ring
      _ ≡ e + r * d [ZMOD ops.order] := by simpa using hkinv.mul_right (e + r * d)

end Ecdsa
