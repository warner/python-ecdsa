import Generated.NTTables
import Mathlib.Data.Nat.Prime.Basic
import Mathlib.Data.List.Range
import Mathlib.Tactic.NormNum.Prime
import Mathlib.Tactic.IntervalCases
/-! the generated `smallprimes` table is exactly the ascending list of the primes ≤ 1229 (C16) -/
namespace NTProofs
open Gen.NT
set_option maxRecDepth 100000

/-- boolean certificate: `n ≥ 2` has no divisor among the primes below 37 other than itself; exact below 37² = 1369 -/
def tdPrime (n : Nat) : Bool := 2 ≤ n && [2, 3, 5, 7, 11, 13, 17, 19, 23, 29, 31].all fun d => n % d != 0 || n == d

theorem table_cert : smallprimesN = (List.range 1230).filter tdPrime := by decide +kernel

theorem prime_lt_37 (q : Nat) (hq : q.Prime) (h : q < 37) : q ∈ [2, 3, 5, 7, 11, 13, 17, 19, 23, 29, 31] := by
  have h2 := hq.two_le
  interval_cases q <;> first | decide | (exfalso; revert hq; norm_num)

theorem tdPrime_iff (n : Nat) (hn : n < 1369) : tdPrime n = true ↔ n.Prime := by
  constructor
  · intro h
    simp only [tdPrime, Bool.and_eq_true, decide_eq_true_eq, List.all_eq_true, Bool.or_eq_true, bne_iff_ne, ne_eq,
      beq_iff_eq] at h
    obtain ⟨h2, hall⟩ := h
    by_contra hnp
    have hq : (n.minFac).Prime := Nat.minFac_prime (by omega)
    have hsq : n.minFac * n.minFac ≤ n := by
      have := Nat.minFac_sq_le_self (by omega) hnp; simpa [sq] using this
    have hlt : n.minFac < 37 := by
      by_contra hge
      have := Nat.mul_le_mul (Nat.le_of_not_lt hge) (Nat.le_of_not_lt hge)
      omega
    have hm := prime_lt_37 _ hq hlt
    rcases hall _ hm with h | h
    · exact h (Nat.mod_eq_zero_of_dvd (Nat.minFac_dvd n))
    · exact hnp (h ▸ hq)
  · intro hp
    simp only [tdPrime, Bool.and_eq_true, decide_eq_true_eq, List.all_eq_true, Bool.or_eq_true, bne_iff_ne, ne_eq,
      beq_iff_eq]
    refine ⟨hp.two_le, fun d hd => ?_⟩
    by_cases hdv : n % d = 0
    · right
      have hdvd : d ∣ n := Nat.dvd_of_mod_eq_zero hdv
      rcases (Nat.dvd_prime hp).mp hdvd with h | h
      · subst h; exact absurd hd (by decide)
      · exact h.symm
    · left; exact hdv

theorem mem_smallprimesN (n : Nat) : n ∈ smallprimesN ↔ n.Prime ∧ n ≤ 1229 := by
  rw [table_cert, List.mem_filter, List.mem_range]
  constructor
  · rintro ⟨h1, h2⟩; exact ⟨(tdPrime_iff n (by omega)).mp h2, by omega⟩
  · rintro ⟨h1, h2⟩; exact ⟨by omega, (tdPrime_iff n (by omega)).mpr h1⟩

theorem smallprimesN_sorted : smallprimesN.Pairwise (· < ·) := by
  rw [table_cert]; exact List.Pairwise.filter _ List.pairwise_lt_range

theorem mem_smallprimes (n : Int) : n ∈ smallprimes ↔ 0 ≤ n ∧ n.toNat.Prime ∧ n ≤ 1229 := by
  simp only [smallprimes, List.mem_map]
  constructor
  · rintro ⟨k, hk, rfl⟩
    have := (mem_smallprimesN k).mp hk
    refine ⟨Int.natCast_nonneg k, by simpa using this.1, by have := this.2; simp; omega⟩
  · rintro ⟨h0, hp, hle⟩
    refine ⟨n.toNat, (mem_smallprimesN _).mpr ⟨hp, by omega⟩, by simp; omega⟩

theorem smallprimes_sorted : smallprimes.Pairwise (· < ·) := by
  unfold smallprimes
  rw [List.pairwise_map]
  exact smallprimesN_sorted.imp (fun h => by simpa using h)

theorem smallprimes_getLast : smallprimes.getLast? = some 1229 := by decide +kernel

theorem smallprimes_length : smallprimes.length = 201 := by decide +kernel

end NTProofs
