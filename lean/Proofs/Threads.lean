import Model.Threads
/-! # Proofs.Threads — the invariant of the interleaving model (generic in cells, values, results; any number of
threads, any schedule) -/
namespace Threads
variable {K V R : Type}

theorem Phases.set_self [DecidableEq K] (ph : Phases K) (k : K) : ph.set k k = .canon := by simp [Phases.set]
theorem Phases.set_other [DecidableEq K] (ph : Phases K) {k k' : K} (h : k' ≠ k) : ph.set k k' = ph k' := by
  simp [Phases.set, h]

/-- `ph'` knows at least what `ph` knows -/
abbrev Phases.Le (ph ph' : Phases K) : Prop := ∀ k, ph k = .canon → ph' k = .canon

theorem Phases.Le.trans {ph ph' ph'' : Phases K} (h : ph.Le ph') (h' : ph'.Le ph'') : ph.Le ph'' :=
  fun k hk => h' k (h k hk)

theorem Phases.set_mono [DecidableEq K] {ph ph' : Phases K} (h : ph.Le ph') (k : K) : (ph.set k).Le (ph'.set k) := by
  intro k' hk'
  by_cases hk : k' = k
  · subst hk; exact Phases.set_self _ _
  · rw [Phases.set_other _ hk] at hk' ⊢; exact h k' hk'

theorem Phases.le_set [DecidableEq K] (ph : Phases K) (k : K) : ph.Le (ph.set k) := by
  intro k' h
  by_cases hk : k' = k
  · subst hk; exact Phases.set_self _ _
  · rw [Phases.set_other _ hk]; exact h

section
variable [DecidableEq K] {free : K → Prop} {good : K → V → Prop} {c1 : K → V}

theorem Safe.mono {acc : R → Prop} {p : Prog K V R} {ph : Phases K} (h : Safe free good c1 acc ph p) :
    ∀ ph' : Phases K, ph.Le ph' → Safe free good c1 acc ph' p := by
  induction h with
  | ret ha => intro ph' _; exact Safe.ret ha
  | @read ph k cont hnf hany hcan ih1 ih2 =>
    intro ph' hle
    refine Safe.read hnf (fun hph v hg hne => ih1 ?_ v hg hne ph' hle) (ih2 _ (Phases.set_mono hle k))
    cases hk : ph k with
    | any => rfl
    | canon => rw [hle k hk] at hph; cases hph
  | write hnf _ ih => intro ph' hle; exact Safe.write hnf (ih _ (Phases.set_mono hle _))
  | readFree hf _ ih => intro ph' hle; exact Safe.readFree hf (fun v hv => ih v hv ph' hle)
  | writeFree hf hg _ ih => intro ph' hle; exact Safe.writeFree hf hg (ih ph' hle)

theorem Safe.weaken {acc acc' : R → Prop} {p : Prog K V R} {ph : Phases K} (hacc : ∀ r, acc r → acc' r) (h : Safe free good c1 acc ph p) :
    Safe free good c1 acc' ph p := by
  induction h with
  | ret ha => exact Safe.ret (hacc _ ha)
  | read hnf _ _ ih1 ih2 => exact Safe.read hnf ih1 ih2
  | write hnf _ ih => exact Safe.write hnf ih
  | readFree hf _ ih => exact Safe.readFree hf ih
  | writeFree hf hg _ ih => exact Safe.writeFree hf hg ih

theorem updHeap_self (h : K → V) (k : K) (v : V) : updHeap h k v k = v := if_pos rfl
theorem updHeap_other (h : K → V) {k k' : K} (v : V) (hk : k' ≠ k) : updHeap h k v k' = h k' :=
  if_neg hk

/-- a step as seen by the invariant: thread `i` is replaced by a safe thread and the heap by one of good values, in
which the canonical monotone cells are still canonical, and in which whatever thread `i` newly takes for canonical is -/
theorem Inv.update {c : Cfg K V R} (h : Inv free good c1 c) {i : Nat} {t : Thread K V R} (hti : c.thr[i]? = some t) {heap' : K → V} {t' : Thread K V R}
    (hg : ∀ k, good k (heap' k)) (hs : Safe free good c1 t'.acc t'.ph t'.prog)
    (hkeep : ∀ k, ¬ free k → c.heap k = c1 k → heap' k = c1 k)
    (hnew : ∀ k, ¬ free k → t'.ph k = .canon → t.ph k = .canon ∨ heap' k = c1 k) :
    Inv free good c1 ⟨heap', c.thr.set i t'⟩ := by
  have ht := List.mem_of_getElem? hti
  refine ⟨hg, fun t0 h0 => ?_, fun k hk ⟨t0, h0, hph⟩ => ?_⟩
  · rcases List.mem_or_eq_of_mem_set h0 with h0 | rfl
    · exact h.2.1 t0 h0
    · exact hs
  · rcases List.mem_or_eq_of_mem_set h0 with h0 | rfl
    · exact hkeep k hk (h.2.2 k hk ⟨t0, h0, hph⟩)
    · exact (hnew k hk hph).elim (fun hph => hkeep k hk (h.2.2 k hk ⟨t, ht, hph⟩)) fun h => h

end

theorem inv_step [DecidableEq K] [DecidableEq V] (free : K → Prop) (good : K → V → Prop) (c1 : K → V)
    (hc1 : ∀ k, ¬ free k → good k (c1 k))
    (c : Cfg K V R) (i : Nat) (h : Inv free good c1 c) : Inv free good c1 (step c1 c i) := by
  unfold step
  cases hti : c.thr[i]? with
  | none => exact h
  | some t =>
    have hst := h.2.1 t (List.mem_of_getElem? hti)
    obtain ⟨prog, ph, acc⟩ := t
    -- the phases after a read of `k`: what was known, and `k` if the value read is the canonical one
    have hread : ∀ (k k' : K), k' ≠ k → (if c.heap k = c1 k then ph.set k else ph) k' = .canon → ph k' = .canon := by
      intro k k' hk hph
      split at hph
      · rwa [Phases.set_other _ hk] at hph
      · exact hph
    cases prog with
    | ret r => exact h
    | read k cont =>
      cases hst with
      | read hnf hany hcan =>
        refine h.update hti h.1 ?_ (fun _ _ h => h) fun k' _ hph => ?_
        · show Safe free good c1 acc (if c.heap k = c1 k then ph.set k else ph) (cont (c.heap k))
          by_cases hcell : c.heap k = c1 k
          · rw [if_pos hcell, hcell]; exact hcan
          · rw [if_neg hcell]
            cases hph : ph k with
            | any => exact hany hph _ (h.1 k) hcell
            | canon => exact absurd (h.2.2 k hnf ⟨_, List.mem_of_getElem? hti, hph⟩) hcell
        · by_cases hk : k' = k
          · subst hk
            by_cases hcell : c.heap k' = c1 k'
            · exact Or.inr hcell
            · exact Or.inl (by rwa [show (if c.heap k' = c1 k' then ph.set k' else ph) = ph from if_neg hcell] at hph)
          · exact Or.inl (hread k k' hk hph)
      | readFree hf hall =>
        have hne : ∀ k', ¬ free k' → k' ≠ k := fun k' hnf e => hnf (e ▸ hf)
        refine h.update hti h.1 ?_ (fun _ _ h => h) fun k' hnf hph => Or.inl (hread k k' (hne k' hnf) hph)
        show Safe free good c1 acc (if c.heap k = c1 k then ph.set k else ph) (cont (c.heap k))
        split
        · exact (hall _ (h.1 k)).mono _ (Phases.le_set _ _)
        · exact hall _ (h.1 k)
    | write k v cont =>
      have hnew : ∀ k', k' ≠ k → ph.set k k' = .canon → ph k' = .canon := fun k' hk hph => by
        rwa [Phases.set_other _ hk] at hph
      cases hst with
      | write hnf hk =>
        refine h.update hti (fun k' => ?_) hk (fun k' _ hc => ?_) fun k' _ hph => ?_
        · by_cases hkk : k' = k
          · subst hkk; rw [updHeap_self]; exact hc1 _ hnf
          · rw [updHeap_other _ _ hkk]; exact h.1 k'
        · by_cases hkk : k' = k
          · subst hkk; exact updHeap_self _ _ _
          · rwa [updHeap_other _ _ hkk]
        · by_cases hkk : k' = k
          · subst hkk; exact Or.inr (updHeap_self _ _ _)
          · exact Or.inl (hnew k' hkk hph)
      | writeFree hf hgv hk =>
        have hne : ∀ k', ¬ free k' → k' ≠ k := fun k' hnf e => hnf (e ▸ hf)
        refine h.update hti (fun k' => ?_) (hk.mono _ (Phases.le_set _ _))
          (fun k' hnf hc => by rwa [updHeap_other _ _ (hne k' hnf)]) fun k' hnf hph => Or.inl (hnew k' (hne k' hnf) hph)
        by_cases hkk : k' = k
        · subst hkk; rw [updHeap_self]; exact hgv
        · rw [updHeap_other _ _ hkk]; exact h.1 k'

theorem inv_all_schedules [DecidableEq K] [DecidableEq V] (free : K → Prop) (good : K → V → Prop) (c1 : K → V)
    (hc1 : ∀ k, ¬ free k → good k (c1 k)) (sched : List Nat) :
    ∀ c : Cfg K V R, Inv free good c1 c → Inv free good c1 (run c1 c sched) := by
  induction sched with
  | nil => intro c h; exact h
  | cons i rest ih => intro c h; exact ih _ (inv_step free good c1 hc1 c i h)

theorem getElem?_set_map {α β : Type} {l : List α} {i : Nat} {x x' : α} (f : α → β) (hi : l[i]? = some x)
    (hf : f x' = f x) (j : Nat) : ((l.set i x')[j]?).map f = (l[j]?).map f := by
  rw [List.getElem?_set]
  split
  · next hij =>
    subst hij
    rw [if_pos (List.getElem?_eq_some_iff.mp hi).1, hi]
    exact congrArg some hf
  · rfl

theorem step_acc [DecidableEq K] [DecidableEq V] (c1 : K → V) (c : Cfg K V R) (i j : Nat) :
    ((step c1 c i).thr[j]?).map (·.acc) = (c.thr[j]?).map (·.acc) := by
  unfold step
  cases hti : c.thr[i]? with
  | none => rfl
  | some t =>
    obtain ⟨prog, ph, acc⟩ := t
    cases prog with
    | ret r => rfl
    | read k cont => exact getElem?_set_map (x' := ⟨cont (c.heap k), _, acc⟩) (·.acc) hti rfl j
    | write k v cont => exact getElem?_set_map (x' := ⟨cont, _, acc⟩) (·.acc) hti rfl j

theorem run_acc [DecidableEq K] [DecidableEq V] (c1 : K → V) (sched : List Nat) :
    ∀ (c : Cfg K V R) (j : Nat), ((run c1 c sched).thr[j]?).map (·.acc) = (c.thr[j]?).map (·.acc) := by
  induction sched with
  | nil => intro c j; rfl
  | cons i rest ih => intro c j; simp only [run]; rw [ih, step_acc]

theorem finished_result_ok [DecidableEq K] [DecidableEq V] (free : K → Prop) (good : K → V → Prop) (c1 : K → V)
    (hc1 : ∀ k, ¬ free k → good k (c1 k)) (c : Cfg K V R) (h : Inv free good c1 c) (sched : List Nat) (j : Nat)
    (t0 t : Thread K V R) (r : R) (h0 : c.thr[j]? = some t0) (ht : (run c1 c sched).thr[j]? = some t)
    (hr : t.prog = .ret r) : t0.acc r := by
  have hinv := inv_all_schedules free good c1 hc1 sched c h
  have hs := hinv.2.1 t (List.mem_of_getElem? ht)
  have hacc := run_acc c1 sched c j
  rw [h0, ht] at hacc
  simp only [Option.map_some, Option.some.injEq] at hacc
  rw [hr] at hs
  cases hs with
  | ret ha => rw [← hacc]; exact ha

theorem canon_stable [DecidableEq K] [DecidableEq V] (free : K → Prop) (good : K → V → Prop) (c1 : K → V)
    (hc1 : ∀ k, ¬ free k → good k (c1 k)) (c : Cfg K V R) (h : Inv free good c1 c) (sched : List Nat) (k : K) :
    good k ((run c1 c sched).heap k) ∧
    (¬ free k → (∃ t ∈ (run c1 c sched).thr, t.ph k = .canon) → (run c1 c sched).heap k = c1 k) :=
  ⟨(inv_all_schedules free good c1 hc1 sched c h).1 k, (inv_all_schedules free good c1 hc1 sched c h).2.2 k⟩

theorem run_of_allAny [DecidableEq K] [DecidableEq V] (free : K → Prop) (good : K → V → Prop) (c1 : K → V)
    (hc1 : ∀ k, ¬ free k → good k (c1 k)) {α : Type} {heap : K → V} (hg : ∀ k, good k (heap k))
    (mk : α → Thread K V R) (as : List α)
    (hmk : ∀ a ∈ as, (mk a).ph = allAny ∧ Safe free good c1 (mk a).acc (mk a).ph (mk a).prog) (sched : List Nat) :
    Inv free good c1 (run c1 ⟨heap, as.map mk⟩ sched) ∧
    ∀ (j : Nat) (a : α) (t : Thread K V R) (r : R), as[j]? = some a →
      (run c1 ⟨heap, as.map mk⟩ sched).thr[j]? = some t → t.prog = .ret r → (mk a).acc r := by
  have hinit : Inv free good c1 ⟨heap, as.map mk⟩ := by
    refine ⟨hg, fun t ht => ?_, fun k _ ⟨t, ht, hph⟩ => ?_⟩
    · obtain ⟨a, ha, rfl⟩ := List.mem_map.mp ht
      exact (hmk a ha).2
    · obtain ⟨a, ha, rfl⟩ := List.mem_map.mp ht
      rw [(hmk a ha).1] at hph
      cases hph
  exact ⟨inv_all_schedules free good c1 hc1 sched _ hinit, fun j a t r ha ht hr =>
    finished_result_ok free good c1 hc1 _ hinit sched j (mk a) t r (by rw [List.getElem?_map, ha]; rfl) ht hr⟩

theorem Prog.bind_ret (p : Prog K V R) : p.bind .ret = p := by
  induction p with
  | ret r => rfl
  | read k cont ih => exact congrArg (Prog.read k) (funext ih)
  | write k v cont ih => exact congrArg (Prog.write k v) ih

theorem Safe.bind [DecidableEq K] {S : Type} {free : K → Prop} {good : K → V → Prop} {c1 : K → V} {acc : R → Prop}
    {acc' : S → Prop} {p : Prog K V R} {ph : Phases K} (h : Safe free good c1 acc ph p) (f : R → Prog K V S)
    (hf : ∀ r (ph' : Phases K), acc r → ph.Le ph' → Safe free good c1 acc' ph' (f r)) :
    Safe free good c1 acc' ph (p.bind f) := by
  induction h with
  | ret ha => exact hf _ _ ha (fun _ h => h)
  | read hnf _ _ ih1 ih2 =>
    exact Safe.read hnf (fun hph v hg hne => ih1 hph v hg hne hf)
      (ih2 fun r ph' ha hle => hf r ph' ha ((Phases.le_set _ _).trans hle))
  | write hnf _ ih => exact Safe.write hnf (ih fun r ph' ha hle => hf r ph' ha ((Phases.le_set _ _).trans hle))
  | readFree hfr _ ih => exact Safe.readFree hfr (fun v hv => ih v hv hf)
  | writeFree hfr hg _ ih => exact Safe.writeFree hfr hg (ih hf)

theorem Safe.seqList [DecidableEq K] {free : K → Prop} {good : K → V → Prop} {c1 : K → V} :
    ∀ (aps : List ((R → Prop) × Prog K V R)),
    (∀ ap ∈ aps, ∀ ph : Phases K, Safe free good c1 ap.1 ph ap.2) →
    ∀ ph : Phases K, Safe free good c1 (accAll (aps.map (·.1))) ph (Prog.seqList (aps.map (·.2)))
  | [], _, ph => Safe.ret trivial
  | ap :: aps, h, ph => by
    simp only [List.map_cons, Prog.seqList]
    refine Safe.bind (h ap (List.mem_cons_self ..) ph) _ ?_
    intro r ph' hr _
    refine Safe.bind (Safe.seqList aps (fun ap' hm => h ap' (List.mem_cons_of_mem _ hm)) ph') _ ?_
    intro rs ph'' hrs _
    exact Safe.ret ⟨hr, hrs⟩

end Threads
