import Proofs.PointObjSim
/-!
# Proofs.PointObjOps — reads, `scale`, the conversions, point arithmetic and `==` refine their abstract counterparts
-/
set_option linter.unusedSectionVars false
namespace PointObj
open Curve

variable {G : Type} [AddCommGroup G] [DecidableEq G]
variable {sp : ASpec G} {HS : PJ → List (Int × Int) → G → Prop} {HA : AffPt → G → Prop}

@[simp] theorem M.pure_bind {α β} (a : α) (f : α → M β) : M.bind (M.pure a) f = f a := rfl
@[simp] theorem AM.pure_bind {α β} (a : α) (f : α → AM G β) : AM.bind (AM.pure a) f = f a := rfl
@[simp] theorem M.lift_ok {α} (a : α) : M.lift (.ok a) = M.pure a := rfl
@[simp] theorem M.lift_error {α} (e : PyErr) : (M.lift (.error e) : M α) = M.raise e := rfl
@[simp] theorem M.raise_bind {α β} (e : PyErr) (f : α → M β) : M.bind (M.raise e) f = M.raise e := rfl
@[simp] theorem AM.raise_bind {α β} (e : PyErr) (f : α → AM G β) : AM.bind (AM.raise e) f = AM.raise e := rfl
@[simp] theorem M.pure_eq {α} (a : α) : (Pure.pure a : M α) = M.pure a := rfl
@[simp] theorem AM.pure_eq {α} (a : α) : (Pure.pure a : AM G α) = AM.pure a := rfl

theorem readX_sim (hyp : RepIndep sp HS HA) (r : Ref) : SimEq HS HA (readX r) (areadX sp r) := by
  unfold readX areadX
  refine Sim.bind (getPt_sim r) fun a b hab => ?_
  cases hab with
  | inf => exact Sim.pure rfl
  | jac hs => simp only [(hyp.hs_xy hs).1]; exact Sim.pure rfl
  | aff ha => simp only [(hyp.ha_xy ha).1]; exact Sim.pure rfl

theorem readY_sim (hyp : RepIndep sp HS HA) (r : Ref) : SimEq HS HA (readY r) (areadY sp r) := by
  unfold readY areadY
  refine Sim.bind (getPt_sim r) fun a b hab => ?_
  cases hab with
  | inf => exact Sim.pure rfl
  | jac hs => simp only [(hyp.hs_xy hs).2]; exact Sim.pure rfl
  | aff ha => simp only [(hyp.ha_xy ha).2]; exact Sim.pure rfl

theorem readX_some_bind {α β} {R : α → β → Prop} (hyp : RepIndep sp HS HA) (q : Ref) (e : PyErr) {f : Int → M α}
    {af : Int → AM G β} (hf : ∀ x, Sim (HS := HS) (HA := HA) R (f x) (af x)) :
    Sim (HS := HS) (HA := HA) R
      (do
        let some x ← readX q | M.raise e
        f x)
      (do
        let some x ← areadX sp q | AM.raise e
        af x) :=
  Sim.bind (readX_sim hyp q) (by rintro (_ | x) _ rfl; exacts [Sim.raise _, hf x])

theorem readOrder_sim (r : Ref) : SimEq HS HA (readOrder r) (areadOrder (G := G) r) := by
  unfold readOrder areadOrder
  refine Sim.bind (getPt_sim r) fun a b hab => ?_
  cases hab <;> exact Sim.pure rfl

/-- the methods only `PointJacobi` has -/
theorem pjMethod_sim {α β} {R : α → β → Prop} {f : Nat → M α} {af : Nat → AM G β} {ah : AHeap G} (r : Ref) (e : PyErr)
    (hf : ∀ i, r = .obj i → IsPJ ah i → SimAt HS HA ah R (f i) (af i)) :
    SimAt HS HA ah R
      (do match r, ← getPJ r with
          | .obj i, some _ => f i
          | _, _ => do let _ ← getPt r; M.raise e)
      (do match r, ← agetPJ r with
          | .obj i, some _ => af i
          | _, _ => do let _ ← agetPt r; AM.raise e) := by
  refine ((getPJ_sim r).at ah).bind fun a b ah' eb hab => ?_
  cases hab with
  | none => cases r <;> exact ((getPt_sim _).bind fun _ _ _ => Sim.raise e).at _
  | some hr =>
    subst hr
    obtain ⟨rfl, hp⟩ := agetPJ_ok eb
    exact hf _ rfl hp

theorem scaleState_ok (hyp : RepIndep sp HS HA) {o : PJObj} {g : G} (hs : HS o.val o.table g) :
    ∃ S, scaleState o = .ok ({ o with val := S }, S) ∧ HS S o.table g ∧ S.z = 1 ∧ S.order = o.val.order ∧
      S.generator = o.val.generator := by
  obtain ⟨S, e, h1, h2, h3, h4⟩ := hyp.hs_scale hs
  exact ⟨S, by rw [scaleState, e]; rfl, h1, h2, h3, h4⟩

theorem scaleState_sim (hyp : RepIndep sp HS HA) (o : PJObj) (g : G) (hs : HS o.val o.table g) :
    StateSim HS (fun (S : PJ) (b : G × Option Int) => ∃ t, HS S t b.1 ∧ S.z = 1 ∧ S.order = b.2) o g (scaleState o)
      (.ok (g, o.val.order)) := by
  obtain ⟨S, e, h1, h2, h3, h4⟩ := scaleState_ok hyp hs
  rw [e]
  exact StateSim.ok ⟨o.table, h1, h2, h3⟩ h1 h3 h4

theorem scaleObj_sim (hyp : RepIndep sp HS HA) (r : Ref) : SimEq HS HA (scaleObj r) (ascaleObj (G := G) r) := by
  unfold scaleObj ascaleObj
  refine Sim.of_at fun ah => pjMethod_sim r _ fun i _ _ => Sim.at ?_ ah
  refine Sim.bind (R := fun _ _ => True) (updPJ_sim i fun o g hs => ?_) fun _ _ _ => Sim.pure rfl
  obtain ⟨S, e, h1, _, h3, h4⟩ := scaleState_ok hyp hs
  rw [e]
  exact StateSim.ok trivial h1 h3 h4

theorem toAffineObj_sim (hyp : RepIndep sp HS HA) (r : Ref) : SimEq HS HA (toAffineObj r) (atoAffineObj (G := G) r) := by
  unfold toAffineObj atoAffineObj
  refine Sim.of_at fun ah => pjMethod_sim r _ fun i _ _ => Sim.at ?_ ah
  refine Sim.bind (R := fun (a : Option PJ) (b : G × Option Int) =>
    ∃ S t, a = some S ∧ HS S t b.1 ∧ S.z = 1 ∧ S.order = b.2) (updPJ_sim i fun o g hs => ?_) ?_
  · obtain ⟨S, e, h1, h2, h3, h4⟩ := scaleState_ok hyp hs
    have hnz := hyp.hs_nz hs
    simp only [toAffineState, hnz.1, hnz.2, Bool.or_self, Bool.false_eq_true, if_false, e, bind, Except.bind]
    exact StateSim.ok ⟨S, o.table, rfl, h1, h2, h3⟩ h1 h3 h4
  · rintro a ⟨g, ord⟩ ⟨S, t, rfl, hs, hz, rfl⟩
    obtain ⟨A, e, ha, hao⟩ := hyp.hs_mkPoint hs hz
    simp only [e]
    exact alloc_sim (hao ▸ Rel.aff (HS := HS) (HA := HA) ha)

theorem fromAffineObj_sim (hyp : RepIndep sp HS HA) (r : Ref) (gen : Bool) :
    SimEq HS HA (fromAffineObj r gen) (afromAffineObj (G := G) r gen) := by
  unfold fromAffineObj afromAffineObj
  refine Sim.bind (getPt_sim r) fun a b hab => ?_
  cases hab with
  | inf => exact Sim.raise _
  | @jac P t g hs =>
    simp only [(hyp.hs_xy hs).1, (hyp.hs_xy hs).2]
    exact alloc_sim (Rel.pj (o := ⟨⟨P.curve, sp.ax g, sp.ay g, 1, P.order, gen⟩, []⟩) (hyp.hs_fromXY gen hs))
  | @aff A g ha => exact alloc_sim (Rel.pj (o := ⟨pjFromAffine A gen, []⟩) (hyp.ha_fromAffine gen ha))

theorem afromAffineObj_ok {r r' : Ref} {gen : Bool} {ah ah' : AHeap G}
    (e : afromAffineObj r gen ah = (.ok r', ah')) : ∃ g o, r' = .obj ah.length ∧ ah' = ah ++ [.pj g o gen] := by
  obtain ⟨v, ah₁, e1, e2⟩ := AM.bind_ok e
  obtain ⟨rfl, _⟩ := agetPt_ok e1
  cases v <;> cases e2
  exacts [⟨_, _, rfl, rfl⟩, ⟨_, _, rfl, rfl⟩]

/-- the operand at `r` is not a legacy `Point` (the abstract heap decides) -/
def NotAff (ah : AHeap G) (r : Ref) : Prop := ∀ g o, aptOf ah r ≠ some (.aff g o)

theorem NotAff.of_jac {ah : AHeap G} {r : Ref} {g : G} {o : Option Int} {gen : Bool}
    (h : aptOf ah r = some (.jac g o gen)) : NotAff ah r := fun g' o' hc => by rw [h] at hc; cases hc

theorem IsPJ.notAff {ah : AHeap G} {i : Nat} (h : IsPJ ah i) : NotAff ah (.obj i) := by
  obtain ⟨g, o, gen, e⟩ := h
  exact NotAff.of_jac (g := g) (o := o) (gen := gen) (by rw [aptOf, e])

/-- `SimAt ah` for every `ah` with `pre ah` -/
def SimOn {α β : Type} (pre : AHeap G → Prop) (R : α → β → Prop) (m : M α) (am : AM G β) : Prop :=
  ∀ h ah, Inv HS HA h ah → pre ah → Outcome HS HA R (m h) (am ah)

theorem Sim.on {α β} {R : α → β → Prop} {m : M α} {am : AM G β} (h : Sim (HS := HS) (HA := HA) R m am)
    (pre : AHeap G → Prop) : SimOn (HS := HS) (HA := HA) pre R m am := fun hh ah hi _ => h hh ah hi

theorem SimOn.bind {α β α' β'} {pre : AHeap G → Prop} {R : α → β → Prop} {R' : α' → β' → Prop} {m : M α} {am : AM G β}
    {f : α → M α'} {af : β → AM G β'} (h1 : SimOn (HS := HS) (HA := HA) pre R m am)
    (h2 : ∀ a b, R a b → Sim (HS := HS) (HA := HA) R' (f a) (af b)) :
    SimOn (HS := HS) (HA := HA) pre R' (M.bind m f) (AM.bind am af) :=
  fun h ah hi hp => SimAt.bind_sim (fun h hi => h1 h ah hi hp) h2 h hi

theorem hs_not_inf (hyp : RepIndep sp HS HA) {P : PJ} {t : List (Int × Int)} {g : G} (hs : HS P t g) :
    pjEq P .infinity = false ∧ pjEqInf P = false := by
  have := hyp.hs_nz hs
  simp [pjEq, pjEqInf, this.1, this.2]

theorem negObj_sim (hyp : RepIndep sp HS HA) {ah : AHeap G} {r : Ref} (hna : NotAff ah r) :
    SimAt HS HA ah (fun a b => a = b) (negObj r) (anegObj (G := G) r) := by
  unfold negObj anegObj
  refine getPt_bind r fun v b hv hb => ?_
  cases hv with
  | inf => exact (Sim.pure rfl).at _
  | @jac P t g hs => exact (alloc_sim (Rel.pj (o := ⟨pjNeg P, []⟩) (hyp.hs_neg hs))).at _
  | aff ha => exact absurd hb (hna _ _)

theorem doubleObj_sim (hyp : RepIndep sp HS HA) {ah : AHeap G} {r : Ref} (hna : NotAff ah r) :
    SimAt HS HA ah (fun a b => a = b) (doubleObj r) (adoubleObj (G := G) r) := by
  unfold doubleObj adoubleObj
  refine getPt_bind r fun v b hv hb => ?_
  cases hv with
  | inf => exact (Sim.pure rfl).at _
  | jac hs => exact (allocPt_sim (hyp.hs_double hs)).at _
  | aff ha => exact absurd hb (hna _ _)

theorem pjAddObj_sim (hyp : RepIndep sp HS HA) (r s : Ref) {P : PJ} {t : List (Int × Int)} {g : G} (hs : HS P t g) :
    SimEq HS HA (pjAddObj r P s) (apjAddObj r g P.order s) := by
  unfold pjAddObj apjAddObj
  rw [(hs_not_inf hyp hs).1, if_neg Bool.false_ne_true]
  refine Sim.bind (getPt_sim s) fun a b hab => ?_
  cases hab with
  | inf => exact Sim.pure rfl
  | @jac Q t' h hsQ =>
    obtain ⟨v, e, hv⟩ := hyp.hs_add hs hsQ
    simp only [(hs_not_inf hyp hsQ).2, Bool.false_eq_true, if_false, e]
    exact allocPt_sim hv
  | @aff A h ha =>
    obtain ⟨v, e, hv⟩ := hyp.hs_add hs (hyp.ha_fromAffine false ha)
    simp only [e]
    exact allocPt_sim hv

def NotBothAff (ah : AHeap G) (r s : Ref) : Prop :=
  ¬ ((∃ g o, aptOf ah r = some (.aff g o)) ∧ (∃ g o, aptOf ah s = some (.aff g o)))

theorem addObj_sim (hyp : RepIndep sp HS HA) {ah : AHeap G} {r s : Ref} (hpre : NotBothAff ah r s) :
    SimAt HS HA ah (fun a b => a = b) (addObj r s) (aaddObj (G := G) r s) := by
  unfold addObj aaddObj
  refine getPt_bind r fun v b hv hb => getPt_bind s fun w c hw hc => ?_
  cases hv with
  | jac hs => exact (pjAddObj_sim hyp r s hs).at _
  | inf =>
    cases hw with
    | inf => exact (Sim.pure rfl).at _
    | aff ha => exact (Sim.pure rfl).at _
    | jac hsQ => exact (pjAddObj_sim hyp s r hsQ).at _
  | aff ha =>
    cases hw with
    | inf => exact (Sim.pure rfl).at _
    | aff _ => exact absurd ⟨⟨_, _, hb⟩, ⟨_, _, hc⟩⟩ hpre
    | jac hsQ => exact (pjAddObj_sim hyp s r hsQ).at _

inductive RMul : MulRes → AMulRes G → Prop
  | inf : RMul .inf .inf
  | self : RMul .self .self
  | fresh {v : Pt} {g : G} {o : Option Int} : RFresh HS v g o → RMul (.fresh v) (.fresh g o)

theorem genOK_iff (P : PJ) : genOK P.order P.generator = true ↔ GenOK P := by
  unfold genOK GenOK
  cases hg : P.generator <;> cases ho : truthy P.order <;> simp

/-- a generator-flagged object without a usable order: `_maybe_precompute` fails its `assert order` -/
theorem precompute_fails (hyp : RepIndep sp HS HA) {o : PJObj} {g : G} (hs : HS o.val o.table g) (h : ¬ GenOK o.val) :
    genOK o.val.order o.val.generator = false ∧ o.table = [] ∧ maybePrecompute o.val [] = .error .assertionError := by
  refine ⟨Bool.eq_false_iff.2 (mt (genOK_iff o.val).1 h), Classical.not_not.1 fun hne => h (hyp.hs_table hs hne).2, ?_⟩
  obtain ⟨hg, hno⟩ := Classical.not_imp.1 h
  have ho : truthy o.val.order = none := Option.eq_none_iff_forall_ne_some.2 fun n hn => hno ⟨n, hn⟩
  simp [maybePrecompute, hg, precomputeTable, ho]

theorem precomputeState_sim (hyp : RepIndep sp HS HA) (o : PJObj) (g : G) (hs : HS o.val o.table g) :
    StateSim HS (fun (t : List (Int × Int)) (b : Bool) => t.isEmpty = !b) o g (precomputeState o)
      (aprecompute g o.val.order o.val.generator) := by
  unfold precomputeState aprecompute
  by_cases hgo : GenOK o.val
  · obtain ⟨t', et, hst, hemp⟩ := hyp.hs_precompute hs hgo
    rw [(genOK_iff o.val).2 hgo, if_pos rfl, et]
    exact StateSim.ok hemp hst rfl rfl
  · obtain ⟨hb, ht, hm⟩ := precompute_fails hyp hs hgo
    rw [hb, if_neg Bool.false_ne_true, ht, hm]
    exact StateSim.error _

theorem mulState_sim (hyp : RepIndep sp HS HA) (k : Int) (o : PJObj) (g : G) (hs : HS o.val o.table g) :
    StateSim HS (RMul (HS := HS)) o g (mulState k o) (amulState k g o.val.order o.val.generator) := by
  have hy := (hyp.hs_nz hs).1
  unfold mulState amulState
  dsimp only
  by_cases hk0 : k = 0
  · rw [if_pos (by rw [hk0]; exact Bool.or_true _), if_pos (by rw [hk0]; rfl)]
    exact StateSim.ok RMul.inf hs rfl rfl
  have h0 : (k == 0) = false := beq_false_of_ne hk0
  rw [if_neg (by rw [hy, h0]; exact Bool.false_ne_true), if_neg (ne_true_of_eq_false h0)]
  by_cases hk1 : k = 1
  · rw [if_pos (by rw [hk1]; rfl), if_pos (by rw [hk1]; rfl)]
    exact StateSim.ok RMul.self hs rfl rfl
  have h1 : (k == 1) = false := beq_false_of_ne hk1
  rw [if_neg (ne_true_of_eq_false h1), if_neg (ne_true_of_eq_false h1)]
  by_cases hgo : GenOK o.val
  · obtain ⟨v, ev, hv⟩ := hyp.hs_mul k hs hgo hk0 hk1
    have hp := precomputeState_sim hyp o g hs
    rw [aprecompute, (genOK_iff o.val).2 hgo, if_pos rfl] at hp
    rw [(genOK_iff o.val).2 hgo, ev]
    -- what `_maybe_precompute` leaves; without a table the object is rescaled as well
    rcases hpo : precomputeState o with _ | ⟨o1, t'⟩ <;> rw [hpo] at hp
    · exact hp.elim
    obtain ⟨_, hs1, ho1, hg1⟩ := hp
    by_cases he : t'.isEmpty = true
    · obtain ⟨S, es, h1', _, h3, h4⟩ := scaleState_ok hyp hs1
      simp only [bind, Except.bind, he, if_true, es]
      exact StateSim.ok (RMul.fresh hv) h1' (h3.trans ho1) (h4.trans hg1)
    · simp only [bind, Except.bind, he, Bool.false_eq_true, if_false]
      exact StateSim.ok (RMul.fresh hv) hs1 ho1 hg1
  · obtain ⟨hb, ht, hm⟩ := precompute_fails hyp hs hgo
    have : pjMulWith [] o.val k = .error .assertionError := by
      rw [pjMulWith, if_neg (by rw [hy, h0]; exact Bool.false_ne_true), if_neg (ne_true_of_eq_false h1), hm]
      rfl
    rw [hb, ht, this]
    exact StateSim.error _

theorem mulObj_sim (hyp : RepIndep sp HS HA) {ah : AHeap G} {r : Ref} (hna : NotAff ah r) (k : Int) :
    SimAt HS HA ah (fun a b => a = b) (mulObj r k) (amulObj (G := G) r k) := by
  unfold mulObj amulObj
  refine getPt_bind r fun v b hv hb => ?_
  cases hv with
  | inf => cases r <;> exact (Sim.pure rfl).at _
  | aff ha => exact absurd hb (hna _ _)
  | jac hs =>
    cases r with
    | inf => exact (Sim.raise _).at _
    | obj i =>
      refine ((updPJ_sim i (mulState_sim hyp k)).bind fun a b hab => ?_).at _
      cases hab with
      | inf => exact Sim.pure rfl
      | self => exact Sim.pure rfl
      | fresh hv => exact allocPt_sim hv

theorem getHeap_bind_run {α} (h : Heap) (f : Heap → M α) : M.bind M.getHeap f h = f h h := rfl
theorem agetHeap_bind_run {α} (ah : AHeap G) (f : AHeap G → AM G α) : AM.bind AM.getHeap f ah = f ah ah := rfl

theorem isInfCopy_rel {h : Heap} {ah : AHeap G} (hi : Inv HS HA h ah) (r : Ref) :
    isInfCopy h r = aisInfCopy ah r := by
  cases r with
  | inf => rfl
  | obj i =>
    unfold isInfCopy aisInfCopy
    rcases hi.get i with ⟨h1, h2⟩ | ⟨o, a, h1, h2, hr⟩ <;> simp only [h1, h2]
    cases hr <;> rfl

/-- the group element an abstract operand stands for -/
def AVal.den : AVal G → G
  | .inf => 0
  | .jac g _ _ => g
  | .aff g _ => g

theorem ptEq_rel (hyp : RepIndep sp HS HA) {v w : Pt} {b c : AVal G} (hv : RVal HS HA v b)
    (hw : RVal HS HA w c) : ptEq v w = decide (b.den = c.den) := by
  cases hv with
  | inf =>
    cases hw with
    | inf => simp [ptEq, AVal.den]
    | jac hsQ => simp [ptEq, AVal.den, (hs_not_inf hyp hsQ).1, Ne.symm (hyp.hs_ne hsQ)]
    | aff ha => simp [ptEq, AVal.den, Ne.symm (hyp.ha_ne ha)]
  | jac hs =>
    cases hw with
    | inf => simp [ptEq, AVal.den, (hs_not_inf hyp hs).1, hyp.hs_ne hs]
    | jac hsQ => exact hyp.eq_jj hs hsQ
    | aff ha => exact (hyp.eq_ja hs ha).1
  | aff ha =>
    cases hw with
    | inf => simp [ptEq, affEq, AVal.den, hyp.ha_ne ha]
    | jac hsQ => exact (hyp.eq_ja hsQ ha).2
    | aff hb => exact hyp.eq_aa ha hb

theorem ptIsInf_rel (hyp : RepIndep sp HS HA) {v : Pt} {b : AVal G} (hv : RVal HS HA v b) :
    ptIsInf v = (match (generalizing := false) b with | .inf => true | _ => false) := by
  cases hv with
  | inf => rfl
  | jac hs => exact (hs_not_inf hyp hs).2
  | aff ha => rfl

theorem eqObj_sim (hyp : RepIndep sp HS HA) (r s : Ref) : SimEq HS HA (eqObj r s) (aeqObj (G := G) r s) := by
  unfold eqObj aeqObj
  refine Sim.bind (getPt_sim r) fun v b hv => ?_
  refine Sim.bind (getPt_sim s) fun w c hw => ?_
  refine Sim.bind getHeap_sim fun h ah hi => ?_
  have e : ptEq v w = decide (b.den = c.den) := ptEq_rel hyp hv hw
  -- both sides special-case a copy of INFINITY against a `PointJacobi`; everywhere else the values are compared
  cases hv with
  | inf =>
    cases hw with
    | jac _ => rw [isInfCopy_rel hi r]; exact ite_both (fun _ => Sim.pure rfl) fun _ => Sim.pure e
    | _ => exact Sim.pure e
  | jac _ =>
    cases hw with
    | inf => rw [isInfCopy_rel hi s]; exact ite_both (fun _ => Sim.pure rfl) fun _ => Sim.pure e
    | _ => exact Sim.pure e
  | aff _ => cases hw <;> exact Sim.pure e

end PointObj
