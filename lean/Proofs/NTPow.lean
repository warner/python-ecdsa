import Model.NumberTheory
import Proofs.NTInv
import Mathlib.Data.Int.ModEq
import Mathlib.Data.Nat.Log
import Mathlib.Tactic.Ring
/-! `pow(b, e, m)` for `m > 0`: square-and-multiply equals `b ^ e % m` -/
namespace NTProofs
open NT

theorem powAux_spec (m : Int) (hm : 0 < m) :
    ∀ (fuel : Nat) (b : Int) (e : Nat) (acc : Int), e < 2 ^ fuel →
      powAux m fuel b e acc ≡ acc * b ^ e [ZMOD m] := by
  intro fuel
  induction fuel with
  | zero =>
    intro b e acc he
    have : e = 0 := by simpa using he
    subst this; simp [powAux, Int.ModEq]
  | succ f ih =>
    intro b e acc he
    unfold powAux
    by_cases h0 : e = 0
    · subst h0; simp [Int.ModEq]
    · simp only [h0, ↓reduceIte]
      have he2 : e / 2 < 2 ^ f := by
        rw [pow_succ] at he; omega
      refine (ih _ _ _ he2).trans ?_
      simp only [pmod_eq_emod hm]
      have hbb : (b * b % m) ^ (e / 2) ≡ (b * b) ^ (e / 2) [ZMOD m] := (Int.mod_modEq _ _).pow _
      have hpow : b ^ e = (b * b) ^ (e / 2) * b ^ (e % 2) := by
        rw [← pow_two, ← pow_mul, ← pow_add, Nat.div_add_mod]
      rw [hpow]
      by_cases hodd : e % 2 = 1
      · simp only [hodd, ↓reduceIte, pow_one]
        have : acc * b % m ≡ acc * b [ZMOD m] := Int.mod_modEq _ _
        calc acc * b % m * (b * b % m) ^ (e / 2) ≡ acc * b * (b * b) ^ (e / 2) [ZMOD m] := this.mul hbb
          _ = acc * ((b * b) ^ (e / 2) * b) := by ring
      · have : e % 2 = 0 := by omega
        simp only [this, pow_zero, mul_one]
        simp only [show ¬ (0 = 1) by decide, ↓reduceIte]
        exact Int.ModEq.mul_left _ hbb

theorem powAux_range (m : Int) (hm : 0 < m) :
    ∀ (fuel : Nat) (b : Int) (e : Nat) (acc : Int), 0 ≤ acc → acc < m →
      0 ≤ powAux m fuel b e acc ∧ powAux m fuel b e acc < m := by
  intro fuel
  induction fuel with
  | zero => intro b e acc h0 h1; simp [powAux, h0, h1]
  | succ f ih =>
    intro b e acc h0 h1
    unfold powAux
    by_cases he : e = 0
    · simp [he, h0, h1]
    · simp only [he, ↓reduceIte]
      apply ih
      · split
        · rw [pmod_eq_emod hm]; exact Int.emod_nonneg _ (by omega)
        · exact h0
      · split
        · rw [pmod_eq_emod hm]; exact Int.emod_lt_of_pos _ hm
        · exact h1

theorem powMod_eq (b : Int) (e : Nat) (m : Int) (hm : 0 < m) : powMod b e m = b ^ e % m := by
  unfold powMod
  have hlt : e < 2 ^ (e.log2 + 1) := by
    rw [Nat.log2_eq_log_two]; exact Nat.lt_pow_succ_log_self (by decide) e
  have h1 := powAux_spec m hm (e.log2 + 1) (pmod b m) e (pmod 1 m) hlt
  have hr := powAux_range m hm (e.log2 + 1) (pmod b m) e (pmod 1 m)
    (by rw [pmod_eq_emod hm]; exact Int.emod_nonneg _ (by omega))
    (by rw [pmod_eq_emod hm]; exact Int.emod_lt_of_pos _ hm)
  have h2 : pmod 1 m * pmod b m ^ e ≡ b ^ e [ZMOD m] := by
    rw [pmod_eq_emod hm, pmod_eq_emod hm]
    have := ((Int.mod_modEq 1 m).mul ((Int.mod_modEq b m).pow e)); simpa using this
  have h3 := h1.trans h2
  unfold Int.ModEq at h3
  rw [← h3, Int.emod_eq_of_lt hr.1 hr.2]

end NTProofs
