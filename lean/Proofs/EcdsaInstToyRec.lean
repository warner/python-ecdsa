import Proofs.EcdsaInstToy
import Proofs.EcdsaRecover
/-!
# Proofs.EcdsaInstToyRec — the hypothesis `Honest` of C14 is satisfiable on the model of the real point classes
-/

namespace Ecdsa.OnCurve
open Curve Jac GroupInterface WeierstrassCurve

/-- toy curve 𝔽₁₁, G = (2,7), n = 13: secret 3, e = 5, nonce 2, 2•G = (5, 2), signature (5, 10) -/
theorem toy_honest : ∃ C : Ctx 11 1 6, Matches toyCrv C ∧ Honest (ops toyCrv) C.G xcOf 3 5 2 5 10 5 := by
  obtain ⟨C, M⟩ := toy_matches
  have PC := pointOpsCorrect toyCrv C M
  -- the abscissa of 2•G is below p = 11 and is 5 modulo 13
  obtain ⟨x, hx, hxr, -⟩ := sign_eq_ok PC (by decide) toy_sign
  obtain ⟨x0, x1⟩ := PC.xc_range _ _ hx
  obtain rfl : x = 5 := by
    have x1 : x < 11 := x1
    have hxr : x % 13 = 5 := hxr
    omega
  exact ⟨C, M, ⟨by decide, by decide, toy_sign, hx, by decide⟩⟩

end Ecdsa.OnCurve
