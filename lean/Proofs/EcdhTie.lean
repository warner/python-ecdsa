import Model.Ecdh
import Generated.EcdhSlices
import Proofs.EcdhSimp
/-!
# Proofs.EcdhTie — semantics of the generated ECDH programs over the state space of `Model/Ecdh.lean`

`Gen.Ecdh.*` (Generated/EcdhSlices.lean) is class `ECDH` of `src/ecdsa/ecdh.py`, re-translated on every run into
a small statement language.  `run` below is the Python reading of that language on the model's objects:

* values: `None`, a `Curve` object, its `.curve` (`CurveFp`), a `SigningKey`/`VerifyingKey`, their
  `.privkey`/`.pubkey`, a point, `INFINITY`, an int, a byte string;
* attribute load on `None` is `AttributeError`; `not x` is `x is None` for the objects in play (`Curve`,
  `SigningKey`, `VerifyingKey` define neither `__bool__` nor `__len__`); `==`/`!=` on `Curve` objects is identity;
  `a == b == c` is `a == b and b == c` (short-circuit); `point == INFINITY` is `env.isInf`;
* call arguments are evaluated left to right, then the callee runs; `self.m(…)` runs the generated method `m`
  (state changes made before an exception persist); the key constructors, `*`, `.x()`, `.p()`,
  `number_to_string` are those of the model's `Env`;
* `raise C(…)` is the `PyErr` constructor of class `C`.
A construct the semantics does not give a meaning to (wrong type, unknown name) is `PyErr.other`; fuel exhaustion
too.  Every nested `run` takes one unit: from a method entry `.m` one for the body `.l`, one for every statement that
precedes the one in hand, one for `.s`, one for its test `.c` or expression `.e`, one per level of subexpression; a
`self.m(…)` adds what `m` needs.  The deepest chain (`generate_sharedsecret_bytes`) needs 19; the public entry gives 40.

`ecdh.py` has two independent ties.  This one (`Proofs/EcdhTieProofs.lean`, `Props/C05t.lean`) keeps the source's expressions:
attribute chains, argument order, local variables, calls between methods, `__init__`, the import lines.  The other
(`Model/EcdhSkel.lean`, `Props/C05s.lean`) has one statement form per idiom of the class and no constructor; a method added to
the model has to be added to both.
-/
namespace EcdhTie
open Ecdh Gen.Ecdh

inductive Val (Crv Pt : Type) where
  | none
  | crv (c : Crv)                 -- curves.Curve
  | curveFp (c : Crv)             -- curves.Curve.curve
  | sk (k : SKey Crv Pt)
  | vk (k : VKey Crv Pt)
  | privkey (k : SKey Crv Pt)     -- SigningKey.privkey
  | pubkey (k : VKey Crv Pt)      -- VerifyingKey.pubkey
  | pt (p : Pt)
  | infinity
  | int (i : Int)
  | bytes (b : Bytes)
  | bool (b : Bool)
  | cont                          -- a statement completed normally
  | returned (v : Val Crv Pt)     -- a `return` was executed

abbrev Vars (Crv Pt : Type) := List (String × Val Crv Pt)

inductive Task (Crv Pt : Type) where
  | e (x : Expr)
  | c (x : Cond)
  | s (x : Stmt)
  | l (xs : List Stmt)
  | m (name : String) (args : List (Val Crv Pt))

abbrev R (Crv Pt : Type) := State Crv Pt × Vars Crv Pt × Res (Val Crv Pt)

def excOf : String → PyErr
  | "NoKeyError" => .noKey
  | "NoCurveError" => .noCurve
  | "InvalidCurveError" => .invalidCurve
  | "InvalidSharedSecretError" => .invalidSharedSecret
  | _ => .other

section
variable {Crv Pt Ent : Type} [DecidableEq Crv]

def andThen (r : R Crv Pt) (k : State Crv Pt → Vars Crv Pt → Val Crv Pt → R Crv Pt) : R Crv Pt :=
  match r with
  | (st, vs, .error e) => (st, vs, .error e)
  | (st, vs, .ok v) => k st vs v

def getSelf (st : State Crv Pt) : String → Res (Val Crv Pt)
  | "curve" => .ok (match st.curve with | some c => .crv c | none => .none)
  | "private_key" => .ok (match st.priv with | some k => .sk k | none => .none)
  | "public_key" => .ok (match st.pub with | some k => .vk k | none => .none)
  | _ => .error .attributeError

def setSelf (st : State Crv Pt) : String → Val Crv Pt → Res (State Crv Pt)
  | "curve", .crv c => .ok { st with curve := some c }
  | "curve", .none => .ok { st with curve := none }
  | "private_key", .sk k => .ok { st with priv := some k }
  | "private_key", .none => .ok { st with priv := none }
  | "public_key", .vk k => .ok { st with pub := some k }
  | "public_key", .none => .ok { st with pub := none }
  | _, _ => .error .other

def getAttr : Val Crv Pt → String → Res (Val Crv Pt)
  | .none, _ => .error .attributeError
  | .sk k, "curve" => .ok (.crv k.curve)
  | .sk k, "privkey" => .ok (.privkey k)
  | .vk k, "curve" => .ok (.crv k.curve)
  | .vk k, "pubkey" => .ok (.pubkey k)
  | .privkey k, "secret_multiplier" => .ok (.int k.d)
  | .pubkey k, "point" => .ok (.pt k.point)
  | .crv c, "curve" => .ok (.curveFp c)
  | _, _ => .error .other

def callMethod0 (env : Env Crv Pt Ent) : Val Crv Pt → String → Res (Val Crv Pt)
  | .none, _ => .error .attributeError
  | .sk k, "get_verifying_key" => .ok (.vk k.vk)
  | .curveFp c, "p" => .ok (.int (env.fieldP c))
  | .pt p, "x" => (env.xOf p).map .int
  | _, _ => .error .other

def mulV (env : Env Crv Pt Ent) : Val Crv Pt → Val Crv Pt → Res (Val Crv Pt)
  | .pt p, .int d => (env.mul p d).map .pt
  | _, _ => .error .other

def truthy : Val Crv Pt → Res Bool
  | .none => .ok false
  | .crv _ => .ok true
  | .sk _ => .ok true
  | .vk _ => .ok true
  | _ => .error .other

def eqV (env : Env Crv Pt Ent) : Val Crv Pt → Val Crv Pt → Res Bool
  | .none, .none => .ok true
  | .none, .crv _ => .ok false
  | .crv _, .none => .ok false
  | .crv a, .crv b => .ok (decide (a = b))
  | .pt p, .infinity => .ok (env.isInf p)
  | _, _ => .error .other

/-- the functions `ecdh.py` imports, applied to evaluated arguments (positional, then the keyword one) -/
def callExt (env : Env Crv Pt Ent) (ent : Option Ent) : String → List (Val Crv Pt) → Option (String × Val Crv Pt) → Res (Val Crv Pt)
  | "SigningKey.generate", [], some ("curve", .crv c) =>
    match ent with
    | some e => (env.generate c e).map .sk
    | none => .error .other
  | "SigningKey.from_string", [.bytes b], some ("curve", .crv c) => (env.skFromString c b).map .sk
  | "SigningKey.from_der", [.bytes b], none => (env.skFromDer b).map .sk
  | "SigningKey.from_pem", [.bytes b], none => (env.skFromPem b).map .sk
  | "VerifyingKey.from_string", [.bytes b, .crv c], none => (env.vkFromString c b).map .vk
  | "VerifyingKey.from_string", [.bytes _, .none], none => .error .attributeError   -- None.verifying_key_length
  | "VerifyingKey.from_der", [.bytes b], none => (env.vkFromDer b).map .vk
  | "VerifyingKey.from_pem", [.bytes b], none => (env.vkFromPem b).map .vk
  | "number_to_string", [.int v, .int p], none => (numberToStringInt v p.toNat).map .bytes
  | _, _, _ => .error .other

def lookupVar (vs : Vars Crv Pt) (n : String) : Res (Val Crv Pt) :=
  match vs.find? (·.1 = n) with
  | some p => .ok p.2
  | none => .error .other

def bindParams : List String → List (Val Crv Pt) → Vars Crv Pt
  | [], _ => []
  | p :: ps, [] => (p, .none) :: bindParams ps []
  | p :: ps, a :: as => (p, a) :: bindParams ps as

def run (env : Env Crv Pt Ent) (ent : Option Ent) : Nat → State Crv Pt → Vars Crv Pt → Task Crv Pt → R Crv Pt
  | 0, st, vs, _ => (st, vs, .error .other)
  | f+1, st, vs, task =>
    let call (st : State Crv Pt) (vs : Vars Crv Pt) (fn : String) (args : List (Val Crv Pt)) (kw : Option (String × Val Crv Pt)) : R Crv Pt :=
      (st, vs, callExt env ent fn args kw)
    let selfCall (st : State Crv Pt) (vs : Vars Crv Pt) (m : String) (args : List (Val Crv Pt)) : R Crv Pt :=
      andThen (run env ent f st vs (.m m args)) fun st _ v => (st, vs, .ok v)
    match task with
    | .e x =>
      match x with
      | .selfAttr a => (st, vs, getSelf st a)
      | .var n => (st, vs, lookupVar vs n)
      | .noneLit => (st, vs, .ok .none)
      | .infinity => (st, vs, .ok .infinity)
      | .attr e a => andThen (run env ent f st vs (.e e)) fun st vs v => (st, vs, getAttr v a)
      | .mcall0 e m => andThen (run env ent f st vs (.e e)) fun st vs v => (st, vs, callMethod0 env v m)
      | .mul a b =>
        andThen (run env ent f st vs (.e a)) fun st vs va =>
        andThen (run env ent f st vs (.e b)) fun st vs vb => (st, vs, mulV env va vb)
      | .selfCall0 m => selfCall st vs m []
      | .selfCall1 m a => andThen (run env ent f st vs (.e a)) fun st vs va => selfCall st vs m [va]
      | .call1 fn a => andThen (run env ent f st vs (.e a)) fun st vs va => call st vs fn [va] none
      | .call2 fn a b =>
        andThen (run env ent f st vs (.e a)) fun st vs va =>
        andThen (run env ent f st vs (.e b)) fun st vs vb => call st vs fn [va, vb] none
      | .callKw fn kw v => andThen (run env ent f st vs (.e v)) fun st vs vv => call st vs fn [] (some (kw, vv))
      | .call1Kw fn a kw v =>
        andThen (run env ent f st vs (.e a)) fun st vs va =>
        andThen (run env ent f st vs (.e v)) fun st vs vv => call st vs fn [va] (some (kw, vv))
    | .c x =>
      match x with
      | .truthy e => andThen (run env ent f st vs (.e e)) fun st vs v => (st, vs, (truthy v).map .bool)
      | .falsy e => andThen (run env ent f st vs (.e e)) fun st vs v => (st, vs, (truthy v).map fun b => .bool (!b))
      | .eq a b =>
        andThen (run env ent f st vs (.e a)) fun st vs va =>
        andThen (run env ent f st vs (.e b)) fun st vs vb => (st, vs, (eqV env va vb).map .bool)
      | .ne a b =>
        andThen (run env ent f st vs (.e a)) fun st vs va =>
        andThen (run env ent f st vs (.e b)) fun st vs vb => (st, vs, (eqV env va vb).map fun r => .bool (!r))
      | .notEq3 a b c =>
        andThen (run env ent f st vs (.e a)) fun st vs va =>
        andThen (run env ent f st vs (.e b)) fun st vs vb =>
          match eqV env va vb with
          | .error e => (st, vs, .error e)
          | .ok false => (st, vs, .ok (.bool true))
          | .ok true =>
            andThen (run env ent f st vs (.e c)) fun st vs vc => (st, vs, (eqV env vb vc).map fun r => .bool (!r))
    | .s x =>
      match x with
      | .setSelf a e =>
        andThen (run env ent f st vs (.e e)) fun st vs v =>
          match setSelf st a v with
          | .ok st' => (st', vs, .ok .cont)
          | .error err => (st, vs, .error err)
      | .setLocal n e => andThen (run env ent f st vs (.e e)) fun st vs v => (st, (n, v) :: vs, .ok .cont)
      | .ifRaise c exc =>
        andThen (run env ent f st vs (.c c)) fun st vs v =>
          match v with
          | .bool true => (st, vs, .error (excOf exc))
          | .bool false => (st, vs, .ok .cont)
          | _ => (st, vs, .error .other)
      | .ifDo c s =>
        andThen (run env ent f st vs (.c c)) fun st vs v =>
          match v with
          | .bool true => run env ent f st vs (.s s)
          | .bool false => (st, vs, .ok .cont)
          | _ => (st, vs, .error .other)
      | .ret e => andThen (run env ent f st vs (.e e)) fun st vs v => (st, vs, .ok (.returned v))
      | .exprStmt e => andThen (run env ent f st vs (.e e)) fun st vs _ => (st, vs, .ok .cont)
    | .l xs =>
      match xs with
      | [] => (st, vs, .ok .none)                     -- falling off the end returns None
      | s :: rest =>
        andThen (run env ent f st vs (.s s)) fun st vs v =>
          match v with
          | .returned r => (st, vs, .ok r)
          | _ => run env ent f st vs (.l rest)
    | .m name args =>
      match Gen.Ecdh.methods.find? (·.name = name) with
      | none => (st, vs, .error .attributeError)
      | some md => andThen (run env ent f st (bindParams md.params args) (.l md.body)) fun st _ v => (st, vs, .ok v)

/-! Rule: an equation whose left side mentions `run` is proved `by rfl`, never by the term `rfl`.  `simp` takes a theorem
whose proof is the term `rfl` as a definitional step and leaves it to the kernel to find the step again by unfolding
`run` at the fuel in play; the proofs by `ecdh_run` then do not get through. -/
section
variable (env : Env Crv Pt Ent) (ent : Option Ent) (f : Nat) (st : State Crv Pt) (vs : Vars Crv Pt)

theorem run_selfAttr (a : String) : run env ent (f+1) st vs (.e (.selfAttr a)) = (st, vs, getSelf st a) := by rfl
theorem run_var (n : String) : run env ent (f+1) st vs (.e (.var n)) = (st, vs, lookupVar vs n) := by rfl
theorem run_noneLit : run env ent (f+1) st vs (.e .noneLit) = (st, vs, .ok .none) := by rfl
theorem run_infinity : run env ent (f+1) st vs (.e .infinity) = (st, vs, .ok .infinity) := by rfl
theorem run_attr (e : Expr) (a : String) : run env ent (f+1) st vs (.e (.attr e a)) =
    andThen (run env ent f st vs (.e e)) fun st vs v => (st, vs, getAttr v a) := by rfl
theorem run_mcall0 (e : Expr) (m : String) : run env ent (f+1) st vs (.e (.mcall0 e m)) =
    andThen (run env ent f st vs (.e e)) fun st vs v => (st, vs, callMethod0 env v m) := by rfl
theorem run_mul (a b : Expr) : run env ent (f+1) st vs (.e (.mul a b)) =
    andThen (run env ent f st vs (.e a)) fun st vs va =>
    andThen (run env ent f st vs (.e b)) fun st vs vb => (st, vs, mulV env va vb) := by rfl
theorem run_selfCall0 (m : String) : run env ent (f+1) st vs (.e (.selfCall0 m)) =
    andThen (run env ent f st vs (.m m [])) fun st _ v => (st, vs, .ok v) := by rfl
theorem run_selfCall1 (m : String) (a : Expr) : run env ent (f+1) st vs (.e (.selfCall1 m a)) =
    andThen (run env ent f st vs (.e a)) fun st vs va =>
    andThen (run env ent f st vs (.m m [va])) fun st _ v => (st, vs, .ok v) := by rfl
theorem run_call1 (fn : String) (a : Expr) : run env ent (f+1) st vs (.e (.call1 fn a)) =
    andThen (run env ent f st vs (.e a)) fun st vs va => (st, vs, callExt env ent fn [va] none) := by rfl
theorem run_call2 (fn : String) (a b : Expr) : run env ent (f+1) st vs (.e (.call2 fn a b)) =
    andThen (run env ent f st vs (.e a)) fun st vs va =>
    andThen (run env ent f st vs (.e b)) fun st vs vb => (st, vs, callExt env ent fn [va, vb] none) := by rfl
theorem run_callKw (fn kw : String) (v : Expr) : run env ent (f+1) st vs (.e (.callKw fn kw v)) =
    andThen (run env ent f st vs (.e v)) fun st vs vv => (st, vs, callExt env ent fn [] (some (kw, vv))) := by rfl
theorem run_call1Kw (fn : String) (a : Expr) (kw : String) (v : Expr) : run env ent (f+1) st vs (.e (.call1Kw fn a kw v)) =
    andThen (run env ent f st vs (.e a)) fun st vs va =>
    andThen (run env ent f st vs (.e v)) fun st vs vv => (st, vs, callExt env ent fn [va] (some (kw, vv))) := by rfl
theorem run_truthy (e : Expr) : run env ent (f+1) st vs (.c (.truthy e)) =
    andThen (run env ent f st vs (.e e)) fun st vs v => (st, vs, (truthy v).map .bool) := by rfl
theorem run_falsy (e : Expr) : run env ent (f+1) st vs (.c (.falsy e)) =
    andThen (run env ent f st vs (.e e)) fun st vs v => (st, vs, (truthy v).map fun b => .bool (!b)) := by rfl
theorem run_eq (a b : Expr) : run env ent (f+1) st vs (.c (.eq a b)) =
    andThen (run env ent f st vs (.e a)) fun st vs va =>
    andThen (run env ent f st vs (.e b)) fun st vs vb => (st, vs, (eqV env va vb).map .bool) := by rfl
theorem run_ne (a b : Expr) : run env ent (f+1) st vs (.c (.ne a b)) =
    andThen (run env ent f st vs (.e a)) fun st vs va =>
    andThen (run env ent f st vs (.e b)) fun st vs vb => (st, vs, (eqV env va vb).map fun r => .bool (!r)) := by rfl
theorem run_notEq3 (a b c : Expr) : run env ent (f+1) st vs (.c (.notEq3 a b c)) =
    andThen (run env ent f st vs (.e a)) fun st vs va =>
    andThen (run env ent f st vs (.e b)) fun st vs vb =>
      match eqV env va vb with
      | .error e => (st, vs, .error e)
      | .ok false => (st, vs, .ok (.bool true))
      | .ok true =>
        andThen (run env ent f st vs (.e c)) fun st vs vc => (st, vs, (eqV env vb vc).map fun r => .bool (!r)) := by rfl
theorem run_setSelf (a : String) (e : Expr) : run env ent (f+1) st vs (.s (.setSelf a e)) =
    andThen (run env ent f st vs (.e e)) fun st vs v =>
      match setSelf st a v with
      | .ok st' => (st', vs, .ok .cont)
      | .error err => (st, vs, .error err) := by rfl
theorem run_setLocal (n : String) (e : Expr) : run env ent (f+1) st vs (.s (.setLocal n e)) =
    andThen (run env ent f st vs (.e e)) fun st vs v => (st, (n, v) :: vs, .ok .cont) := by rfl
theorem run_ifRaise (c : Cond) (exc : String) : run env ent (f+1) st vs (.s (.ifRaise c exc)) =
    andThen (run env ent f st vs (.c c)) fun st vs v =>
      match v with
      | .bool true => (st, vs, .error (excOf exc))
      | .bool false => (st, vs, .ok .cont)
      | _ => (st, vs, .error .other) := by rfl
theorem run_ifDo (c : Cond) (s : Stmt) : run env ent (f+1) st vs (.s (.ifDo c s)) =
    andThen (run env ent f st vs (.c c)) fun st vs v =>
      match v with
      | .bool true => run env ent f st vs (.s s)
      | .bool false => (st, vs, .ok .cont)
      | _ => (st, vs, .error .other) := by rfl
theorem run_ret (e : Expr) : run env ent (f+1) st vs (.s (.ret e)) =
    andThen (run env ent f st vs (.e e)) fun st vs v => (st, vs, .ok (.returned v)) := by rfl
theorem run_exprStmt (e : Expr) : run env ent (f+1) st vs (.s (.exprStmt e)) =
    andThen (run env ent f st vs (.e e)) fun st vs _ => (st, vs, .ok .cont) := by rfl
theorem run_nil : run env ent (f+1) st vs (.l []) = (st, vs, .ok .none) := by rfl
theorem run_cons (s : Stmt) (rest : List Stmt) : run env ent (f+1) st vs (.l (s :: rest)) =
    andThen (run env ent f st vs (.s s)) fun st vs v =>
      match v with
      | .returned r => (st, vs, .ok r)
      | _ => run env ent f st vs (.l rest) := by rfl
theorem run_method (name : String) (args : List (Val Crv Pt)) : run env ent (f+1) st vs (.m name args) =
    match Gen.Ecdh.methods.find? (·.name = name) with
    | none => (st, vs, .error .attributeError)
    | some md => andThen (run env ent f st (bindParams md.params args) (.l md.body)) fun st _ v => (st, vs, .ok v) := by rfl

omit [DecidableEq Crv] in
theorem andThen_ok (st : State Crv Pt) (vs : Vars Crv Pt) (v : Val Crv Pt)
    (k : State Crv Pt → Vars Crv Pt → Val Crv Pt → R Crv Pt) : andThen (st, vs, .ok v) k = k st vs v := by rfl
omit [DecidableEq Crv] in
theorem andThen_error (st : State Crv Pt) (vs : Vars Crv Pt) (e : PyErr)
    (k : State Crv Pt → Vars Crv Pt → Val Crv Pt → R Crv Pt) : andThen (st, vs, .error e) k = (st, vs, .error e) := by rfl
end

def callPublic (env : Env Crv Pt Ent) (ent : Option Ent) (st : State Crv Pt) (name : String) (args : List (Val Crv Pt)) :
    State Crv Pt × Res (Val Crv Pt) :=
  let r := run env ent 40 st [] (.m name args)
  (r.1, r.2.2)

/-- what a public method hands back to the caller -/
def toOut : Val Crv Pt → Res (Out Crv Pt)
  | .none => .ok .none
  | .vk k => .ok (.vk k)
  | .int v => .ok (.int v)
  | .bytes b => .ok (.bytes b)
  | _ => .error .other

def ofCrv : Option Crv → Val Crv Pt
  | some c => .crv c
  | none => .none

/-- the Python call an `Op` of the model stands for: method name, arguments, and (for key generation) what the
entropy source delivers -/
def opCall : Op Crv Pt Ent → String × List (Val Crv Pt) × Option Ent
  | .setCurve c => ("set_curve", [ofCrv c], none)
  | .genPriv e => ("generate_private_key", [], some e)
  | .loadPriv sk => ("load_private_key", [.sk sk], none)
  | .loadPrivBytes b => ("load_private_key_bytes", [.bytes b], none)
  | .loadPrivDer b => ("load_private_key_der", [.bytes b], none)
  | .loadPrivPem b => ("load_private_key_pem", [.bytes b], none)
  | .getPub => ("get_public_key", [], none)
  | .loadPub vk => ("load_received_public_key", [.vk vk], none)
  | .loadPubBytes b => ("load_received_public_key_bytes", [.bytes b], none)
  | .loadPubDer b => ("load_received_public_key_der", [.bytes b], none)
  | .loadPubPem b => ("load_received_public_key_pem", [.bytes b], none)
  | .secret => ("generate_sharedsecret", [], none)
  | .secretBytes => ("generate_sharedsecret_bytes", [], none)

def stepSource (env : Env Crv Pt Ent) (s : State Crv Pt) (op : Op Crv Pt Ent) : State Crv Pt × Res (Out Crv Pt) :=
  let r := callPublic env (opCall op).2.2 s (opCall op).1 (opCall op).2.1
  (r.1, r.2.bind toOut)

def ofSk : Option (SKey Crv Pt) → Val Crv Pt
  | some k => .sk k
  | none => .none

def ofVk : Option (VKey Crv Pt) → Val Crv Pt
  | some k => .vk k
  | none => .none

/-- `ECDH(curve, private_key, public_key)`: run the generated `__init__` on a blank object; an exception leaves no object -/
def initSource (env : Env Crv Pt Ent) (c : Option Crv) (sk : Option (SKey Crv Pt)) (vk : Option (VKey Crv Pt)) : Res (State Crv Pt) :=
  let r := run env none 40 ⟨none, none, none⟩ [] (.m "__init__" [ofCrv c, ofSk sk, ofVk vk])
  match r.2.2 with
  | .ok _ => .ok r.1
  | .error e => .error e

end
end EcdhTie
