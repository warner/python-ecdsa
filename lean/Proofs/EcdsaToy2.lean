import Proofs.EcdsaRecoverBase
/-!
# Proofs.EcdsaToy2 — a concrete instance of `RecoverOpsCorrect` on a real curve (non-vacuity of C14)

`y² = x³ + 2x + 1` over `𝔽₅` has 7 points: `∞, G=(0,1), 2G=(1,3), 3G=(3,3), 4G=(3,2), 5G=(1,2), 6G=(0,4)`.
A point object is its discrete logarithm in `ZMod 7`; coordinates come from that table.
-/
namespace Ecdsa.Toy2

def xval (A : ZMod 7) : ℤ := match A.val with
  | 1 => 0 | 6 => 0 | 2 => 1 | 5 => 1 | 3 => 3 | 4 => 3 | _ => 0
def yval (A : ZMod 7) : ℤ := match A.val with
  | 1 => 1 | 2 => 3 | 3 => 3 | 4 => 2 | 5 => 2 | 6 => 4 | _ => 0
def xc (A : ZMod 7) : Option ℤ := if A = 0 then none else some (xval A)

def mk (x y : ℤ) : ZMod 7 :=
  if x = 0 ∧ y = 1 then 1 else if x = 1 ∧ y = 3 then 2 else if x = 3 ∧ y = 3 then 3
  else if x = 3 ∧ y = 2 then 4 else if x = 1 ∧ y = 2 then 5 else if x = 0 ∧ y = 4 then 6 else 0

def ops : PointOps (ZMod 7) where
  order := 7
  p := 5
  a := 2
  b := 1
  cofactorIsOne := true
  genHasMulAdd := true
  mulG k := .ok (k : ZMod 7)
  mulAddG u1 Q u2 := .ok ((u1 : ZMod 7) + (u2 : ZMod 7) * Q)
  mul k Q := .ok ((k : ZMod 7) * Q)
  add A B := .ok (A + B)
  isInfinity A := decide (A = 0)
  xOf A := if A = 0 then .error .typeError else .ok (xval A)
  yOf A := if A = 0 then .error .typeError else .ok (yval A)
  scale A := .ok A
  containsPoint x y := decide ((y * y - (x ^ 3 + 2 * x + 1)) % 5 = 0)
  mkPoint x y := mk x y
  fromAffine A := A
  isInfObj A := decide (A = 0)

def sqrt (a _p : ℤ) : Res ℤ := if a = 0 then .ok 0 else if a = 1 then .ok 1 else if a = 4 then .ok 2 else .error .squareRoot

/-- so that `decide` can walk the `N × N` grid -/
theorem int_range2 {P : ℤ → ℤ → Prop} (N : ℕ) (h : ∀ m < N, ∀ n < N, P m n) (x y : ℤ) (hx0 : 0 ≤ x) (hx1 : x < N)
    (hy0 : 0 ≤ y) (hy1 : y < N) : P x y := by
  have := h x.toNat (by omega) y.toNat (by omega)
  rwa [Int.toNat_of_nonneg hx0, Int.toNat_of_nonneg hy0] at this

theorem base : PointOpsCorrect ops (1 : ZMod 7) id xc (fun _ => True) where
  n_prime := by decide
  nG := by decide
  G_ne := by decide
  xc_none := by decide
  xc_neg := by decide
  xc_range := by decide
  mulG k := ⟨k, rfl, trivial, (zsmul_one k).symm⟩
  mulAddG _ u1 Q u2 _ := ⟨_, rfl, trivial, by rw [zsmul_one, zsmul_eq_mul]; rfl⟩
  mul k Q _ := ⟨_, rfl, trivial, (zsmul_eq_mul Q k).symm⟩
  add A B _ _ := ⟨_, rfl, trivial, rfl⟩
  isInf A _ := decide_eq_true_iff
  xOf A _ h := ⟨xval A, if_neg h, if_neg h⟩
  yOf A _ h := ⟨yval A, if_neg h, by revert A; decide⟩
  scale A _ := ⟨A, rfl, trivial, rfl⟩
  fromAffine A _ := ⟨trivial, rfl⟩
  isInfObj A _ h := decide_eq_false h

theorem correct : RecoverOpsCorrect ops (1 : ZMod 7) id xc (fun _ => True) where
  toPointOpsCorrect := base
  containsPoint_iff x y := decide_eq_true_iff
  mkPoint_valid x y hx0 hx1 hy0 hy1 hc _ :=
    int_range2 5 (P := fun x y => ops.containsPoint x y = true →
      True ∧ id (ops.mkPoint x y) ≠ 0 ∧ xc (id (ops.mkPoint x y)) = some x) (by decide) x y hx0 hx1 hy0 hy1 hc
  mkPoint_neg x y y' hx0 hx1 hy0 hy1 hz0 hz1 hc _ hs := by
    -- the opposite ordinate is determined
    obtain rfl : y' = (-y) % 5 := by
      have hs : (y + y') % 5 = 0 := hs
      have hy1 : y < 5 := hy1
      have hz1 : y' < 5 := hz1
      omega
    exact int_range2 5 (P := fun x y => ops.containsPoint x y = true →
      id (ops.mkPoint x ((-y) % 5)) = - id (ops.mkPoint x y)) (by decide) x y hx0 hx1 hy0 hy1 hc
  xc_inj := by decide
  xc_curve R x h := ⟨yval R, by revert R x; unfold OnC; decide⟩
  on_curve A _ hne x y hx hy := by
    obtain rfl : xval A = x := Except.ok.inj ((if_neg hne).symm.trans hx)
    obtain rfl : yval A = y := Except.ok.inj ((if_neg hne).symm.trans hy)
    revert A; decide

theorem sqrt_spec : SqrtSpec sqrt ops.p := by
  intro a h0 h1 ⟨y, hy⟩
  -- only `y mod 5` matters, and `β` is one of `0, 1, 2`: a 5 × 5 table
  have key := int_range2 5 (P := fun a z => (z * z - a) % 5 = 0 →
      ∃ β ∈ [(0 : ℤ), 1, 2], sqrt a 5 = .ok β ∧ 0 ≤ β ∧ β < 5 ∧ (β * β - a) % 5 = 0) (by decide)
    a (y % 5) h0 h1 (Int.emod_nonneg y (by decide)) (Int.emod_lt_of_pos y (by decide))
  obtain ⟨β, -, h⟩ := key (by rw [← hy, Int.sub_emod (y * y), Int.mul_emod y, ← Int.sub_emod]; rfl)
  exact ⟨β, h⟩

end Ecdsa.Toy2
