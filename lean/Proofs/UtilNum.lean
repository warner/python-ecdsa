import Proofs.DerDigits
import Model.Util
/-!
# Proofs.UtilNum — `orderlen`, `number_to_string`, `string_to_number(_fixedlen)`: fixed length, mutually inverse

Names: `f_eq` evaluates the call under its precondition, `f_ok` / `f_err` say what a returned value / exception implies.
-/
namespace Util
open Der

theorem orderlen_pos (n : Nat) : 1 ≤ orderlen n := by
  unfold orderlen; have := hexLen_pos n; omega

theorem orderlen_le_iff (n l : Nat) (hl : 1 ≤ l) : orderlen n ≤ l ↔ n < 256 ^ l := by
  rw [pow256, ← hexLen_le_iff n (2 * l) (by omega)]
  unfold orderlen; omega

theorem lt_pow_orderlen (n : Nat) : n < 256 ^ orderlen n :=
  (orderlen_le_iff n _ (orderlen_pos n)).1 (Nat.le_refl _)

theorem orderlen_spec (n : Nat) (hn : 1 ≤ n) :
    n < 256 ^ orderlen n ∧ 256 ^ (orderlen n - 1) ≤ n ∧ ∀ l, n < 256 ^ l → orderlen n ≤ l := by
  refine ⟨lt_pow_orderlen n, Nat.le_of_not_lt fun h => ?_, fun l hl => ?_⟩
  · -- `orderlen n - 1` bytes do not suffice: for `0` bytes because `1 ≤ n`, otherwise by minimality
    rcases Nat.eq_zero_or_pos (orderlen n - 1) with h0 | h1
    · rw [h0, Nat.pow_zero] at h; omega
    · have := (orderlen_le_iff n _ h1).2 h; omega
  · cases l with
    | zero => rw [Nat.pow_zero] at hl; omega
    | succ l => exact (orderlen_le_iff n _ (by omega)).2 hl

theorem orderlen_unique (n l : Nat) (hn : 1 ≤ n) (h1 : n < 256 ^ l) (h2 : 256 ^ (l - 1) ≤ n) : orderlen n = l := by
  obtain ⟨a, _, c⟩ := orderlen_spec n hn
  have h3 : 256 ^ (l - 1) < 256 ^ orderlen n := Nat.lt_of_le_of_lt h2 a
  have := (Nat.pow_lt_pow_iff_right (a := 256) (by decide)).mp h3
  have := c l h1
  omega

theorem orderlen_zero : orderlen 0 = 1 := by decide

theorem lt_pow_orderlen_of_lt {r n : Nat} (h : r < n) : r < 256 ^ orderlen n :=
  Nat.lt_trans h (lt_pow_orderlen n)

/-- the wording of the property -/
theorem orderlen_eq_bitLength (n : Nat) (hn : 1 ≤ n) : orderlen n = (bitLength n + 7) / 8 := by
  have hb := bitLength_eq_zero_iff n
  have h1 : bitLength n ≤ 8 * orderlen n := (bitLength_le_iff n _).2 (by rw [← pow256_two]; exact lt_pow_orderlen n)
  have h2 : orderlen n ≤ (bitLength n + 7) / 8 :=
    (orderlen_le_iff n _ (by omega)).2 (by rw [pow256_two]; exact (bitLength_le_iff n _).1 (by omega))
  omega

theorem fits_iff (num l : Nat) (hl : 1 ≤ l) :
    (max (hexLen num) (2 * l) % 2 ≠ 1 ∧ max (hexLen num) (2 * l) / 2 = l) ↔ num < 256 ^ l := by
  rw [pow256, ← hexLen_le_iff num (2 * l) (by omega)]
  omega

/-- when `num` does not fit, `unhexlify` fails on an odd number of hex digits and the `assert` on an even one -/
theorem numberToString_cases (num order : Nat) :
    numberToString num order =
      if num < 256 ^ orderlen order then .ok (beFixed (orderlen order) num)
      else if hexLen num % 2 = 1 then .error .binasciiError else .error .assertionError := by
  have hl := orderlen_pos order
  have hfit := hexLen_le_iff num (2 * orderlen order) (by omega)
  rw [← pow256] at hfit
  unfold numberToString
  simp only
  by_cases h : num < 256 ^ orderlen order
  · rw [if_pos h, Nat.max_eq_right (hfit.2 h), if_neg (by omega), if_neg (by omega)]
  · have := mt hfit.1 h
    rw [if_neg h, Nat.max_eq_left (by omega)]
    split
    · rfl
    · rw [if_pos (by omega)]

theorem numberToString_eq (num order : Nat) (h : num < 256 ^ orderlen order) :
    numberToString num order = .ok (beFixed (orderlen order) num) := by
  rw [numberToString_cases, if_pos h]

theorem numberToString_error_kind (num order : Nat) (h : 256 ^ orderlen order ≤ num) :
    numberToString num order = if hexLen num % 2 = 1 then .error .binasciiError else .error .assertionError := by
  rw [numberToString_cases, if_neg (Nat.not_lt.2 h)]

theorem numberToString_ok {num order : Nat} {s : Bytes} (h : numberToString num order = .ok s) :
    num < 256 ^ orderlen order ∧ s = beFixed (orderlen order) num := by
  rw [numberToString_cases] at h
  split at h
  · exact ⟨‹_›, (Except.ok.inj h).symm⟩
  · split at h <;> cases h

theorem numberToString_err {num order : Nat} {e : PyErr} (h : numberToString num order = .error e) :
    256 ^ orderlen order ≤ num ∧ (e = .binasciiError ∨ e = .assertionError) := by
  rw [numberToString_cases] at h
  split at h
  · cases h
  · refine ⟨Nat.le_of_not_lt ‹_›, ?_⟩
    split at h <;> cases h
    · exact Or.inl rfl
    · exact Or.inr rfl

theorem numberToString_spec {num order : Nat} {s : Bytes} (h : numberToString num order = .ok s) :
    s.length = orderlen order ∧ beVal s = num := by
  obtain ⟨h1, rfl⟩ := numberToString_ok h
  exact ⟨beFixed_length _ _, beVal_beFixed_of_lt _ _ h1⟩

theorem stringToNumber_eq (s : Bytes) (h : s ≠ []) : stringToNumber s = .ok (beVal s) := by
  unfold stringToNumber
  cases s with
  | nil => exact absurd rfl h
  | cons => rfl

theorem ne_nil_of_length_eq_orderlen {s : Bytes} {order : Nat} (h : s.length = orderlen order) : s ≠ [] :=
  List.ne_nil_of_length_pos (by have := orderlen_pos order; omega)

/-- the `int(b"", 16)` branch is unreachable: only the `assert` can fail -/
theorem stringToNumberFixedlen_cases (s : Bytes) (order : Nat) :
    stringToNumberFixedlen s order = if s.length = orderlen order then .ok (beVal s) else .error .assertionError := by
  unfold stringToNumberFixedlen
  by_cases h : s.length = orderlen order
  · rw [if_pos h, if_neg (not_not_intro h)]
    cases s with
    | nil => exact absurd rfl (ne_nil_of_length_eq_orderlen h)
    | cons => rfl
  · rw [if_neg h, if_pos h]

theorem stringToNumberFixedlen_eq (s : Bytes) (order : Nat) (h : s.length = orderlen order) :
    stringToNumberFixedlen s order = .ok (beVal s) := by
  rw [stringToNumberFixedlen_cases, if_pos h]

theorem stringToNumberFixedlen_ok {s : Bytes} {order v : Nat} (h : stringToNumberFixedlen s order = .ok v) :
    s.length = orderlen order ∧ v = beVal s := by
  rw [stringToNumberFixedlen_cases] at h
  split at h
  · exact ⟨‹_›, (Except.ok.inj h).symm⟩
  · cases h

theorem stringToNumberFixedlen_err {s : Bytes} {order : Nat} {e : PyErr} (h : stringToNumberFixedlen s order = .error e) :
    s.length ≠ orderlen order ∧ e = .assertionError := by
  rw [stringToNumberFixedlen_cases] at h
  split at h
  · cases h
  · exact ⟨‹_›, (Except.error.inj h).symm⟩

theorem string_number_inverse (num order : Nat) (h : num < 256 ^ orderlen order) :
    ∃ s, numberToString num order = .ok s ∧ s.length = orderlen order
      ∧ stringToNumber s = .ok num ∧ stringToNumberFixedlen s order = .ok num := by
  have hlen := beFixed_length (orderlen order) num
  refine ⟨_, numberToString_eq num order h, hlen, ?_, ?_⟩
  · rw [stringToNumber_eq _ (ne_nil_of_length_eq_orderlen hlen), beVal_beFixed_of_lt _ _ h]
  · rw [stringToNumberFixedlen_eq _ _ hlen, beVal_beFixed_of_lt _ _ h]

theorem number_string_inverse (s : Bytes) (order : Nat) (h : s.length = orderlen order) :
    ∃ v, stringToNumberFixedlen s order = .ok v ∧ stringToNumber s = .ok v ∧ v < 256 ^ orderlen order
      ∧ numberToString v order = .ok s := by
  have hlt : beVal s < 256 ^ orderlen order := by rw [← h]; exact beVal_lt s
  refine ⟨beVal s, stringToNumberFixedlen_eq s order h, stringToNumber_eq s (ne_nil_of_length_eq_orderlen h), hlt, ?_⟩
  rw [numberToString_eq _ _ hlt, ← h, beFixed_beVal]

end Util
