import Proofs.PointObjOps
/-!
# Proofs.PointObjKeys — copies (pickle, copy.copy) and the key operations refine their abstract counterparts
-/
set_option linter.unusedSectionVars false
namespace PointObj
open Curve

variable {G : Type} [AddCommGroup G] [DecidableEq G]
variable {sp : ASpec G} {HS : PJ → List (Int × Int) → G → Prop} {HA : AffPt → G → Prop}

theorem copyPoint_sim (r : Ref) : SimEq HS HA (copyPoint r) (acopyPoint (G := G) r) := by
  unfold copyPoint acopyPoint
  cases r with
  | inf => exact alloc_sim Rel.infc
  | obj i =>
    refine Sim.bind getHeap_sim fun h ah hi => ?_
    rcases hi.get i with ⟨h1, h2⟩ | ⟨o, a, h1, h2, hr⟩ <;> rw [h1, h2]
    · exact Sim.raise _
    · cases hr with
      | pj hs => exact alloc_sim (Rel.pj hs)
      | aff ha => exact alloc_sim (Rel.aff ha)
      | infc => exact alloc_sim Rel.infc
      | _ => exact Sim.raise _

theorem copyKey_sim (k : Nat) : SimEq HS HA (copyKey k) (acopyKey (G := G) k) := by
  unfold copyKey acopyKey
  refine Sim.bind getHeap_sim fun h ah hi => ?_
  rcases hi.get k with ⟨h1, h2⟩ | ⟨o, a, h1, h2, hr⟩ <;> rw [h1, h2]
  · exact Sim.raise _
  · cases hr with
    | key g q =>
      refine Sim.bind (copyPoint_sim g) ?_
      rintro g' _ rfl
      -- the point is copied unless it is the generator object, whose copy is then shared
      refine ite_both
        (fun _ => Sim.bind (R := fun a b => a = b) (Sim.pure rfl) ?_)
        (fun _ => Sim.bind (copyPoint_sim q) ?_)
      all_goals
        rintro q' _ rfl
        refine Sim.bind (alloc_sim (Rel.key g' q')) ?_
        rintro (_ | n) _ rfl
        · exact Sim.raise _
        · exact Sim.pure rfl
    | _ => exact Sim.raise _

theorem pickleObj_sim (r : Ref) : SimEq HS HA (pickleObj r) (apickleObj (G := G) r) := by
  unfold pickleObj apickleObj
  cases r with
  | inf => exact copyPoint_sim Ref.inf
  | obj i =>
    refine Sim.bind getHeap_sim fun h ah hi => ?_
    rcases hi.get i with ⟨h1, h2⟩ | ⟨o, a, h1, h2, hr⟩ <;> rw [h1, h2]
    · exact Sim.raise _
    · cases hr with
      | key g q =>
        refine Sim.bind (copyKey_sim i) ?_
        rintro n _ rfl
        exact Sim.pure rfl
      | skey d vk =>
        refine Sim.bind (copyKey_sim vk) ?_
        rintro n _ rfl
        exact alloc_sim (Rel.skey d n)
      | _ => exact copyPoint_sim _

theorem keyEqObj_sim (hyp : RepIndep sp HS HA) (k1 k2 : Nat) :
    SimEq HS HA (keyEqObj k1 k2) (akeyEqObj (G := G) k1 k2) := by
  unfold keyEqObj akeyEqObj
  refine Sim.bind (getKey_sim k1) ?_
  rintro ⟨g1, q1⟩ _ rfl
  refine Sim.bind (getKey_sim k2) ?_
  rintro ⟨g2, q2⟩ _ rfl
  exact eqObj_sim hyp q1 q2

theorem mkKeyObj_sim (hyp : RepIndep sp HS HA) (g r : Ref) : SimEq HS HA (mkKeyObj g r) (amkKeyObj sp g r) := by
  unfold mkKeyObj amkKeyObj
  refine Sim.bind (getPt_sim r) fun v b hv => Sim.bind (R := fun a b => a = b) ?_ ?_
  · cases hv with
    | inf => exact Sim.raise _
    | jac hs => exact Sim.pure rfl
    | aff ha => exact fromAffineObj_sim hyp r false
  · rintro q _ rfl
    refine readX_some_bind hyp q _ fun x => ?_
    refine Sim.bind (readY_sim hyp q) ?_
    rintro (_ | y) _ rfl
    · exact Sim.raise _
    refine Sim.bind (getPt_sim g) fun w c hw => ?_
    cases hw with
    | jac hs =>
      dsimp only
      rw [hyp.hs_curve hs]
      exact ite_both (fun _ => Sim.raise _) fun _ => ite_both (fun _ => Sim.raise _) fun _ => alloc_sim (Rel.key g q)
    | _ => exact Sim.raise _

theorem keySerObj_sim (hyp : RepIndep sp HS HA) (k enc : Nat) :
    SimEq HS HA (keySerObj k enc) (akeySerObj sp k enc) := by
  unfold keySerObj akeySerObj
  refine Sim.bind (getKey_sim k) ?_
  rintro ⟨g, q⟩ _ rfl
  refine Sim.bind (getPt_sim q) fun v b hv => ?_
  cases hv with
  | jac hs =>
    dsimp only
    rw [hyp.hs_curve hs]
    refine readX_some_bind hyp q _ fun x => Sim.bind Sim.lift ?_
    rintro xs _ rfl
    refine Sim.bind (readY_sim hyp q) ?_
    rintro (_ | y) _ rfl
    · exact Sim.raise _
    refine ite_both (fun _ => Sim.pure rfl) fun _ => Sim.bind Sim.lift ?_
    rintro ys _ rfl
    exact ite_both (fun _ => Sim.pure rfl) fun _ => ite_both (fun _ => Sim.pure rfl) fun _ => Sim.pure rfl
  | _ => exact Sim.raise _

theorem keyPrecomputeObj_sim (hyp : RepIndep sp HS HA) (k : Nat) (lazy : Bool) :
    SimEq HS HA (keyPrecomputeObj k lazy) (akeyPrecomputeObj (G := G) k lazy) := by
  unfold keyPrecomputeObj akeyPrecomputeObj
  refine Sim.of_at fun ah₀ => ((getKey_sim k).at ah₀).bind ?_
  rintro ⟨g, q⟩ _ ah ek rfl
  obtain ⟨rfl, hk⟩ := agetKey_ok ek
  refine ((fromAffineObj_sim hyp q true).at ah).bind ?_
  rintro q' _ _ eq rfl
  obtain ⟨x, o, rfl, rfl⟩ := afromAffineObj_ok eq
  refine ((setCell_sim k (Rel.key g _)).at _).bind ?_
  rintro _ _ _ es _
  cases es
  refine ite_both (fun _ => (Sim.pure rfl).at _) fun _ => ?_
  -- the new object sits behind the old cells, so redirecting cell `k` to it does not touch it
  have hlt : k < ah.length := (List.getElem?_eq_some_iff.1 hk).1
  have hp : IsPJ ((ah ++ [AObj.pj x o true]).set k (.key g (.obj ah.length))) ah.length :=
    ⟨x, o, true, by rw [List.getElem?_set_ne (Nat.ne_of_lt hlt), List.getElem?_concat_length]⟩
  exact (mulObj_sim hyp hp.notAff 2).bind_sim fun _ _ _ => Sim.pure rfl

theorem skSignObj_sim (hyp : RepIndep sp HS HA) (sk : Nat) (hash rk : Int) :
    SimEq HS HA (skSignObj sk hash rk) (askSignObj sp sk hash rk) := by
  unfold skSignObj askSignObj
  refine Sim.bind getHeap_sim fun h ah hi => ?_
  rcases hi.get sk with ⟨h1, h2⟩ | ⟨o, a, h1, h2, hr⟩ <;> rw [h1, h2]
  · exact Sim.raise _
  cases hr with
  | skey d vk =>
    refine Sim.bind (getKey_sim vk) ?_
    rintro ⟨g, _⟩ _ rfl
    refine Sim.of_at fun ah => getPt_bind g fun v b hv hb => ?_
    cases hv with
    | @jac P t x hs =>
      dsimp only
      cases P.order with
      | none => exact (Sim.raise _).at _
      | some n =>
        -- the generator was just read as a `PointJacobi`; the two branches differ in the multiplier only
        refine ite_both (fun _ => ?_) fun _ => ?_
        all_goals
          refine (mulObj_sim hyp (NotAff.of_jac hb) _).bind_sim ?_
          rintro p1 _ rfl
          refine readX_some_bind hyp p1 _ fun x => ite_both (fun _ => Sim.raise _) fun _ => Sim.bind Sim.lift ?_
          rintro kinv _ rfl
          exact ite_both (fun _ => Sim.raise _) fun _ => Sim.pure rfl
    | _ => exact (Sim.raise _).at _
  | _ => exact Sim.raise _

theorem mkSKeyObj_sim (hyp : RepIndep sp HS HA) (g : Ref) (d : Int) :
    SimEq HS HA (mkSKeyObj g d) (amkSKeyObj sp g d) := by
  unfold mkSKeyObj amkSKeyObj
  refine Sim.of_at fun ah => getPt_bind g fun v b hv hb => ?_
  cases hv with
  | @jac P t x hs =>
    dsimp only
    cases P.order with
    | none => exact (Sim.raise _).at _
    | some n =>
      refine ite_both (fun _ => (Sim.raise _).at _) fun _ => (mulObj_sim hyp (NotAff.of_jac hb) d).bind_sim ?_
      rintro pt _ rfl
      refine Sim.bind (getPt_sim pt) fun w c hw => Sim.bind (R := fun a b => a = b) ?_ ?_
      · -- `if hasattr(pubkey_point, "scale")`
        cases hw with
        | jac _ => exact scaleObj_sim hyp pt
        | _ => exact Sim.pure rfl
      · rintro pt' _ rfl
        refine Sim.bind (mkKeyObj_sim hyp g pt') ?_
        rintro (_ | vk) _ rfl
        · exact Sim.raise _
        · exact alloc_sim (Rel.skey d vk)
  | _ => exact (Sim.raise _).at _

end PointObj
