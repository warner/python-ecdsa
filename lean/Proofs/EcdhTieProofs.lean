import Proofs.EcdhTie
/-!
# Proofs.EcdhTieProofs — the generated ECDH methods, each executed once

A method that calls another one uses the theorem about the callee; the callee is not executed again.  Execution is
`simp only [ecdh_run]`: the interpreter's equations, the rows of the semantic tables for the names `ecdh.py` uses (so that
`simp` does not unfold a table and evaluate its string patterns), and the laws of `andThen` that keep the task in progress
at the head of the term.
-/
namespace EcdhTie
open Ecdh Gen.Ecdh
variable {Crv Pt Ent : Type} [DecidableEq Crv]

attribute [ecdh_run] run_nil run_ifDo run_ifRaise run_falsy run_truthy
  run_ne run_eq run_notEq3 run_selfAttr run_attr run_var run_noneLit run_infinity run_setSelf run_setLocal run_ret
  run_exprStmt run_mcall0 run_mul run_selfCall0 run_selfCall1 run_call1 run_call2 run_callKw run_call1Kw
  andThen_ok andThen_error opCall bindParams
  Bool.not_true Bool.not_false String.reduceEq ite_true ite_false decide_true decide_false

/-! one statement per function, a conjunction of its rows: `simp` takes each conjunct as a rewrite rule -/
section tables
variable (env : Env Crv Pt Ent) (ent : Option Ent) (st : State Crv Pt)

@[ecdh_run] theorem binop_rows :
    (∀ c c', eqV env (.crv c) (.crv c') = .ok (decide (c = c'))) ∧
    (∀ c o, eqV env (.crv c) (ofCrv o) = .ok (decide (some c = o))) ∧
    (∀ o c, eqV env (ofCrv o) (.crv c) = .ok (decide (o = some c))) ∧
    (∀ p, eqV env (.pt p) .infinity = .ok (env.isInf p)) ∧
    (∀ p d, mulV env (.pt p) (.int d) = (env.mul p d).map .pt) := by
  refine ⟨fun _ _ => rfl, fun _ o => ?_, fun o _ => ?_, fun _ => rfl, fun _ _ => rfl⟩
  · cases o <;> simp [ofCrv, eqV]
  · cases o <;> simp [ofCrv, eqV]

omit [DecidableEq Crv]

@[ecdh_run] theorem getSelf_rows :
    getSelf st "curve" = .ok (ofCrv st.curve) ∧
    getSelf st "private_key" = .ok (ofSk st.priv) ∧
    getSelf st "public_key" = .ok (ofVk st.pub) := by
  and_intros <;> rw [getSelf] <;> rfl

-- four rows with names of their own: `run_adopt_check_store` takes them as arguments
theorem setSelf_private_key_sk (k : SKey Crv Pt) : setSelf st "private_key" (.sk k) = .ok { st with priv := some k } := by
  rw [setSelf]
theorem setSelf_public_key_vk (w : VKey Crv Pt) : setSelf st "public_key" (.vk w) = .ok { st with pub := some w } := by
  rw [setSelf]
@[ecdh_run] theorem setSelf_curve (o : Option Crv) : setSelf st "curve" (ofCrv o) = .ok { st with curve := o } := by
  cases o <;> rw [ofCrv, setSelf]
@[ecdh_run] theorem setSelf_rows :
    (∀ c, setSelf st "curve" (.crv c) = .ok { st with curve := some c }) ∧
    setSelf st "private_key" .none = .ok { st with priv := none } ∧
    setSelf st "public_key" .none = .ok { st with pub := none } := by
  and_intros <;> intros <;> rw [setSelf]

@[ecdh_run] theorem getAttr_sk_curve (k : SKey Crv Pt) : getAttr (.sk k) "curve" = .ok (.crv k.curve) := by rw [getAttr]
@[ecdh_run] theorem getAttr_vk_curve (w : VKey Crv Pt) : getAttr (.vk w) "curve" = .ok (.crv w.curve) := by rw [getAttr]
@[ecdh_run] theorem getAttr_rows :
    (∀ a, getAttr (Crv := Crv) (Pt := Pt) .none a = .error .attributeError) ∧
    (∀ k : SKey Crv Pt, getAttr (.sk k) "privkey" = .ok (.privkey k)) ∧
    (∀ w : VKey Crv Pt, getAttr (.vk w) "pubkey" = .ok (.pubkey w)) ∧
    (∀ k : SKey Crv Pt, getAttr (.privkey k) "secret_multiplier" = .ok (.int k.d)) ∧
    (∀ w : VKey Crv Pt, getAttr (.pubkey w) "point" = .ok (.pt w.point)) ∧
    (∀ c : Crv, getAttr (Pt := Pt) (.crv c) "curve" = .ok (.curveFp c)) := by
  and_intros <;> intros <;> rw [getAttr]

@[ecdh_run] theorem callMethod0_rows :
    (∀ a, callMethod0 env .none a = .error .attributeError) ∧
    (∀ k, callMethod0 env (.sk k) "get_verifying_key" = .ok (.vk k.vk)) ∧
    (∀ c, callMethod0 env (.curveFp c) "p" = .ok (.int (env.fieldP c))) ∧
    (∀ p, callMethod0 env (.pt p) "x" = (env.xOf p).map .int) := by
  and_intros <;> intros <;> rw [callMethod0]

@[ecdh_run] theorem callExt_generate (c : Crv) (e : Ent) :
    callExt env (some e) "SigningKey.generate" [] (some ("curve", .crv c)) = (env.generate c e).map .sk := by rw [callExt]
@[ecdh_run] theorem callExt_rows :
    (∀ b c, callExt env ent "SigningKey.from_string" [.bytes b] (some ("curve", .crv c)) = (env.skFromString c b).map .sk) ∧
    (∀ b, callExt env ent "SigningKey.from_der" [.bytes b] none = (env.skFromDer b).map .sk) ∧
    (∀ b, callExt env ent "SigningKey.from_pem" [.bytes b] none = (env.skFromPem b).map .sk) ∧
    (∀ b c, callExt env ent "VerifyingKey.from_string" [.bytes b, .crv c] none = (env.vkFromString c b).map .vk) ∧
    (∀ b, callExt env ent "VerifyingKey.from_string" [.bytes b, .none] none = .error .attributeError) ∧
    (∀ b, callExt env ent "VerifyingKey.from_der" [.bytes b] none = (env.vkFromDer b).map .vk) ∧
    (∀ b, callExt env ent "VerifyingKey.from_pem" [.bytes b] none = (env.vkFromPem b).map .vk) ∧
    (∀ v n, callExt env ent "number_to_string" [.int v, .int n] none = (numberToStringInt v n.toNat).map .bytes) := by
  and_intros <;> intros <;> rw [callExt]

@[ecdh_run] theorem excOf_rows :
    excOf "NoKeyError" = .noKey ∧ excOf "NoCurveError" = .noCurve ∧ excOf "InvalidCurveError" = .invalidCurve ∧
    excOf "InvalidSharedSecretError" = .invalidSharedSecret := by
  and_intros <;> rw [excOf]

@[ecdh_run] theorem map_rows {α β : Type} (g : α → β) :
    (∀ x, Except.map (ε := PyErr) g (.ok x) = .ok (g x)) ∧ (∀ e, Except.map g (.error e : Res α) = .error e) :=
  ⟨fun _ => rfl, fun _ => rfl⟩

@[ecdh_run] theorem value_rows :
    truthy (Crv := Crv) (Pt := Pt) .none = .ok false ∧ (∀ c : Crv, truthy (Pt := Pt) (.crv c) = .ok true) ∧
    (∀ k : SKey Crv Pt, truthy (.sk k) = .ok true) ∧ (∀ w : VKey Crv Pt, truthy (.vk w) = .ok true) ∧
    (∀ c : Crv, ofCrv (Pt := Pt) (some c) = .crv c) ∧ ofCrv (Crv := Crv) (Pt := Pt) none = .none ∧
    (∀ k : SKey Crv Pt, ofSk (some k) = .sk k) ∧ ofSk (Crv := Crv) (Pt := Pt) none = .none ∧
    (∀ w : VKey Crv Pt, ofVk (some w) = .vk w) ∧ ofVk (Crv := Crv) (Pt := Pt) none = .none := by
  and_intros <;> intros <;> rfl

@[ecdh_run] theorem lookupVar_cons (m n : String) (v : Val Crv Pt) (vs : Vars Crv Pt) :
    lookupVar ((m, v) :: vs) n = if m = n then .ok v else lookupVar vs n := by
  by_cases h : m = n <;> simp [lookupVar, h]
end tables

/-- the local variables dropped: on an exception they are the callee's, and no caller looks at them -/
def outcome (r : R Crv Pt) : State Crv Pt × Res (Val Crv Pt) := (r.1, r.2.2)

def ofOut : Out Crv Pt → Val Crv Pt
  | .none => .none
  | .vk k => .vk k
  | .int v => .int v
  | .bytes b => .bytes b

def asVal (r : State Crv Pt × Res (Out Crv Pt)) : State Crv Pt × Res (Val Crv Pt) := (r.1, r.2.map ofOut)

/-- `andThen` for a continuation that does not look at the local variables -/
def bindOut (r : State Crv Pt × Res (Val Crv Pt)) (k : State Crv Pt → Val Crv Pt → State Crv Pt × Res (Val Crv Pt)) :
    State Crv Pt × Res (Val Crv Pt) :=
  match r with
  | (st, .ok v) => k st v
  | (st, .error e) => (st, .error e)

/-- the continuation of `run_cons`, as a function with a name: written as a `fun` in place, `simp` would execute the rest of
the program under the binder, on an unknown state, before it has executed the first statement -/
def thenRest (env : Env Crv Pt Ent) (ent : Option Ent) (f : Nat) (rest : List Stmt) (st : State Crv Pt) (vs : Vars Crv Pt) :
    Val Crv Pt → R Crv Pt
  | .returned x => (st, vs, .ok x)
  | _ => run env ent f st vs (.l rest)

section
variable (env : Env Crv Pt Ent) (ent : Option Ent) (f : Nat) (st : State Crv Pt) (vs : Vars Crv Pt)
@[ecdh_run] theorem run_cons_thenRest (s : Stmt) (rest : List Stmt) : run env ent (f+1) st vs (.l (s :: rest)) =
    andThen (run env ent f st vs (.s s)) (thenRest env ent f rest) := by
  rw [run_cons]; congr 1
@[ecdh_run] theorem thenRest_cont (rest : List Stmt) : thenRest env ent f rest st vs .cont = run env ent f st vs (.l rest) := by rfl
@[ecdh_run] theorem thenRest_returned (rest : List Stmt) (x : Val Crv Pt) : thenRest env ent f rest st vs (.returned x) = (st, vs, .ok x) := by rfl

omit [DecidableEq Crv]
@[ecdh_run] theorem andThen_assoc (r : R Crv Pt) (k k' : State Crv Pt → Vars Crv Pt → Val Crv Pt → R Crv Pt) :
    andThen (andThen r k) k' = andThen r fun st vs v => andThen (k st vs v) k' := by
  obtain ⟨st, vs, _ | v⟩ := r <;> rfl

@[ecdh_run] theorem outcome_andThen_ignore (r : R Crv Pt) (k : State Crv Pt → Val Crv Pt → R Crv Pt) :
    outcome (andThen r fun st _ v => k st v) = bindOut (outcome r) fun st v => outcome (k st v) := by
  obtain ⟨st, vs, _ | v⟩ := r <;> rfl

@[ecdh_run] theorem bindOut_pure (r : State Crv Pt × Res (Val Crv Pt)) : bindOut r (fun st v => (st, .ok v)) = r := by
  obtain ⟨st, _ | v⟩ := r <;> rfl

@[ecdh_run] theorem bindOut_ok (v : Val Crv Pt) (k : State Crv Pt → Val Crv Pt → State Crv Pt × Res (Val Crv Pt)) :
    bindOut (st, .ok v) k = k st v := rfl
@[ecdh_run] theorem bindOut_error (e : PyErr) (k : State Crv Pt → Val Crv Pt → State Crv Pt × Res (Val Crv Pt)) :
    bindOut (st, .error e) k = (st, .error e) := rfl

@[ecdh_run] theorem outcome_mk (r : Res (Val Crv Pt)) : outcome (st, vs, r) = (st, r) := by rfl
end

theorem find_name : ∀ md ∈ methods, methods.find? (·.name = md.name) = some md := by
  decide +kernel

section methods
variable {env : Env Crv Pt Ent} {ent : Option Ent} {f : Nat} {st : State Crv Pt} {vs : Vars Crv Pt}

/-- `i` is the place of `md` in `Gen.Ecdh.methods`; `h` (always `rfl`) checks it -/
theorem outcome_run_method (md : Method) (i : Nat) (h : methods[i]? = some md) (args : List (Val Crv Pt)) :
    outcome (run env ent (f+1) st vs (.m md.name args)) = outcome (run env ent f st (bindParams md.params args) (.l md.body)) := by
  rw [run_method, find_name md (List.mem_of_getElem? h), outcome_andThen_ignore]; exact bindOut_pure _

/-- the three statements `load_private_key` and `load_received_public_key` share (`p` the parameter, `a` the attribute,
`kv` the key object, `c` its curve).  `s1` is a parameter so that a caller can pass the `s1` of the model's own `let` and
meet the same `if` on both sides -/
theorem run_adopt_check_store (p a : String) (kv : Val Crv Pt) (c : Crv) (upd : State Crv Pt → State Crv Pt) (rest : List Stmt)
    (hattr : getAttr kv "curve" = .ok (.crv c)) (hset : ∀ st, setSelf st a kv = .ok (upd st)) (s1 : State Crv Pt)
    (hs1 : s1 = match st.curve with
      | none => { st with curve := some c }
      | some _ => st) :
    run env ent (f+6) st [(p, kv)] (.l (
      .ifDo (.falsy (.selfAttr "curve")) (.setSelf "curve" (.attr (.var p) "curve")) ::
      .ifRaise (.ne (.selfAttr "curve") (.attr (.var p) "curve")) "InvalidCurveError" ::
      .setSelf a (.var p) :: rest)) =
    if s1.curve ≠ some c then (s1, [(p, kv)], .error .invalidCurve)
    else run env ent (f+3) (upd s1) [(p, kv)] (.l rest) := by
  subst hs1
  cases hc : st.curve with
  | none =>
    simp only [ecdh_run, hc, hattr, hset, ne_eq, not_true_eq_false]
  | some c' =>
    by_cases h : c' = c
    · simp only [ecdh_run, hc, hattr, hset, h, ne_eq, not_true_eq_false]
    · simp only [ecdh_run, hc, hattr, h, ne_eq, Option.some.injEq, not_false_eq_true]

theorem outcome_load_private_key (sk : SKey Crv Pt) :
    outcome (run env ent (f+8) st vs (.m "load_private_key" [.sk sk])) = asVal (loadPrivate st sk) := by
  unfold loadPrivate
  extract_lets s1
  refine (outcome_run_method m_load_private_key 4 rfl _).trans ?_
  simp only [m_load_private_key, bindParams]
  rw [run_adopt_check_store "private_key" "private_key" (.sk sk) sk.curve (fun st => { st with priv := some sk }) _
    (getAttr_sk_curve sk) (fun st => setSelf_private_key_sk st sk) s1 rfl]
  split
  · rfl
  · -- return self.private_key.get_verifying_key()
    simp only [ecdh_run, asVal, ofOut]

theorem outcome_load_received_public_key (vk : VKey Crv Pt) :
    outcome (run env ent (f+7) st vs (.m "load_received_public_key" [.vk vk])) = asVal (loadPublic st vk) := by
  unfold loadPublic
  extract_lets s1
  refine (outcome_run_method m_load_received_public_key 9 rfl _).trans ?_
  simp only [m_load_received_public_key, bindParams]
  rw [run_adopt_check_store "public_key" "public_key" (.vk vk) vk.curve (fun st => { st with pub := some vk }) _
    (getAttr_vk_curve vk) (fun st => setSelf_public_key_vk st vk) s1 rfl]
  split
  · rfl
  · simp only [ecdh_run, asVal, ofOut]

theorem outcome_get_shared_secret :
    outcome (run env ent (f+10) st vs (.m "_get_shared_secret" [ofVk st.pub])) = (st, (getSharedSecret env st).map .int) := by
  refine (outcome_run_method m_get_shared_secret 1 rfl _).trans ?_
  unfold getSharedSecret
  simp only [m_get_shared_secret]
  cases hp : st.priv with
  | none => simp only [ecdh_run, hp]   -- `if not self.private_key: raise NoKeyError`
  | some sk =>
    cases hq : st.pub with
    | none => simp only [ecdh_run, hp, hq]   -- `if not self.public_key: raise NoKeyError`
    | some vk =>
      simp only [ecdh_run, hp, hq]
      -- `not (self.private_key.curve == self.curve == remote_public_key.curve)` evaluates the second `==` only after the first
      by_cases h1 : some sk.curve = st.curve
      · by_cases h2 : st.curve = some vk.curve
        · simp only [ecdh_run, hp, h1, h2, and_self, not_true_eq_false]
          cases hm : env.mul vk.point sk.d with
          | error e => simp only [ecdh_run]
          | ok R =>
            simp only [ecdh_run]
            cases hi : env.isInf R with
            | true => simp only [ecdh_run]   -- `if result == INFINITY: raise InvalidSharedSecretError`
            | false =>
              simp only [ecdh_run, Bool.false_eq_true]
              cases env.xOf R <;> rfl
        · simp only [ecdh_run, h1, h2, and_false, not_false_eq_true]
      · simp only [ecdh_run, h1, false_and, not_false_eq_true]

theorem outcome_generate_sharedsecret :
    outcome (run env ent (f+14) st vs (.m "generate_sharedsecret" [])) = (st, (getSharedSecret env st).map .int) := by
  refine (outcome_run_method m_generate_sharedsecret 14 rfl _).trans ?_
  simp only [m_generate_sharedsecret, ecdh_run, outcome_get_shared_secret]

theorem outcome_generate_sharedsecret_bytes :
    outcome (run env ent (f+19) st vs (.m "generate_sharedsecret_bytes" [])) = asVal (step env st .secretBytes) := by
  refine (outcome_run_method m_generate_sharedsecret_bytes 13 rfl _).trans ?_
  simp only [m_generate_sharedsecret_bytes, ecdh_run, outcome_generate_sharedsecret, step, secretBytes]
  cases getSharedSecret env st with
  | error e => rfl
  | ok v =>
    simp only [ecdh_run]
    cases hp : st.priv with
    | none => simp only [ecdh_run, asVal]  -- unreachable in fact: without a private key the call has raised `NoKeyError`
    | some sk =>
      simp only [ecdh_run, Int.toNat_natCast]
      cases numberToStringInt v (env.fieldP sk.curve) <;> rfl

/-- `self.<m>(<constructor>(…))` once the constructor has run -/
theorem outcome_load_result {K : Type} (inj : K → Val Crv Pt) (load : State Crv Pt → K → State Crv Pt × Res (Out Crv Pt))
    (m : String) (r : Res K) (hload : ∀ k, outcome (run env ent f st vs (.m m [inj k])) = asVal (load st k)) :
    outcome (andThen (st, vs, r.map inj) fun st vs va => andThen (run env ent f st vs (.m m [va])) fun st _ v => (st, vs, .ok v)) =
      asVal (viaLoader st r load) := by
  cases r with
  | error e => rfl
  | ok k =>
    simp only [ecdh_run, hload]
    rfl

theorem outcome_delegate {K : Type} (md : Method) (i : Nat) (h : methods[i]? = some md) {m : String} {a : Expr}
    (hbody : md.body = [.ret (.selfCall1 m a)]) (args : List (Val Crv Pt))
    (inj : K → Val Crv Pt) (load : State Crv Pt → K → State Crv Pt × Res (Out Crv Pt)) (r : Res K)
    (hload : ∀ k, outcome (run env ent f st (bindParams md.params args) (.m m [inj k])) = asVal (load st k))
    (harg : run env ent f st (bindParams md.params args) (.e a) = (st, bindParams md.params args, r.map inj)) :
    outcome (run env ent (f+4) st vs (.m md.name args)) = asVal (viaLoader st r load) := by
  rw [outcome_run_method md i h, hbody]
  simp only [ecdh_run, harg]
  exact outcome_load_result inj load m r hload

omit [DecidableEq Crv] in
theorem toOut_ofOut (r : Res (Out Crv Pt)) : (r.map ofOut).bind toOut = r := by
  rcases r with _ | (_ | _ | _ | _) <;> rfl

theorem outcome_method (op : Op Crv Pt Ent) :
    outcome (run env (opCall op).2.2 (f+19) st vs (.m (opCall op).1 (opCall op).2.1)) = asVal (step env st op) := by
  cases op with
  | setCurve c =>
    refine (outcome_run_method m_set_curve 2 rfl _).trans ?_
    simp only [m_set_curve, ecdh_run]; rfl
  | genPriv e =>
    refine (outcome_run_method m_generate_private_key 3 rfl _).trans ?_
    simp only [m_generate_private_key, step]
    cases hc : st.curve with
    | none => simp only [ecdh_run, hc, asVal]   -- `if not self.curve: raise NoCurveError`
    | some c =>
      simp only [ecdh_run, hc]
      exact outcome_load_result .sk loadPrivate _ _ fun _ => outcome_load_private_key _
  | loadPriv sk => exact outcome_load_private_key sk
  | loadPrivBytes b =>
    refine (outcome_run_method m_load_private_key_bytes 5 rfl _).trans ?_
    simp only [m_load_private_key_bytes, step]
    cases hc : st.curve with
    | none => simp only [ecdh_run, hc, asVal]   -- `if not self.curve: raise NoCurveError`
    | some c =>
      simp only [ecdh_run, hc]
      exact outcome_load_result .sk loadPrivate _ _ fun _ => outcome_load_private_key _
  | loadPrivDer b =>
    exact outcome_delegate m_load_private_key_der 6 rfl rfl _ .sk loadPrivate (env.skFromDer b) outcome_load_private_key
      (by simp only [m_load_private_key_der, ecdh_run])
  | loadPrivPem b =>
    exact outcome_delegate m_load_private_key_pem 7 rfl rfl _ .sk loadPrivate (env.skFromPem b) outcome_load_private_key
      (by simp only [m_load_private_key_pem, ecdh_run])
  | getPub =>
    refine (outcome_run_method m_get_public_key 8 rfl _).trans ?_
    simp only [m_get_public_key, step]
    cases hp : st.priv <;> simp only [ecdh_run, hp, asVal, ofOut]
  | loadPub vk => exact outcome_load_received_public_key vk
  | loadPubBytes b =>
    refine (outcome_run_method m_load_received_public_key_bytes 10 rfl _).trans ?_
    simp only [m_load_received_public_key_bytes, step]
    cases hc : st.curve with
    | none => simp only [ecdh_run, hc, asVal]   -- `VerifyingKey.from_string(s, None)`: `None.verifying_key_length`
    | some c =>
      simp only [ecdh_run, hc]
      exact outcome_load_result .vk loadPublic _ _ fun _ => outcome_load_received_public_key _
  | loadPubDer b =>
    exact outcome_delegate m_load_received_public_key_der 11 rfl rfl _ .vk loadPublic (env.vkFromDer b) outcome_load_received_public_key
      (by simp only [m_load_received_public_key_der, ecdh_run])
  | loadPubPem b =>
    exact outcome_delegate m_load_received_public_key_pem 12 rfl rfl _ .vk loadPublic (env.vkFromPem b) outcome_load_received_public_key
      (by simp only [m_load_received_public_key_pem, ecdh_run])
  | secret =>
    refine outcome_generate_sharedsecret.trans ?_
    simp only [step, asVal]
    cases getSharedSecret env st <;> rfl
  | secretBytes => exact outcome_generate_sharedsecret_bytes

theorem stepSource_of_outcome {s : State Crv Pt} {op : Op Crv Pt Ent} {x : State Crv Pt × Res (Out Crv Pt)}
    (h : outcome (run env (opCall op).2.2 40 s [] (.m (opCall op).1 (opCall op).2.1)) = asVal x) : stepSource env s op = x := by
  show ((outcome _).1, (outcome _).2.bind toOut) = x
  rw [h]
  exact Prod.ext rfl (toOut_ofOut x.2)

end methods
end EcdhTie
