import Proofs.RWLive
/-! # Proofs.RWTerm — thread level: deadlock freedom, the termination measure, maximal schedules end with every
thread finished, visible steps stay inside `Reach` -/
namespace RW

def PcOk (P : Progs) (c : Cfg) : Prop :=
  ∀ t ∈ c.thr, ∀ r k, t.pt = some (r, k) → k < (P.round r).length

theorem tstep_ok {P : Progs} {c c' : Cfg} {i : Nat} (h : tstep P c i = .ok c') :
    ∃ t r rest ins sh', c.thr[i]? = some t ∧ t.rounds = r :: rest ∧ (P.round r)[t.pc]? = some ins ∧
      exec ins c.sh = .ok sh' ∧ c' = ⟨sh', c.thr.set i (advance P t)⟩ := by
  obtain ⟨t, r, rest, ins, ht, hr, hins, e⟩ := tstep_some h nofun
  cases hex : exec ins c.sh <;> rw [hex] at e <;> cases e
  exact ⟨t, r, rest, ins, _, ht, hr, hins, hex, rfl⟩

theorem dest_lt {P : Progs} (hne : ∀ r, 0 < (P.round r).length) {r r' : Role} {k k' : Nat} {nxt : Option Role}
    (h : dest P r k nxt = some (r', k')) : k' < (P.round r').length := by
  unfold dest at h
  split at h
  · cases h; assumption
  · cases nxt <;> cases h
    exact hne _

theorem pcOk_step {P : Progs} (hne : ∀ r, 0 < (P.round r).length) {c c' : Cfg} {i : Nat}
    (hc : PcOk P c) (h : tstep P c i = .ok c') : PcOk P c' := by
  obtain ⟨t, r, rest, ins, sh', ht, hr, hins, hex, rfl⟩ := tstep_ok h
  intro t' ht' r' k' hpt'
  rcases List.mem_or_eq_of_mem_set ht' with h1 | rfl
  · exact hc t' h1 r' k' hpt'
  · rw [advance_pt hr] at hpt'
    exact dest_lt hne hpt'

theorem round_pos : ∀ r, 0 < (GP.round r).length := by
  intro r; cases r
  · rw [round_len_reader]; omega
  · rw [round_len_writer]; omega

theorem reach_pcOk {rs : List (List Role)} {c : Cfg} (h : Reach GP rs c) : PcOk GP c := by
  induction h with
  | init =>
    intro t ht r k hpt
    obtain ⟨l, -, rfl⟩ := List.mem_map.mp ht
    obtain ⟨rest, -, rfl⟩ := pt_eq_some.mp hpt
    exact round_pos r
  | step i _ hs ih => exact pcOk_step round_pos ih hs

theorem deadlock_free_thr {rs : List (List Role)} {c : Cfg} (h : Reach GP rs c)
    (hun : ∃ t ∈ c.thr, t.finished = false) : ∃ i c', tstep GP c i = .ok c' := by
  obtain ⟨t, ht, hf⟩ := hun
  obtain ⟨rounds, pc⟩ := t
  cases rounds with
  | nil => simp [Thread.finished] at hf
  | cons r rest =>
    have hpc := reach_pcOk h _ ht r pc rfl
    obtain ⟨i, hi⟩ := List.getElem?_of_mem ht
    have hcnt : (abs c).cnt r pc ≠ 0 := cntAt_ne_zero hi rfl
    obtain ⟨r', k', hen⟩ := rinv_progress (abs c) (reach_rinv h) ⟨r, pc, hcnt, hpc⟩
    obtain ⟨hc', ins, hins, hg⟩ := (enabled_iff GP (abs c) r' k').mp hen
    obtain ⟨j, tj, restj, hj, hrj, hkj, hsim⟩ := sim_back GP c r' k' hc'
    obtain ⟨s', hs'⟩ := cstep_ok_of_guard hc' hins hg restj.head?
    rw [hs'] at hsim
    cases hts : tstep GP c j with
    | ok c' => exact ⟨j, c', hts⟩
    | _ => rw [hts] at hsim; cases hsim

theorem sum_map_set {α : Type} (f : α → Nat) : ∀ (l : List α) (i : Nat) (a b : α), l[i]? = some a →
    ((l.set i b).map f).sum + f a = (l.map f).sum + f b
  | [], i, a, b, h => by simp at h
  | x :: l, 0, a, b, h => by
    simp only [List.getElem?_cons_zero, Option.some.injEq] at h
    subst h
    simp only [List.set_cons_zero, List.map_cons, List.sum_cons]
    omega
  | x :: l, i + 1, a, b, h => by
    simp only [List.getElem?_cons_succ] at h
    have := sum_map_set f l i a b h
    simp only [List.set_cons_succ, List.map_cons, List.sum_cons]
    omega

theorem remaining_advance {P : Progs} {t : Thread} {r rest} (hr : t.rounds = r :: rest)
    (hpc : t.pc < (P.round r).length) : (advance P t).remaining P + 1 = t.remaining P := by
  obtain ⟨rounds, pc⟩ := t
  simp only at hr hpc
  subst hr
  unfold advance
  simp only
  split
  · simp only [Thread.remaining]; omega
  · rename_i hge
    have : pc + 1 = (P.round r).length := by omega
    cases rest with
    | nil => simp only [Thread.remaining, List.map_nil, List.sum_nil]; omega
    | cons r' rest' => simp only [Thread.remaining, List.map_cons, List.sum_cons]; omega

theorem remaining_step {P : Progs} {c c' : Cfg} {i : Nat} (h : tstep P c i = .ok c') :
    c'.remaining P + 1 = c.remaining P := by
  obtain ⟨t, r, rest, ins, sh', ht, hr, hins, hex, rfl⟩ := tstep_ok h
  have hpc : t.pc < (P.round r).length := (List.getElem?_eq_some_iff.mp hins).1
  have h1 := sum_map_set (Thread.remaining P) c.thr i t (advance P t) ht
  have h2 := remaining_advance (P := P) hr hpc
  simp only [Cfg.remaining]
  omega

theorem runSched_cons_ok {P : Progs} {c c' : Cfg} {i : Nat} {rest : List Nat} :
    runSched P c (i :: rest) = .ok c' ↔ ∃ c1, tstep P c i = .ok c1 ∧ runSched P c1 rest = .ok c' := by
  simp only [runSched]
  split <;> simp_all

theorem runSched_reach {P : Progs} {rs : List (List Role)} : ∀ (sched : List Nat) (c c' : Cfg),
    Reach P rs c → runSched P c sched = .ok c' → Reach P rs c'
  | [], c, c', h, hr => by cases hr; exact h
  | i :: rest, c, c', h, hr => by
    obtain ⟨c1, h1, h2⟩ := runSched_cons_ok.mp hr
    exact runSched_reach rest c1 c' (Reach.step i h h1) h2

theorem runSched_remaining {P : Progs} : ∀ (sched : List Nat) (c c' : Cfg),
    runSched P c sched = .ok c' → c'.remaining P + sched.length = c.remaining P
  | [], c, c', hr => by cases hr; rfl
  | i :: rest, c, c', hr => by
    obtain ⟨c1, h1, h2⟩ := runSched_cons_ok.mp hr
    have := runSched_remaining rest c1 c' h2
    have := remaining_step h1
    simp only [List.length_cons]; omega

theorem runSched_append {P : Progs} : ∀ (s1 s2 : List Nat) (c c1 : Cfg),
    runSched P c s1 = .ok c1 → runSched P c (s1 ++ s2) = runSched P c1 s2
  | [], s2, c, c1, h => by cases h; rfl
  | i :: rest, s2, c, c1, h => by
    obtain ⟨c', h1, h2⟩ := runSched_cons_ok.mp h
    simp only [List.cons_append, runSched, h1]
    exact runSched_append rest s2 c' c1 h2

def Stuck (P : Progs) (c : Cfg) : Prop := ∀ i c', tstep P c i ≠ .ok c'
def AllFinished (c : Cfg) : Prop := ∀ t ∈ c.thr, t.finished = true

theorem exists_unfinished {c : Cfg} (h : ¬ AllFinished c) : ∃ t ∈ c.thr, t.finished = false := by
  obtain ⟨t, ht⟩ := Classical.not_forall.mp h
  obtain ⟨hmem, hf⟩ := Classical.not_imp.mp ht
  exact ⟨t, hmem, Bool.eq_false_iff.mpr hf⟩

theorem stuck_finished {rs : List (List Role)} {c : Cfg} (h : Reach GP rs c) (hs : Stuck GP c) : AllFinished c :=
  Classical.byContradiction fun hfin =>
    let ⟨i, c', hst⟩ := deadlock_free_thr h (exists_unfinished hfin)
    hs i c' hst

theorem remaining_zero_of_finished {P : Progs} {c : Cfg} (h : AllFinished c) : c.remaining P = 0 := by
  unfold Cfg.remaining
  rw [List.sum_eq_zero_iff_forall_eq_nat]
  intro n hn
  obtain ⟨⟨rounds, pc⟩, ht, rfl⟩ := List.mem_map.mp hn
  cases rounds with
  | nil => rfl
  | cons r rest => exact absurd (h _ ht) (by simp [Thread.finished])

/-- so no acquire is lost: each pending `*_acquire` / `*_release` can still return -/
theorem can_finish {rs : List (List Role)} (c : Cfg) (h : Reach GP rs c) :
    ∃ sched c', runSched GP c sched = .ok c' ∧ AllFinished c' := by
  by_cases hfin : AllFinished c
  · exact ⟨[], c, rfl, hfin⟩
  · obtain ⟨i, c1, hst⟩ := deadlock_free_thr h (exists_unfinished hfin)
    have hrem := remaining_step hst
    obtain ⟨sched, c', hrun, hfin'⟩ := can_finish c1 (Reach.step i h hst)
    exact ⟨i :: sched, c', runSched_cons_ok.mpr ⟨c1, hst, hrun⟩, hfin'⟩
termination_by c.remaining GP
decreasing_by omega

theorem runToYield_reach {P : Progs} {rs : List (List Role)} (i : Nat) : ∀ (fuel : Nat) (c c' : Cfg),
    Reach P rs c → runToYield P i fuel c = .ok c' → Reach P rs c'
  | 0, c, c', h, hr => by cases hr; exact h
  | fuel + 1, c, c', h, hr => by
    simp only [runToYield] at hr
    split at hr
    · cases hr; exact h
    · split at hr
      · rename_i c1 h1
        exact runToYield_reach i fuel c1 c' (Reach.step i h h1) hr
      all_goals cases hr

/-- every schedule of the real scheduler's granularity (what the correspondence replays) is a thread-level schedule -/
theorem vstep_reach {P : Progs} {rs : List (List Role)} (fuel : Nat) (c c' : Cfg) (i : Nat)
    (h : Reach P rs c) (hv : vstep P fuel c i = .ok c') : Reach P rs c' := by
  simp only [vstep] at hv
  split at hv
  · rename_i c1 h1
    exact runToYield_reach i fuel c1 c' (Reach.step i h h1) hv
  all_goals cases hv

end RW
