import Proofs.GroupObj0
import Proofs.Naf
/-!
# Proofs.MulNaf — `PointJacobi.__mul__`, NAF path (no table): `P * k` denotes `k • ⟦P⟧` for every integer k

The loops keep an accumulator (`AccRep`: represented, all coordinates reduced) and add loop constants to it
(`OpRep`: represented, X and Z reduced; Y may be the unreduced `-Y2` the code passes).
-/
namespace Jac
open WeierstrassCurve WeierstrassCurve.Jacobian Curve

variable {p : ℕ} [hp : Fact p.Prime] {a b : ℤ} {H : AddSubgroup (Grp (a : ZMod p) (b : ZMod p))}

def AccRep (p : ℕ) [Fact p.Prime] (a b : ℤ) (H : AddSubgroup (Grp (a : ZMod p) (b : ZMod p)))
    (t : ℤ × ℤ × ℤ) (h : Grp (a : ZMod p) (b : ZMod p)) : Prop :=
  IRep p a b H t h ∧ InRange3 p t

def OpRep (p : ℕ) [Fact p.Prime] (a b : ℤ) (H : AddSubgroup (Grp (a : ZMod p) (b : ZMod p)))
    (t : ℤ × ℤ × ℤ) (h : Grp (a : ZMod p) (b : ZMod p)) : Prop :=
  IRep p a b H t h ∧ InRange p t.1 ∧ InRange p t.2.2

namespace AccRep
theorem irep {t : ℤ × ℤ × ℤ} {h} (ht : AccRep p a b H t h) : IRep p a b H t h := ht.1
theorem inRange {t : ℤ × ℤ × ℤ} {h} (ht : AccRep p a b H t h) : InRange3 p t := ht.2
end AccRep
namespace OpRep
theorem irep {t : ℤ × ℤ × ℤ} {h} (ht : OpRep p a b H t h) : IRep p a b H t h := ht.1
theorem xRange {t : ℤ × ℤ × ℤ} {h} (ht : OpRep p a b H t h) : InRange p t.1 := ht.2.1
theorem zRange {t : ℤ × ℤ × ℤ} {h} (ht : OpRep p a b H t h) : InRange p t.2.2 := ht.2.2
end OpRep

theorem accRep_sentinel : AccRep p a b H (0, 0, 1) 0 := ⟨irep_sentinel, inRange3_sentinel⟩

theorem PJRep0.op {P : PJ} {g} (h : PJRep0 p a b H P g) : OpRep p a b H (P.x, P.y, P.z) g :=
  ⟨h.irep, h.inRange.x, h.inRange.z⟩

theorem OpRep.neg {X Y Z : ℤ} {g} (h : OpRep p a b H (X, Y, Z) g) : OpRep p a b H (X, -Y, Z) (-g) := by
  refine ⟨⟨zt_neg h.irep.1, h.irep.ztZ, ?_⟩, h.2⟩
  simpa using rep_neg h.irep.rep

theorem accRep_double (hH : NoOrder2 H) {t : ℤ × ℤ × ℤ} {h} (ht : AccRep p a b H t h) :
    AccRep p a b H (Gen.k_double t.1 t.2.1 t.2.2 p a) (h + h) :=
  ⟨k_double_correct hH ht.irep, k_double_inRange _ _ _ _⟩

theorem accRep_add (hp2 : p ≠ 2) (hH : NoOrder2 H) {t : ℤ × ℤ × ℤ} {h} (ht : AccRep p a b H t h)
    {X2 Y2 Z2 : ℤ} {g} (hq : OpRep p a b H (X2, Y2, Z2) g) :
    AccRep p a b H (Gen.k_add t.1 t.2.1 t.2.2 X2 Y2 Z2 p a) (h + g) :=
  ⟨k_add_correct hp2 hH ht.irep hq.irep, k_add_inRange _ _ ht.inRange hq.xRange hq.zRange⟩

/-- the combined points `±A ± B` of `mul_add` -/
theorem opRep_add (hp2 : p ≠ 2) (hH : NoOrder2 H) {X1 Y1 Z1 X2 Y2 Z2 : ℤ} {g h}
    (ht : OpRep p a b H (X1, Y1, Z1) g) (hq : OpRep p a b H (X2, Y2, Z2) h) :
    OpRep p a b H (Gen.k_add X1 Y1 Z1 X2 Y2 Z2 p a) (g + h) :=
  ⟨k_add_correct hp2 hH ht.irep hq.irep, k_add_inRangeXZ _ _ _ ht.xRange ht.zRange hq.xRange hq.zRange⟩

theorem mulNafStep_rep (hp2 : p ≠ 2) (hH : NoOrder2 H) {X2 Y2 : ℤ} {g}
    (hQ : OpRep p a b H (X2, Y2, 1) g) (t : ℤ × ℤ × ℤ) (h) (d : ℤ) (ht : AccRep p a b H t h) :
    AccRep p a b H (mulNafStep p a X2 Y2 t d)
      ((h + h) + (if d < 0 then -g else if d > 0 then g else 0)) := by
  unfold mulNafStep
  have hd := accRep_double hH ht
  simp only []
  split_ifs with h1 h2
  · exact accRep_add hp2 hH hd hQ.neg
  · exact accRep_add hp2 hH hd hQ
  · rw [add_zero]; exact hd

omit hp in
theorem smul_pmod {G : Type*} [AddCommGroup G] {g : G} {o : ℤ} (hog : o • g = 0) (k m : ℤ) (hm : o ∣ m) :
    pmod k m • g = k • g := by
  obtain ⟨c, rfl⟩ := hm
  unfold pmod
  rw [Int.fmod_def, sub_smul, mul_assoc, mul_comm, mul_smul, hog, smul_zero, sub_zero]

theorem reduce_smul {g : Grp (a : ZMod p) (b : ZMod p)} {ord : Option ℤ}
    (ho : ∀ n, truthy ord = some n → n • g = 0) (k : ℤ) :
    (match truthy ord with
      | some o => pmod k (o * 2)
      | none => k) • g = k • g := by
  cases h : truthy ord with
  | none => rfl
  | some o => exact smul_pmod (ho o h) k (o * 2) (dvd_mul_right o 2)

/-- an identity-valued object gives INFINITY (k = 1: itself); a generator-flagged one with Z = 0 raises AttributeError
in `_maybe_precompute` and is outside -/
theorem Reading.pjMul_naf (R : Reading p a b H) {P : PJ} {g} (hP : R.J P g) (hgen : P.generator = false)
    (ho : ∀ n, truthy P.order = some n → n • g = 0) (k : ℤ) :
    ∃ Q, pjMulWith [] P k = .ok Q ∧ R.T Q (k • g) := by
  unfold pjMulWith
  by_cases hy : P.y = 0
  · have : g = 0 := (R.rep0 hP).irep.eq_zero (Or.inl hy)
    exact ⟨.infinity, by simp [hy], R.ofPtRep (by simp [PtRep, this])⟩
  by_cases hk0 : k = 0
  · subst hk0; exact ⟨.infinity, by simp, R.ofPtRep (by simp [PtRep])⟩
  by_cases hk1 : k = 1
  · subst hk1; exact ⟨.jac P, by simp [hy], R.jac.mpr (by rwa [one_smul])⟩
  have h0 : (P.y == 0 || k == 0) = false := by simp [hy, hk0]
  have h1 : (k == 1) = false := by simp [hk1]
  obtain ⟨S, hS, rS, zS, -⟩ := R.scale hP
  have rS := R.rep0 rS
  simp only [h0, h1, Bool.false_eq_true, if_false, maybePrecompute, hgen, Bool.not_false, Bool.true_or,
    if_true, ok_bind, List.isEmpty_nil, Bool.not_true, hS]
  refine ⟨_, rfl, R.ofPtRep ?_⟩
  rw [← reduce_smul ho k, rS.onCurve.p_eq, rS.onCurve.a_eq]
  have hl := Naf.evalNaf_naf_rel (AccRep p a b H) (mulNafStep p a S.x S.y) g (0, 0, 1)
    (fun t h d ht _ => mulNafStep_rep R.hp2 R.hH (zS ▸ rS.op) t h d ht) accRep_sentinel
    (match truthy P.order with
      | some o => pmod k (o * 2)
      | none => k)
  exact coordsOut_rep rS.onCurve _ hl.irep hl.inRange

theorem pjMul_naf_correct (hp2 : p ≠ 2) (hH : NoOrder2 H) {P : PJ} {g} (hP : PJRep p a b H P g)
    (hgen : P.generator = false) (ho : ∀ n, truthy P.order = some n → n • g = 0) (k : ℤ) :
    ∃ R, pjMulWith [] P k = .ok R ∧ PtRep p a b H R (k • g) :=
  (Reading.strict hp2 hH).pjMul_naf hP hgen ho k

end Jac
