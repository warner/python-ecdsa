import Proofs.DerTlv
/-!
# Proofs.DerInt — the INTEGER codec (non-negative integers, minimal two's-complement content octets)
-/
namespace Der

theorem u8_x7f : (0x7f : UInt8).toNat = 127 := rfl

theorem u8_lt80_iff_le7f (b : UInt8) : b < 0x80 ↔ b ≤ 0x7f := by
  rw [u8_lt_iff, u8_le_iff, u8_x80, u8_x7f]; omega

theorem beVal_zero_cons (s : Bytes) : beVal (0 :: s) = beVal s := by
  rw [beVal_cons]; simp

/-- what `remove_integer` demands of the content octets: at least one, the first below `0x80` (not negative), and no
`00` in front of an octet below `0x80` (minimal) -/
def IntBodyOK : Bytes → Prop
  | [] => False
  | [msb] => msb < 0x80
  | msb :: smsb :: _ => msb < 0x80 ∧ ¬ (msb = 0 ∧ smsb < 0x80)

instance : DecidablePred IntBodyOK
  | [] => isFalse id
  | [msb] => inferInstanceAs (Decidable (msb < 0x80))
  | msb :: smsb :: _ => inferInstanceAs (Decidable (msb < 0x80 ∧ ¬ (msb = 0 ∧ smsb < 0x80)))

theorem intBody_ne_nil (r : Nat) : intBody r ≠ [] := by
  unfold intBody
  have := hexBytes_ne_nil r
  match hm : hexBytes r, this with
  | b :: t, _ => simp only; split <;> simp

theorem intBody_digits (b : UInt8) (t : Bytes) (hb : b ≠ 0) :
    intBody (beVal (b :: t)) = if b ≤ 0x7f then b :: t else 0 :: b :: t := by
  unfold intBody
  rw [hexBytes_beVal _ (noLead_cons hb) (List.cons_ne_nil b t)]

theorem intBody_beVal {body : Bytes} (h : IntBodyOK body) : intBody (beVal body) = body := by
  match body, h with
  | [msb], h =>
    by_cases h0 : msb = 0
    · subst h0; rfl
    · rw [intBody_digits msb [] h0, if_pos ((u8_lt80_iff_le7f msb).mp h)]
  | msb :: smsb :: tl, ⟨h1, h2⟩ =>
    by_cases h0 : msb = 0
    · -- `00` in front of a digit string that starts at or above `0x80`
      subst h0
      have hs : ¬ smsb < 0x80 := fun hc => h2 ⟨rfl, hc⟩
      have hs0 : smsb ≠ 0 := fun hz => hs (by rw [hz]; decide)
      rw [beVal_zero_cons, intBody_digits smsb tl hs0, if_neg (mt (u8_lt80_iff_le7f smsb).mpr hs)]
    · rw [intBody_digits msb _ h0, if_pos ((u8_lt80_iff_le7f msb).mp h1)]

theorem intBody_ok (r : Nat) : IntBodyOK (intBody r) ∧ beVal (intBody r) = r := by
  have hv := beVal_hexBytes r
  unfold intBody
  rcases hexBytes_cases r with h0 | ⟨b, t, hm, hb⟩
  · rw [h0] at hv ⊢; exact ⟨by decide, hv⟩
  · rw [hm] at hv ⊢
    simp only
    split
    · rename_i hle
      have hlt := (u8_lt80_iff_le7f b).mpr hle
      refine ⟨?_, hv⟩
      cases t with
      | nil => exact hlt
      | cons c t' => exact ⟨hlt, fun hc => hb hc.1⟩
    · rename_i hle
      exact ⟨⟨by decide, fun hc => hle ((u8_lt80_iff_le7f b).mp hc.2)⟩, by rw [beVal_zero_cons]; exact hv⟩

theorem intBody_length_le (r k : Nat) (hk : 0 < k) (h : r < 256 ^ k) : (intBody r).length ≤ k + 1 := by
  unfold intBody
  have hne := hexBytes_ne_nil r
  have hlen := hexBytes_length_le r k hk h
  match hm : hexBytes r, hne with
  | b :: t, _ =>
    rw [hm] at hlen
    simp only
    split <;> simp only [List.length_cons] at * <;> omega

/-- a convenient sufficient condition for the codec's domain: `r < 256^126` (content octets ≤ 127 bytes) -/
theorem intBody_length_lt (r : Nat) (h : r < 256 ^ 126) : (intBody r).length < 256 ^ 127 :=
  Nat.lt_of_le_of_lt (intBody_length_le r 126 (by decide) h) (by decide)

def intCheck (body rest : Bytes) : Res (Nat × Bytes) :=
  if IntBodyOK body then .ok (beVal body, rest) else .error .unexpectedDER

theorem removeInteger_eq (s : Bytes) : removeInteger s = tlvRead (· = 0x02) (fun _ => intCheck) s := by
  cases s with
  | nil => rfl
  | cons t s' =>
    rw [tlvRead_cons]
    simp only [removeInteger, tlvBody]
    congr 1
    cases readLength ((t :: s').drop 1) with
    | error e => rfl
    | ok v =>
      obtain ⟨length, llen⟩ := v
      simp only [bind, Except.bind]
      cases hl : tooLong length (t :: s') llen with
      | true => rfl
      | false =>
        -- the content slice has `length` bytes, so the tests on `length` are tests on the slice
        have hlen := take_length_of_fits hl
        simp only [Bool.false_eq_true, if_false]
        generalize ((t :: s').drop (1 + llen)).take length = body at hlen ⊢
        subst hlen
        unfold intCheck
        match body with
        | [] => rfl
        | [msb] =>
          simp only [IntBodyOK, idx_zero_cons, List.length_cons, List.length_nil, Nat.add_one_ne_zero, if_false]
          by_cases h : msb < 0x80 <;> simp [h]
        | msb :: smsb :: tl =>
          simp only [IntBodyOK, idx_zero_cons, idx_one_cons, List.length_cons, Nat.add_one_ne_zero, if_false]
          by_cases h : msb < 0x80
          · by_cases h0 : msb = 0
            · by_cases h2 : smsb < 0x80 <;> simp [h0, h2]
            · simp [h, h0]
          · simp [h]

theorem removeInteger_wrong_tag (t : UInt8) (s' : Bytes) (h : t ≠ 0x02) :
    removeInteger (t :: s') = .error .unexpectedDER := by
  rw [removeInteger_eq, tlvRead_cons, if_pos h]

theorem encodeInteger_append (r : Nat) (rest : Bytes) :
    encodeInteger r ++ rest = 0x02 :: (encodeLength (intBody r).length ++ intBody r ++ rest) := rfl

theorem removeInteger_encode (r : Nat) (rest : Bytes) (hl : (intBody r).length < 256 ^ 127) :
    removeInteger (encodeInteger r ++ rest) = .ok (r, rest) := by
  rw [encodeInteger_append, removeInteger_eq, tlvRead_encode (by rfl) _ rest hl, intCheck, if_pos (intBody_ok r).1,
    (intBody_ok r).2]

theorem removeInteger_ok {s rest : Bytes} {v : Nat} (h : removeInteger s = .ok (v, rest)) :
    s = encodeInteger v ++ rest ∧ (intBody v).length < 256 ^ 127 := by
  rw [removeInteger_eq] at h
  obtain ⟨t, body, r, rfl, hs, hl, hk⟩ := tlvRead_ok h
  unfold intCheck at hk
  split at hk
  · rename_i hok
    cases hk
    rw [encodeInteger_append, intBody_beVal hok]
    exact ⟨hs, hl⟩
  · cases hk

theorem removeInteger_err {s : Bytes} {e : PyErr} (h : removeInteger s = .error e) : e = .unexpectedDER := by
  rw [removeInteger_eq] at h
  refine tlvRead_err h (fun _ body rest hk => ?_)
  unfold intCheck at hk
  split at hk
  · cases hk
  · cases hk; rfl

end Der
