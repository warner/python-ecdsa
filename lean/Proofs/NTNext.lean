import Model.NumberTheory
import Proofs.NTPrime
import Mathlib.NumberTheory.Bertrand
/-! `next_prime` (C16): terminates (Bertrand), skips no prime, returns something `is_prime` accepts -/
namespace NTProofs
open NT Gen.NT

theorem nextPrimeLoop_spec (lg : Int → Int) : ∀ (fuel c j : Nat), (c + 2 * j).Prime → j < fuel →
    ∃ i ≤ j, nextPrimeLoop lg fuel c = .ok ((c + 2 * i : Nat) : Int) ∧ isPrime lg ((c + 2 * i : Nat) : Int) = .ok true ∧
      ∀ i' < i, isPrime lg ((c + 2 * i' : Nat) : Int) = .ok false := by
  intro fuel
  induction fuel with
  | zero => intro c j _ h; omega
  | succ f ih =>
    intro c j hq hf
    rw [nextPrimeLoop]
    obtain ⟨b, hb⟩ := isPrime_total' lg c
    simp only [bind, Except.bind, hb]
    cases b with
    | true => exact ⟨0, Nat.zero_le j, rfl, hb, fun i' h => absurd h (Nat.not_lt_zero i')⟩
    | false =>
      obtain ⟨j, rfl⟩ : ∃ j', j = j' + 1 := by
        cases j with
        | zero => rw [isPrime_complete lg c hq] at hb; cases hb
        | succ j' => exact ⟨j', rfl⟩
      obtain ⟨i, hij, h1, h2, h3⟩ := ih (c + 2) j (by rwa [show c + 2 + 2 * j = c + 2 * (j + 1) by ring]) (by omega)
      rw [show c + 2 + 2 * i = c + 2 * (i + 1) by ring] at h1 h2
      refine ⟨i + 1, by omega, by exact_mod_cast h1, h2, fun i' hi' => ?_⟩
      cases i' with
      | zero => exact hb
      | succ i' =>
        have := h3 i' (by omega)
        rwa [show c + 2 + 2 * i' = c + 2 * (i' + 1) by ring] at this

theorem exists_eq_add_two_mul {c m : Nat} (hc : c % 2 = 1) (hm : m % 2 = 1) (h : c ≤ m) : ∃ i, m = c + 2 * i :=
  ⟨(m - c) / 2, by omega⟩

theorem orOne_succ (start : Nat) :
    ∃ c : Nat, orOne ((start : Int) + 1) = c ∧ c % 2 = 1 ∧ start + 1 ≤ c ∧ c ≤ start + 2 := by
  unfold orOne
  rw [pmod_eq_emod (by decide)]
  by_cases h : ((start : Int) + 1) % 2 = 0
  · exact ⟨start + 2, by rw [if_pos h]; omega, by omega, by omega, by omega⟩
  · exact ⟨start + 1, by rw [if_neg h]; omega, by omega, by omega, by omega⟩

theorem nextPrime_spec_bound (lg : Int → Int) (start : Nat) (hs : 2 ≤ start) :
    ∃ r : Nat, nextPrime lg start = .ok (r : Int) ∧ start < r ∧ r ≤ 2 * (start + 2) ∧ isPrime lg r = .ok true ∧
      ∀ q : Nat, start < q → q < r → ¬ q.Prime := by
  obtain ⟨c, hc0, hc1, hc2, hc3⟩ := orOne_succ start
  obtain ⟨q, hq, hq1, hq2⟩ := Nat.exists_prime_lt_and_le_two_mul c (by omega)
  have hqodd : q % 2 = 1 := hq.eq_two_or_odd.resolve_left (by omega)
  obtain ⟨j, rfl⟩ := exists_eq_add_two_mul hc1 hqodd hq1.le
  -- Bertrand gives `c + 2j = q ≤ 2c`, so `j ≤ c / 2` is below the budget `c + 2`
  obtain ⟨i, hij, h1, h4, h5⟩ := nextPrimeLoop_spec lg (c + 2) c j hq (by omega)
  refine ⟨c + 2 * i, ?_, by omega, by omega, h4, fun m hm1 hm2 hmp => ?_⟩
  · rw [nextPrime, if_neg (by omega), hc0]
    simp only [Int.toNat_natCast]
    exact h1
  · -- an even `m` in the gap is not prime, an odd one was rejected by `is_prime`, which accepts every prime
    rcases hmp.eq_two_or_odd with h | hodd
    · omega
    · obtain ⟨i', rfl⟩ := exists_eq_add_two_mul hc1 hodd (by omega)
      have := h5 i' (by omega)
      rw [isPrime_complete lg _ hmp] at this; cases this

theorem nextPrime_spec (lg : Int → Int) (start : Nat) (hs : 2 ≤ start) :
    ∃ r : Nat, nextPrime lg start = .ok (r : Int) ∧ start < r ∧ isPrime lg r = .ok true ∧
      ∀ q : Nat, start < q → q < r → ¬ q.Prime := by
  obtain ⟨r, h1, h2, -, h4, h5⟩ := nextPrime_spec_bound lg start hs
  exact ⟨r, h1, h2, h4, h5⟩

theorem nextPrime_small (lg : Int → Int) (start : Int) (hs : start < 2) : nextPrime lg start = .ok 2 := by
  unfold nextPrime; rw [if_pos hs]

end NTProofs
