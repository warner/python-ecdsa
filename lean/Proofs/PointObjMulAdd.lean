import Proofs.PointObjKeys
/-!
# Proofs.PointObjMulAdd — `mul_add` and `Public_key.verifies` refine their abstract counterparts

`mul_add` is the operation with the most hidden-state traffic: it fills the tables of both operands, rescales both in
place, may fall back on `self * a + other * b` (which may return one of the operands itself), and the two operands may be
the same object.  The proof threads one stable fact through the steps: the cells `i`, `j` hold `PointJacobi` objects in
the abstract heap, which only ever grows.
-/
set_option linter.unusedSectionVars false
namespace PointObj
open Curve

variable {G : Type} [AddCommGroup G] [DecidableEq G]
variable {sp : ASpec G} {HS : PJ → List (Int × Int) → G → Prop} {HA : AffPt → G → Prop}

theorem IsPJ.append {ah : AHeap G} {i : Nat} (h : IsPJ ah i) (l : AHeap G) : IsPJ (ah ++ l) i := by
  obtain ⟨g, o, gen, e⟩ := h
  exact ⟨g, o, gen, by rw [List.getElem?_append_left (List.getElem?_eq_some_iff.1 e).1, e]⟩

theorem IsPJ.of_aptOf {ah : AHeap G} {j : Nat} {g : G} {o : Option Int} {gen : Bool}
    (h : aptOf ah (.obj j) = some (.jac g o gen)) : IsPJ ah j := by
  simp only [aptOf] at h
  split at h <;> cases h
  exact ⟨_, _, _, ‹_›⟩

theorem aallocPJ_ok {g : G} {o : Option Int} {r : Ref} {ah ah' : AHeap G} (e : aallocPJ g o ah = (.ok r, ah')) :
    (r = .inf ∧ ah' = ah) ∨ (r = .obj ah.length ∧ ah' = ah ++ [.pj g o false]) := by
  unfold aallocPJ at e
  split at e <;> cases e
  exacts [Or.inl ⟨rfl, rfl⟩, Or.inr ⟨rfl, rfl⟩]

theorem amulObj_appends {ah ah' : AHeap G} {r r' : Ref} {k : Int} (e : amulObj (G := G) r k ah = (.ok r', ah')) :
    (∃ l, ah' = ah ++ l) ∧ NotAff ah' r' := by
  have same : ∀ {ah : AHeap G}, ∃ l, ah = ah ++ l := ⟨[], (List.append_nil _).symm⟩
  have inf : ∀ {ah : AHeap G}, NotAff ah .inf := fun g o hc => by cases hc
  obtain ⟨v, _, e1, e2⟩ := AM.bind_ok e
  obtain ⟨rfl, hv⟩ := agetPt_ok e1
  cases v with
  | inf => cases r <;> cases e2 <;> exact ⟨same, inf⟩
  | aff => cases r <;> cases e2
  | jac =>
    cases r with
    | inf => cases e2
    | obj i =>
      obtain ⟨res, _, e3, e4⟩ := AM.bind_ok e2
      cases aupdPJ_heap e3
      cases res with
      | inf => cases e4; exact ⟨same, inf⟩
      | self => cases e4; exact ⟨same, NotAff.of_jac hv⟩
      | fresh g o =>
        rcases aallocPJ_ok e4 with ⟨rfl, rfl⟩ | ⟨rfl, rfl⟩
        · exact ⟨same, inf⟩
        · exact ⟨⟨_, rfl⟩, IsPJ.notAff ⟨g, o, false, List.getElem?_concat_length⟩⟩

/-- the two cells may be the same one -/
theorem mulMulAdd_sim (hyp : RepIndep sp HS HA) {ah : AHeap G} {i j : Nat} (hpi : IsPJ ah i) (hpj : IsPJ ah j)
    (sm om : Int) : SimAt HS HA ah (fun a b => a = b) (mulMulAdd i j sm om) (amulMulAdd (G := G) i j sm om) := by
  unfold mulMulAdd amulMulAdd
  refine (mulObj_sim hyp hpi.notAff sm).bind ?_
  rintro r1 _ ah1 e1 rfl
  obtain ⟨⟨l, rfl⟩, _⟩ := amulObj_appends e1
  refine (mulObj_sim hyp (hpj.append l).notAff om).bind ?_
  rintro r2 _ ah2 e2 rfl
  -- the second product is not a legacy point, so the sum is covered
  exact addObj_sim hyp fun hc => hc.2.elim fun g hg => hg.elim fun o ho => (amulObj_appends e2).2 g o ho

theorem mulAddMain_sim (hyp : RepIndep sp HS HA) {ah : AHeap G} {i j : Nat} (hpi : IsPJ ah i) (hpj : IsPJ ah j)
    (sm om : Int) : SimAt HS HA ah (fun a b => a = b) (mulAddMain i j sm om) (amulAddMain (G := G) i j sm om) := by
  unfold mulAddMain amulAddMain maybePrecomputeObj
  refine updPJ_bind i (precomputeState_sim hyp) fun tP bP hP => updPJ_bind j (precomputeState_sim hyp) fun tQ bQ hQ => ?_
  rw [show (!tP.isEmpty && !tQ.isEmpty) = (bP && bQ) by rw [hP, hQ, Bool.not_not, Bool.not_not]]
  refine ite_both (fun _ => mulMulAdd_sim hyp hpi hpj sm om) fun _ => ?_
  refine updPJ_bind i (R := fun a b => a = b) (f := fun o => .ok (o, o.val.order)) (af := fun _ o _ => .ok o)
    (fun o g hs => StateSim.ok rfl hs rfl rfl) ?_
  rintro ord _ rfl
  refine updPJ_bind i (scaleState_sim hyp) ?_
  rintro SP ⟨g, og⟩ ⟨tp, hsP, hzP, hoP⟩
  refine updPJ_bind j (scaleState_sim hyp) ?_
  rintro SQ ⟨g', og'⟩ ⟨tq, hsQ, hzQ, _⟩
  dsimp only at hsP hsQ hoP ⊢
  rw [hyp.hs_sumInf hsP hsQ hzP hzQ]
  by_cases hz : g + g' = 0
  · simp only [hz, decide_true, if_true]
    exact mulMulAdd_sim hyp hpi hpj _ _
  · simp only [hz, decide_false, Bool.false_eq_true, if_false]
    exact (allocPt_sim (hoP ▸ hyp.hs_mulAddLoop _ _ hsP hsQ hzP hzQ hz)).at _

/-- the multiplier pattern for which `mul_add` is covered: `other * other_mul` on a legacy point is not -/
def MulAddOK (ah : AHeap G) (sm : Int) (s : Ref) : Prop := sm = 0 → NotAff ah s

theorem mulAddObj_sim (hyp : RepIndep sp HS HA) {ah : AHeap G} {sm : Int} {s : Ref} (hpre : MulAddOK ah sm s)
    (r : Ref) (om : Int) :
    SimAt HS HA ah (fun a b => a = b) (mulAddObj r sm s om) (amulAddObj (G := G) r sm s om) := by
  unfold mulAddObj amulAddObj
  refine pjMethod_sim r _ fun i hr hpi => getPt_bind s fun v b hv hb => ?_
  subst hr
  rw [ptIsInf_rel hyp hv]
  refine ite_both (fun _ => mulObj_sim hyp hpi.notAff sm) fun _ => ?_
  refine ite_both (fun h0 => mulObj_sim hyp (hpre (by simpa using h0)) om) fun _ => ?_
  cases hv with
  | inf => cases s <;> exact (Sim.raise _).at _
  | jac hsQ =>
    cases s with
    | inf => exact (Sim.raise _).at _
    | obj j => exact mulAddMain_sim hyp hpi (IsPJ.of_aptOf hb) sm om
  | @aff A g' ha =>
    cases s with
    | inf => cases hb
    | obj j =>
      -- both sides allocate the converted operand in the next cell
      refine ((alloc_sim (Rel.pj (o := ⟨pjFromAffine A, []⟩) (hyp.ha_fromAffine false ha))).at ah).bind ?_
      rintro _ _ _ e rfl
      cases e
      exact mulAddMain_sim hyp (hpi.append _) ⟨g', A.order, false, List.getElem?_concat_length⟩ sm om

/-- the key's point is a `PointJacobi` object (always so for keys built by the library) -/
def KeyPointOK (ah : AHeap G) (k : Nat) : Prop := ∀ g q, ah[k]? = some (.key g q) → NotAff ah q

theorem keyVerifyObj_sim (hyp : RepIndep sp HS HA) {ah : AHeap G} {k : Nat} (hpre : KeyPointOK ah k) (hash r s : Int) :
    SimAt HS HA ah (fun a b => a = b) (keyVerifyObj k hash r s) (akeyVerifyObj sp k hash r s) := by
  unfold keyVerifyObj akeyVerifyObj
  refine ((getKey_sim k).at ah).bind ?_
  rintro ⟨g, q⟩ _ ah' ek rfl
  obtain ⟨rfl, hk⟩ := agetKey_ok ek
  refine getPt_bind g fun v b hv _ => ?_
  cases hv with
  | @jac P t x hs =>
    dsimp only
    cases P.order with
    | none => exact (Sim.raise _).at _
    | some n =>
      refine ite_both (fun _ => (Sim.pure rfl).at _) fun _ => ite_both (fun _ => (Sim.pure rfl).at _) fun _ => ?_
      refine SimAt.lift_bind fun c => SimAt.bind_sim (mulAddObj_sim hyp (fun _ => hpre g q hk) g _) ?_
      rintro xy _ rfl
      refine Sim.bind (getPt_sim xy) fun w c hw => ?_
      rw [ptIsInf_rel hyp hw]
      exact ite_both (fun _ => Sim.pure rfl) fun _ => readX_some_bind hyp xy _ fun x => Sim.pure rfl
  | _ => exact (Sim.raise _).at _

end PointObj
