import Model.NumberTheory
import Proofs.Basic
import Mathlib.Data.Int.GCD
import Mathlib.Tactic.Ring
import Mathlib.Tactic.Linarith
import Mathlib.Tactic.LinearCombination
import Mathlib.Data.Int.Basic
/-! `pow(a, -1, m)` / `inverse_mod` (C15) -/
namespace NTProofs
open NT

theorem dvd_emod_sub {m a n b c x : Int} (ha : m ∣ a - b * x) (hn : m ∣ n - c * x) :
    m ∣ a % n - (b - a / n * c) * x := by
  rw [show a % n - (b - a / n * c) * x = (a - b * x) - (a / n) * (n - c * x) by
    linear_combination Int.emod_add_mul_ediv a n]
  exact Int.dvd_sub ha (Dvd.dvd.mul_left hn _)

/-- the second component `n` decreases strictly, so a budget above it suffices (`powInv` starts with `n = |m|` and
`|m| + 1`); a positive first component at `n = 0` makes the returned value the gcd and not its negative -/
theorem invLoop_spec (a0 c0 : Int) :
    ∀ (fuel : Nat) (a n b c : Int), 0 ≤ n → n < fuel → (n = 0 → 0 < a) → c0 ∣ a - b * a0 → c0 ∣ n - c * a0 →
      Int.gcd a n = Int.gcd a0 c0 →
      (invLoop fuel a n b c).1 = (Int.gcd a0 c0 : Nat) ∧ c0 ∣ (invLoop fuel a n b c).1 - (invLoop fuel a n b c).2 * a0 := by
  intro fuel
  induction fuel with
  | zero => intro a n b c h0 hlt; exfalso; simp at hlt; omega
  | succ f ih =>
    intro a n b c h0 hlt hpos ha hn hg
    rw [invLoop]
    by_cases hz : n = 0
    · subst hz
      rw [if_pos rfl]
      refine ⟨?_, ha⟩
      have := hpos rfl
      rw [← hg, Int.gcd_zero_right]; omega
    · have hnpos : 0 < n := by omega
      rw [if_neg hz, pmod_eq_emod hnpos, pdiv_eq_ediv hnpos]
      apply ih
      · exact Int.emod_nonneg a hz
      · have := Int.emod_lt_of_pos a hnpos; push_cast at hlt; omega
      · exact fun _ => hnpos
      · exact hn
      · exact dvd_emod_sub ha hn
      · rw [← hg, Int.gcd_comm n, Int.gcd_emod]

theorem dvd_mul_emod_sub_one {c a x : Int} (h : c ∣ 1 - x * a) : c ∣ a * (x % c) - 1 := by
  rw [show a * (x % c) - 1 = -(1 - x * a) - c * (a * (x / c)) by linear_combination a * Int.emod_add_mul_ediv x c]
  exact Int.dvd_sub (Int.dvd_neg.mpr h) (Dvd.intro _ rfl)

/-- CPython's last step of `pow(·, ·, m)`: a residue `z ∈ [0, |m|)` is moved into the range of the sign of `m` -/
theorem signFix_spec {m z : Int} (hz0 : 0 ≤ z) (hz1 : z < m.natAbs) :
    m ∣ (if m < 0 ∧ z ≠ 0 then z - m.natAbs else z) - z ∧
    (0 < m → (if m < 0 ∧ z ≠ 0 then z - m.natAbs else z) = z ∧ z < m) ∧
    (m < 0 → m < (if m < 0 ∧ z ≠ 0 then z - m.natAbs else z) ∧ (if m < 0 ∧ z ≠ 0 then z - m.natAbs else z) ≤ 0) := by
  by_cases h : m < 0 ∧ z ≠ 0
  · rw [if_pos h]
    exact ⟨⟨1, by omega⟩, fun h' => by omega, fun _ => by omega⟩
  · rw [if_neg h, sub_self]
    exact ⟨dvd_zero m, fun h' => ⟨rfl, by omega⟩, fun h' => by omega⟩

theorem powInv_eq (a m : Int) (hm : m ≠ 0) :
    ∃ x : Int, (Int.gcd a m = 1 → (m.natAbs : Int) ∣ 1 - x * a) ∧
      powInv a m = if Int.gcd a m ≠ 1 then .error .valueError
        else .ok (if m < 0 ∧ x % m.natAbs ≠ 0 then x % m.natAbs - m.natAbs else x % m.natAbs) := by
  obtain ⟨c, hc⟩ : ∃ c : Int, c = (m.natAbs : Int) := ⟨_, rfl⟩
  have hcpos : 0 < c := by omega
  have hgc : Int.gcd a c = Int.gcd a m := by rw [hc]; unfold Int.gcd; rw [Int.natAbs_natCast]
  obtain ⟨h1, h2⟩ := invLoop_spec a c (m.natAbs + 1) a c 1 0 hcpos.le (by omega) (by omega) (by simp) (by simp) rfl
  rw [hgc] at h1
  refine ⟨(invLoop (m.natAbs + 1) a c 1 0).2, fun hg => ?_, ?_⟩
  · rw [h1, hg] at h2; rw [← hc]; exact_mod_cast h2
  · rw [powInv, if_neg hm, ← hc]
    dsimp only
    by_cases hc1 : c = 1
    · have hg : Int.gcd a m = 1 := by rw [← hgc, hc1, Int.gcd_one_right]
      rw [if_pos hc1, if_neg (not_not.mpr hg), hc1, Int.emod_one, if_neg (by omega)]
    · rcases hp : invLoop (m.natAbs + 1) a c 1 0 with ⟨g, x⟩
      rw [hp] at h1
      rw [if_neg hc1, pmod_eq_emod hcpos, show g = ((Int.gcd a m : Nat) : Int) from h1]
      simp only [ne_eq, Nat.cast_eq_one]

theorem powInv_error (a m : Int) (h : m = 0 ∨ Int.gcd a m ≠ 1) : powInv a m = .error .valueError := by
  by_cases hm : m = 0
  · rw [powInv, if_pos hm]
  · obtain ⟨x, -, hx⟩ := powInv_eq a m hm
    rw [hx, if_pos (h.resolve_left hm)]

theorem powInv_coprime (a m : Int) (hm : m ≠ 0) (hg : Int.gcd a m = 1) :
    ∃ i, powInv a m = .ok i ∧ m ∣ a * i - 1 ∧ (0 < m → 0 ≤ i ∧ i < m) ∧ (m < 0 → m < i ∧ i ≤ 0) := by
  obtain ⟨x, hdvd, hx⟩ := powInv_eq a m hm
  have hc : (0 : Int) < m.natAbs := by omega
  have hz0 := Int.emod_nonneg x hc.ne'
  obtain ⟨f1, f2, f3⟩ := signFix_spec hz0 (Int.emod_lt_of_pos x hc)
  refine ⟨_, by rw [hx, if_neg (not_not.mpr hg)], ?_, fun h => ?_, f3⟩
  · have h1 := (Int.dvd_natAbs.mpr dvd_rfl).trans (dvd_mul_emod_sub_one (hdvd hg))
    have := Int.dvd_add (f1.mul_left a) h1
    rwa [show ∀ i z : Int, a * (i - z) + (a * z - 1) = a * i - 1 from fun i z => by ring] at this
  · rw [(f2 h).1]; exact ⟨hz0, (f2 h).2⟩

theorem eq_one_of_gcd_zero {m : Int} (hm : 1 ≤ m) (hg : Int.gcd 0 m = 1) : m = 1 := by
  rw [Int.gcd_zero_left] at hg; omega

theorem inverseMod_eq (a m : Int) : inverseMod a m = if a = 0 then .ok 0 else powInv a m := by
  unfold inverseMod Gen.NT.inverse_mod; by_cases h : a = 0 <;> simp [h]

end NTProofs
