import Model.Curve
import Proofs.Basic
import Mathlib.Data.Int.GCD
import Mathlib.Data.Int.ModEq
import Mathlib.Data.ZMod.Basic
import Mathlib.Algebra.Field.ZMod
import Mathlib.Data.Nat.Prime.Basic
import Mathlib.Tactic.Ring
import Mathlib.Tactic.Linarith
/-!
# Proofs.InvMod — `Curve.powInv` / `Curve.inverseMod` (`Model/Curve.lean`, Euclid on naturals: `xgcdAux`), the copy of
`inverse_mod` that the point arithmetic calls.  The model built from the regenerated text is `NT.inverseMod`
(`Proofs/NTInv.lean`, `invLoop`); the two are separate developments.
-/
namespace InvMod
open Curve

theorem xgcdAux_spec (a m : ℤ) (r : ℕ) (s : ℤ) (r' : ℕ) (s' : ℤ)
    (h1 : (r : ℤ) ≡ s * a [ZMOD m]) (h2 : (r' : ℤ) ≡ s' * a [ZMOD m]) :
    (xgcdAux r s r' s').1 = Nat.gcd r r' ∧
      ((xgcdAux r s r' s').1 : ℤ) ≡ (xgcdAux r s r' s').2 * a [ZMOD m] := by
  fun_induction xgcdAux r s r' s' with
  | case1 s r' s' => exact ⟨(Nat.gcd_zero_left r').symm, h2⟩
  | case2 r s r' s' ih =>
    have h3 : ((r' % (r + 1) : ℕ) : ℤ) ≡ (s' - ((r' / (r + 1) : ℕ) : ℤ) * s) * a [ZMOD m] := by
      have := h2.sub (h1.mul_left ((r' / (r + 1) : ℕ) : ℤ))
      rwa [show (r' : ℤ) - ((r' / (r + 1) : ℕ) : ℤ) * ((r + 1 : ℕ) : ℤ) = ((r' % (r + 1) : ℕ) : ℤ) by
          rw [Int.natCast_mod, Int.natCast_div, Int.emod_def, mul_comm],
        show s' * a - ((r' / (r + 1) : ℕ) : ℤ) * (s * a) = (s' - ((r' / (r + 1) : ℕ) : ℤ) * s) * a by ring] at this
    obtain ⟨g1, g2⟩ := ih h3 h1
    exact ⟨by rw [g1, Nat.gcd_rec (r + 1) r'], g2⟩
example : xgcdAux 3 1 11 0 = (1, 4) := by simp [xgcdAux]

example : (xgcdAux 3 1 11 0).1 = Nat.gcd 3 11 ∧
    ((xgcdAux 3 1 11 0).1 : ℤ) ≡ (xgcdAux 3 1 11 0).2 * 3 [ZMOD 11] :=
  xgcdAux_spec 3 11 3 1 11 0 (by decide) (by decide)

theorem xgcd_start (a m : ℤ) (hm : m ≠ 0) :
    (xgcdAux (a % (m.natAbs : ℤ)).toNat 1 m.natAbs 0).1 = Int.gcd a m ∧
      ((xgcdAux (a % (m.natAbs : ℤ)).toNat 1 m.natAbs 0).1 : ℤ) ≡
        (xgcdAux (a % (m.natAbs : ℤ)).toNat 1 m.natAbs 0).2 * a [ZMOD m] := by
  have hn : (m.natAbs : ℤ) ≠ 0 := by simpa using hm
  have hnn : 0 ≤ a % (m.natAbs : ℤ) := Int.emod_nonneg _ hn
  have hdvd : m ∣ (m.natAbs : ℤ) := Int.dvd_natAbs.mpr dvd_rfl
  have h1 : (((a % (m.natAbs : ℤ)).toNat : ℕ) : ℤ) ≡ 1 * a [ZMOD m] := by
    rw [Int.toNat_of_nonneg hnn, one_mul]
    exact Int.emod_emod_of_dvd a hdvd
  have h2 : ((m.natAbs : ℕ) : ℤ) ≡ 0 * a [ZMOD m] := by
    rw [zero_mul]
    exact (Int.modEq_zero_iff_dvd).mpr hdvd
  obtain ⟨g1, g2⟩ := xgcdAux_spec a m _ 1 _ 0 h1 h2
  refine ⟨?_, g2⟩
  rw [g1]
  have e : Int.gcd a m = Int.gcd (a % (m.natAbs : ℤ)) (m.natAbs : ℤ) := by
    rw [Int.gcd_emod]; simp [Int.gcd, Int.natAbs_abs]
  rw [e]
  obtain ⟨k, hk⟩ := Int.eq_ofNat_of_zero_le hnn
  rw [hk]
  simp [Int.gcd, Int.natAbs_abs]

theorem pmod_modEq (u m : ℤ) : pmod u m ≡ u [ZMOD m] := by
  unfold pmod
  rw [Int.fmod_eq_emod]
  split
  · simpa using Int.mod_modEq u m
  · exact (Int.add_modEq_right).trans (Int.mod_modEq u m)

theorem powInv_ok (a m : ℤ) (hm : m ≠ 0) (hg : Int.gcd a m = 1) :
    ∃ r, powInv a m = .ok r ∧ (r * a) ≡ 1 [ZMOD m] ∧
      (0 < m → 0 ≤ r ∧ r < m) ∧ (m < 0 → m < r ∧ r ≤ 0) := by
  obtain ⟨g1, g2⟩ := xgcd_start a m hm
  rw [hg] at g1
  rw [g1] at g2
  refine ⟨pmod ((xgcdAux (a % (m.natAbs : ℤ)).toNat 1 m.natAbs 0).2 % (m.natAbs : ℤ)) m,
    ?_, ?_, fun hm => pmod_range hm _, pmod_range_neg _ m⟩
  · simp only [powInv, if_neg hm, g1, if_true]
  · have hdvd : m ∣ (m.natAbs : ℤ) := Int.dvd_natAbs.mpr dvd_rfl
    have h1 : pmod ((xgcdAux (a % (m.natAbs : ℤ)).toNat 1 m.natAbs 0).2 % (m.natAbs : ℤ)) m ≡
        (xgcdAux (a % (m.natAbs : ℤ)).toNat 1 m.natAbs 0).2 [ZMOD m] :=
      (pmod_modEq _ m).trans (Int.emod_emod_of_dvd _ hdvd)
    exact (h1.mul_right a).trans (by simpa using g2.symm)

theorem powInv_err (a m : ℤ) (h : m = 0 ∨ Int.gcd a m ≠ 1) : powInv a m = .error .valueError := by
  by_cases hm : m = 0
  · simp [powInv, hm]
  · have hg : Int.gcd a m ≠ 1 := h.resolve_left hm
    obtain ⟨g1, -⟩ := xgcd_start a m hm
    simp only [powInv, if_neg hm, g1, if_neg hg]

example : powInv 3 11 = .ok 4 := by simp [powInv, xgcdAux, pmod]

example : ∃ r, powInv 3 11 = .ok r ∧ (r * 3) ≡ 1 [ZMOD 11] ∧ 0 ≤ r ∧ r < 11 := by
  obtain ⟨r, h1, h2, h3, -⟩ := powInv_ok 3 11 (by decide) (by decide)
  exact ⟨r, h1, h2, h3 (by decide)⟩

example : ∃ r, powInv 3 (-11) = .ok r ∧ (r * 3) ≡ 1 [ZMOD (-11)] ∧ -11 < r ∧ r ≤ 0 := by
  obtain ⟨r, h1, h2, -, h4⟩ := powInv_ok 3 (-11) (by decide) (by decide)
  exact ⟨r, h1, h2, h4 (by decide)⟩

example : powInv 3 (-11) = .ok (-7) := by
  simp [powInv, xgcdAux, pmod]

example : powInv 4 6 = .error .valueError := powInv_err 4 6 (Or.inr (by decide))
example : powInv 4 0 = .error .valueError := powInv_err 4 0 (Or.inl rfl)

theorem inverseMod_zero (m : ℤ) : inverseMod 0 m = .ok 0 := by simp [inverseMod]

example : inverseMod 0 11 = .ok 0 := inverseMod_zero 11

theorem gcd_prime_of_not_dvd (p : ℕ) (hp : p.Prime) (z : ℤ) (hz : ¬ (p : ℤ) ∣ z) :
    Int.gcd z p = 1 := by
  have h : ¬ p ∣ z.natAbs := fun h => hz (Int.natCast_dvd.mpr h)
  have := (Nat.Prime.coprime_iff_not_dvd hp).mpr h
  rw [Int.gcd_comm]
  simpa [Int.gcd] using this

theorem inverseMod_prime (p : ℕ) (hp : p.Prime) (z : ℤ) (hz : ¬ (p : ℤ) ∣ z) :
    ∃ zi : ℤ, inverseMod z p = .ok zi ∧ 0 ≤ zi ∧ zi < p ∧ (zi * z) % p = 1 := by
  have hz0 : z ≠ 0 := fun h => hz (h ▸ dvd_zero _)
  have hp0 : (0 : ℤ) < p := by exact_mod_cast hp.pos
  obtain ⟨r, h1, h2, h3, -⟩ := powInv_ok z p hp0.ne' (gcd_prime_of_not_dvd p hp z hz)
  refine ⟨r, by simp [inverseMod, hz0, h1], (h3 hp0).1, (h3 hp0).2, ?_⟩
  have h1p : (1 : ℤ) < p := by exact_mod_cast hp.one_lt
  rw [h2, Int.emod_eq_of_lt (by decide) h1p]

example : ∃ zi : ℤ, inverseMod 3 (11 : ℕ) = .ok zi ∧ 0 ≤ zi ∧ zi < (11 : ℕ) ∧ (zi * 3) % (11 : ℕ) = 1 :=
  inverseMod_prime 11 (by decide) 3 (by decide)

theorem inverseMod_prime_cast (p : ℕ) [Fact p.Prime] (z : ℤ) (hz : (z : ZMod p) ≠ 0) :
    ∃ zi : ℤ, inverseMod z p = .ok zi ∧ 0 ≤ zi ∧ zi < p ∧ (zi : ZMod p) = (z : ZMod p)⁻¹ := by
  have hp : p.Prime := Fact.out
  have hd : ¬ (p : ℤ) ∣ z := fun h => hz ((ZMod.intCast_zmod_eq_zero_iff_dvd z p).mpr h)
  obtain ⟨zi, h1, h2, h3, h4⟩ := inverseMod_prime p hp z hd
  refine ⟨zi, h1, h2, h3, eq_inv_of_mul_eq_one_left ?_⟩
  rw [← Int.cast_mul, ← ZMod.intCast_mod, h4, Int.cast_one]

private theorem fact_prime_11 : Fact (Nat.Prime 11) := ⟨by decide⟩

example : ∃ zi : ℤ, inverseMod 3 (11 : ℕ) = .ok zi ∧ 0 ≤ zi ∧ zi < (11 : ℕ) ∧
    (zi : ZMod 11) = ((3 : ℤ) : ZMod 11)⁻¹ :=
  haveI := fact_prime_11
  inverseMod_prime_cast 11 3 (by decide +revert)

theorem inverseMod_prime_dvd (p : ℕ) (hp : p.Prime) (z : ℤ) (hz0 : z ≠ 0) (hz : (p : ℤ) ∣ z) :
    inverseMod z p = .error .valueError := by
  simp only [inverseMod, if_neg hz0]
  apply powInv_err
  right
  intro h
  have : (p : ℤ) ∣ 1 := by
    have := Int.dvd_gcd hz (dvd_refl (p : ℤ))
    rw [h] at this
    exact_mod_cast this
  have := Int.eq_one_of_dvd_one (by positivity) this
  exact hp.one_lt.ne' (by exact_mod_cast this)

example : inverseMod 22 (11 : ℕ) = .error .valueError :=
  inverseMod_prime_dvd 11 (by decide) 22 (by decide) (by decide)

end InvMod
