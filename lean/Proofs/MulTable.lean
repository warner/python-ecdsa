import Proofs.MulNaf
/-!
# Proofs.MulTable — the generator table (`_maybe_precompute`) and `_mul_precompute`

Entry `j` of the table is the canonical affine pair of `2^j • g`, and it has `m + 1` entries with `m` minimal such that
`4·o ≤ 2^m`; the right-to-left signed-digit loop over such a table computes `k • g` for `0 ≤ k < 2^(L-1)`; hence `__mul__`
of a generator point, on a fresh object or with the table already built.
-/
namespace Jac
open WeierstrassCurve WeierstrassCurve.Jacobian Curve

variable {p : ℕ} [hp : Fact p.Prime] {a b : ℤ} {H : AddSubgroup (Grp (a : ZMod p) (b : ZMod p))}

theorem NoOrder2.two_pow_smul_ne_zero (hH : NoOrder2 H) {g : Grp (a : ZMod p) (b : ZMod p)} (hg : g ∈ H)
    (hg0 : g ≠ 0) (j : ℕ) : (2 : ℤ) ^ j • g ≠ 0 := by
  induction j with
  | zero => simpa using hg0
  | succ j ih =>
    intro h
    apply ih
    apply hH _ (H.zsmul_mem hg _)
    rw [← h, pow_succ, mul_comm, mul_smul, two_smul]

theorem two_pow_succ_smul (g : Grp (a : ZMod p) (b : ZMod p)) (j : ℕ) :
    (2 : ℤ) ^ (j + 1) • g = (2 : ℤ) ^ j • g + (2 : ℤ) ^ j • g := by
  rw [pow_succ, mul_comm, mul_smul, two_smul]

/-- a table entry `(x, y)` is the canonical affine pair of `t ∈ H` -/
def EntryRep (p : ℕ) [Fact p.Prime] (a b : ℤ) (H : AddSubgroup (Grp (a : ZMod p) (b : ZMod p)))
    (e : ℤ × ℤ) (t : Grp (a : ZMod p) (b : ZMod p)) : Prop :=
  InRange p e.1 ∧ InRange p e.2 ∧ t ∈ H ∧
    ∃ hn : (shortW (a : ZMod p) (b : ZMod p)).toAffine.Nonsingular (e.1 : ZMod p) (e.2 : ZMod p),
      Affine.Point.some _ _ hn = t

theorem entryRep_of_pj {P : PJ} {g} (hP : PJRep p a b H P g) :
    ∃ x y, pjX P = .ok x ∧ pjY P = .ok y ∧ EntryRep p a b H (x, y) g := by
  obtain ⟨x, y, hx, hy, rx, ry, hn, e⟩ := pjXY_correct hP
  exact ⟨x, y, hx, hy, rx, ry, hP.mem, hn, e.symm⟩

theorem pjDouble_jac (hH : NoOrder2 H) {P : PJ} {g} (hP : PJRep p a b H P g) (hne : g + g ≠ 0) :
    ∃ D, pjDouble P = .jac D ∧ PJRep p a b H D (g + g) := by
  have h := pjDouble_correct hH hP
  cases hD : pjDouble P with
  | infinity => rw [hD] at h; exact absurd h hne
  | jac D => rw [hD] at h; exact ⟨D, rfl, h⟩
  | aff A =>
    exfalso
    unfold pjDouble coordsOut at hD
    split_ifs at hD

theorem entries_snoc {g : Grp (a : ZMod p) (b : ZMod p)} {acc : List (ℤ × ℤ)} {j : ℕ} (hlen : acc.length = j + 1)
    (hE : ∀ r (hr : r < acc.length), EntryRep p a b H acc[r] ((2 : ℤ) ^ r • g)) {e : ℤ × ℤ}
    (he : EntryRep p a b H e ((2 : ℤ) ^ (j + 1) • g)) :
    ∀ r (hr : r < (acc ++ [e]).length), EntryRep p a b H (acc ++ [e])[r] ((2 : ℤ) ^ r • g) := by
  intro r hr
  by_cases hr' : r < acc.length
  · rw [List.getElem_append_left hr']; exact hE r hr'
  · have : r = j + 1 := by simp at hr; omega
    subst this
    rw [List.getElem_append_right (by omega)]
    simpa [hlen] using he

/-- the `while i < order:` loop of `_maybe_precompute`: at `i = 2^j` the doubler denotes `2^j • g` -/
theorem tableLoop_correct (hH : NoOrder2 H) {g : Grp (a : ZMod p) (b : ZMod p)} (hg : g ∈ H) (hg0 : g ≠ 0)
    (bound i : ℤ) (hi : 0 < i) (doubler : PJ) (acc : List (ℤ × ℤ)) (j : ℕ) (hij : i = 2 ^ j)
    (hD : PJRep p a b H doubler ((2 : ℤ) ^ j • g)) (hlen : acc.length = j + 1)
    (hE : ∀ r (hr : r < acc.length), EntryRep p a b H acc[r] ((2 : ℤ) ^ r • g)) :
    ∃ table, tableLoop bound i hi doubler acc = .ok table ∧
      (∀ r (hr : r < table.length), EntryRep p a b H table[r] ((2 : ℤ) ^ r • g)) ∧
      ∃ m : ℕ, table.length = m + 1 ∧ bound ≤ 2 ^ m ∧ j ≤ m ∧ (j < m → 2 ^ (m - 1) < bound) := by
  have hne : ∀ j : ℕ, (2 : ℤ) ^ j • g + (2 : ℤ) ^ j • g ≠ 0 := fun j => by
    rw [← two_pow_succ_smul]; exact hH.two_pow_smul_ne_zero hg hg0 _
  fun_induction tableLoop bound i hi doubler acc generalizing j with
  | case1 i hi doubler acc hlt D hDe ih =>
    obtain ⟨D', hDe', rD⟩ := pjDouble_jac hH hD (hne j)
    obtain rfl : D' = D := Pt.jac.inj (hDe'.symm.trans hDe)
    obtain ⟨S, hS, rS, -⟩ := pjScale_correct rD
    obtain ⟨x, y, hx, hy, rE⟩ := entryRep_of_pj rS
    rw [← two_pow_succ_smul] at rS rE
    simp only [hS, hx, hy, ok_bind]
    obtain ⟨table, ht, hT, m, hm, hb, hjm, hmin⟩ :=
      ih S x y (j + 1) (by rw [hij, pow_succ]) rS (by simp [hlen]) (entries_snoc hlen hE rE)
    refine ⟨table, ht, hT, m, hm, hb, by omega, fun _ => ?_⟩
    rcases Nat.lt_or_ge (j + 1) m with h | h
    · exact hmin h
    · have : m - 1 = j := by omega
      rw [this, ← hij]; exact hlt
  | case2 i hi doubler acc hlt hno =>
    obtain ⟨D, hDe, -⟩ := pjDouble_jac hH hD (hne j)
    exact absurd hDe (hno D)
  | case3 i hi doubler acc hlt =>
    exact ⟨acc, rfl, hE, j, hlen, by rw [← hij]; omega, le_refl _, fun h => absurd h (lt_irrefl _)⟩

theorem precomputeTable_correct_min (hH : NoOrder2 H) {P : PJ} {g} (hP : PJRep p a b H P g) {o : ℤ}
    (ho : truthy P.order = some o) (hpos : 0 < o) :
    ∃ table, precomputeTable P = .ok table ∧
      (∀ j (hj : j < table.length), EntryRep p a b H table[j] ((2 : ℤ) ^ j • g)) ∧
      ∃ m : ℕ, table.length = m + 1 ∧ 4 * o ≤ 2 ^ m ∧ 2 ^ (m - 1) < 4 * o := by
  have hd : PJRep p a b H ⟨P.curve, P.x, P.y, P.z, some (o * 2), false⟩ g := ⟨hP.onCurve, hP.inRange, hP.good⟩
  obtain ⟨x, y, hx, hy, rE⟩ := entryRep_of_pj hd
  obtain ⟨table, ht, hT, m, hm, hb, -, hmin⟩ :=
    tableLoop_correct hH hP.mem (good_ne_zero hP.good) (o * 2 * 2) 1 (by decide)
      ⟨P.curve, P.x, P.y, P.z, some (o * 2), false⟩ [(x, y)] 0 (by simp) (by simpa using hd) rfl (by
        intro r hr
        have : r = 0 := by simpa using hr
        subst this
        simpa using rE)
  refine ⟨table, ?_, hT, m, hm, by omega, ?_⟩
  · simp only [precomputeTable, ho, hx, hy, ok_bind]
    exact ht
  · have hm0 : 0 < m := by
      rcases m with _ | m
      · simp at hb; omega
      · omega
    have := hmin hm0
    omega

theorem precomputeTable_correct (hH : NoOrder2 H) {P : PJ} {g} (hP : PJRep p a b H P g) {o : ℤ}
    (ho : truthy P.order = some o) (hpos : 0 < o) :
    ∃ table, precomputeTable P = .ok table ∧
      (∀ j (hj : j < table.length), EntryRep p a b H table[j] ((2 : ℤ) ^ j • g)) ∧
      ∃ m : ℕ, table.length = m + 1 ∧ 4 * o ≤ 2 ^ m := by
  obtain ⟨table, ht, hT, m, hm, hb, -⟩ := precomputeTable_correct_min hH hP ho hpos
  exact ⟨table, ht, hT, m, hm, hb⟩

theorem EntryRep.good (hH : NoOrder2 H) {e : ℤ × ℤ} {t} (h : EntryRep p a b H e t) :
    Good (a : ZMod p) (b : ZMod p) H (cast3 p (e.1, e.2, 1)) t := by
  obtain ⟨_, _, hm, hn, rfl⟩ := h
  exact good_of_mem hH hm

theorem EntryRep.op (hH : NoOrder2 H) {e : ℤ × ℤ} {t} (h : EntryRep p a b H e t) :
    OpRep p a b H (e.1, e.2, 1) t :=
  ⟨⟨InRange.zt h.2.1, zt_one, (h.good hH).rep⟩, h.1, inRange_one⟩

theorem mulPrecomputeStep_rel (hp2 : p ≠ 2) (hH : NoOrder2 H) (st : ℤ × ℤ × ℤ × ℤ) (e : ℤ × ℤ)
    (h t : Grp (a : ZMod p) (b : ZMod p)) (hs : AccRep p a b H st.2 h) (ht : EntryRep p a b H e t) :
    AccRep p a b H (mulPrecomputeStep p a st e).2 (h + (Naf.recStep st.1).1 • t) := by
  rw [Naf.mulPrecomputeStep_snd]
  split_ifs with h1 h2
  · rw [h1, neg_smul, one_smul]
    exact accRep_add hp2 hH hs (ht.op hH).neg
  · rw [h2, one_smul]
    exact accRep_add hp2 hH hs (ht.op hH)
  · have h0 : (Naf.recStep st.1).1 = 0 := by
      rcases (Naf.recStep_spec st.1).2.1 with h | h | h
      exacts [absurd h h1, h, absurd h h2]
    rw [h0, zero_smul, add_zero]
    exact hs

theorem mulPrecompute_correct (hp2 : p ≠ 2) (hH : NoOrder2 H) {P : PJ} (hc : OnCurve p a b P.curve)
    {g : Grp (a : ZMod p) (b : ZMod p)} {table : List (ℤ × ℤ)}
    (hT : ∀ j (hj : j < table.length), EntryRep p a b H table[j] ((2 : ℤ) ^ j • g)) {k : ℤ} (h0 : 0 ≤ k)
    (hk : k < 2 ^ (table.length - 1)) (hL : 1 ≤ table.length) :
    PtRep p a b H (mulPrecompute P table k) (k • g) := by
  have := Naf.mulPrecompute_rel (AccRep p a b H) (EntryRep p a b H)
    (mulPrecomputeStep p a) g (Naf.mulPrecomputeStep_fst p a) (mulPrecomputeStep_rel hp2 hH) table hT k (0, 0, 1)
    accRep_sentinel h0 hk hL
  unfold mulPrecompute
  simp only [hc.p_eq, hc.a_eq]
  exact coordsOut_rep hc _ this.2.irep this.2.inRange

/- `_maybe_precompute` doubles `order` twice before its loop (`order * 2 * 2` in the model), hence the table reaches
`2^m ≥ 4·o`; the scalar is reduced modulo `2·o`, and the recoding needs `k < 2^m`: `2·o ≤ 2^m` would do. -/

theorem pjMulWith_of_table (hp2 : p ≠ 2) (hH : NoOrder2 H) {P : PJ} {g} (hP : PJRep p a b H P g) {o : ℤ}
    (ho : truthy P.order = some o) (hpos : 0 < o) (hog : o • g = 0) {pre table : List (ℤ × ℤ)}
    (hmp : maybePrecompute P pre = .ok table)
    (hT : ∀ j (hj : j < table.length), EntryRep p a b H table[j] ((2 : ℤ) ^ j • g))
    (hlen : ∃ m : ℕ, table.length = m + 1 ∧ 4 * o ≤ 2 ^ m) (k : ℤ) (hk0 : k ≠ 0) (hk1 : k ≠ 1) :
    ∃ R, pjMulWith pre P k = .ok R ∧ PtRep p a b H R (k • g) := by
  obtain ⟨m, hm, hb⟩ := hlen
  have hy : (P.y == 0 || k == 0) = false := by simp [hP.y_ne, hk0]
  have h1 : (k == 1) = false := by simp [hk1]
  have hne : (!table.isEmpty) = true := by
    cases table with
    | nil => simp at hm
    | cons _ _ => rfl
  obtain ⟨hk'0, hk'1⟩ := pmod_range (show 0 < o * 2 by omega) k
  refine ⟨mulPrecompute P table (pmod k (o * 2)), ?_, ?_⟩
  · simp only [pjMulWith, hy, h1, ho, hmp, ok_bind, hne, Bool.false_eq_true, if_false, if_true]
  · rw [← smul_pmod hog k (o * 2) (dvd_mul_right o 2)]
    refine mulPrecompute_correct hp2 hH hP.onCurve hT hk'0 ?_ (by omega)
    rw [hm, Nat.add_sub_cancel]
    omega

/-- `pre` is the list `_maybe_precompute` left in the object -/
theorem pjMulWith_table_correct (hp2 : p ≠ 2) (hH : NoOrder2 H) {P : PJ} {g} (hP : PJRep p a b H P g) {o : ℤ}
    (ho : truthy P.order = some o) (hpos : 0 < o) (hog : o • g = 0) {pre : List (ℤ × ℤ)}
    (hT : ∀ j (hj : j < pre.length), EntryRep p a b H pre[j] ((2 : ℤ) ^ j • g))
    (hlen : ∃ m : ℕ, pre.length = m + 1 ∧ 4 * o ≤ 2 ^ m) (k : ℤ) (hk0 : k ≠ 0) (hk1 : k ≠ 1) :
    ∃ R, pjMulWith pre P k = .ok R ∧ PtRep p a b H R (k • g) := by
  refine pjMulWith_of_table hp2 hH hP ho hpos hog ?_ hT hlen k hk0 hk1
  obtain ⟨m, hm, -⟩ := hlen
  cases pre with
  | nil => simp at hm
  | cons _ _ => simp [maybePrecompute]

theorem pjMul_generator_correct (hp2 : p ≠ 2) (hH : NoOrder2 H) {P : PJ} {g} (hP : PJRep p a b H P g) {o : ℤ}
    (ho : truthy P.order = some o) (hpos : 0 < o) (hog : o • g = 0) (hgen : P.generator = true) (k : ℤ)
    (hk0 : k ≠ 0) (hk1 : k ≠ 1) : ∃ R, pjMul P k = .ok R ∧ PtRep p a b H R (k • g) := by
  obtain ⟨table, ht, hT, hlen⟩ := precomputeTable_correct hH hP ho hpos
  exact pjMulWith_of_table hp2 hH hP ho hpos hog (by simpa [maybePrecompute, hgen] using ht) hT hlen k hk0 hk1

example : pmod 17 (5 * 2) • (1 : ZMod 5) = (17 : ℤ) • (1 : ZMod 5) :=
  smul_pmod (o := 5) (by decide) 17 _ (dvd_mul_right 5 2)
example : 0 ≤ pmod (-3) (5 * 2) ∧ pmod (-3) (5 * 2) < 2 * 5 := pmod_range (by decide) (-3)
example : pmod (-3) (5 * 2) = 7 := by decide
-- declared order 7: the table has the entries 2^0 … 2^5 (4·7 = 28 ≤ 32, 16 < 28) and every reduced scalar k < 14 is
-- consumed by its 6 iterations
example : (4 : ℤ) * 7 ≤ 2 ^ 5 ∧ (2 : ℤ) ^ (5 - 1) < 4 * 7 := by decide
example : Naf.nafVal (Naf.recDigits 6 13) = 13 ∧ Naf.recRem 6 13 = 0 :=
  Naf.recDigits_sum_table 7 13 5 6 (by decide) (by decide) (by decide) (by decide)

end Jac
