import Model.NumberTheory
import Proofs.NTPow
import Proofs.NTJacobi
import Mathlib.NumberTheory.LegendreSymbol.QuadraticReciprocity
/-! `square_root_mod_prime` (C15): the lines before the branches, and the arithmetic that the branches `p ≡ 3 (mod 4)` and
`p ≡ 5 (mod 8)` (`Props/C15`) rest on -/
namespace NTProofs
open NT NumberTheorySymbols

theorem exponents_3mod4 {p : ℕ} (h : p % 4 = 3) :
    p ≠ 2 ∧ (p : Int) % 4 = 3 ∧ ∃ k, p = 4 * k + 3 ∧ p / 2 = 2 * k + 1 ∧ (((p : Int) + 1) / 4).toNat = k + 1 :=
  ⟨by omega, by omega, p / 4, by omega⟩

theorem exponents_5mod8 {p : ℕ} (h : p % 8 = 5) :
    p ≠ 2 ∧ ¬ (p : Int) % 4 = 3 ∧ (p : Int) % 8 = 5 ∧ ∃ k, p = 8 * k + 5 ∧ p / 2 = 4 * k + 2 ∧
      (((p : Int) - 1) / 4).toNat = 2 * k + 1 ∧ (((p : Int) + 3) / 8).toNat = k + 1 ∧ (((p : Int) - 5) / 8).toNat = k :=
  ⟨by omega, by omega, by omega, p / 8, by omega⟩

variable {p : ℕ} [hp : Fact p.Prime]

theorem cast_ne_zero {a : Int} (h0 : 0 < a) (h1 : a < p) : (a : ZMod p) ≠ 0 := by
  intro h
  have := (ZMod.intCast_zmod_eq_zero_iff_dvd a p).mp h
  have := Int.le_of_dvd h0 this
  omega

theorem jacobi_prime (hp2 : p ≠ 2) (a : Int) : jacobi a p = .ok (legendreSym p a) := by
  have h3 : 3 ≤ p := by have := hp.out.two_le; omega
  have hodd : p % 2 = 1 := hp.out.eq_two_or_odd.resolve_left hp2
  rw [jacobi_eq a p h3 hodd, jacobiSym.legendreSym.to_jacobiSym]

/-- the first lines of `square_root_mod_prime` for `0 < a < p`, `p` an odd prime -/
theorem sqrt_unfold (hp2 : p ≠ 2) (a : Int) (h0 : 0 < a) (h1 : a < p) :
    squareRootModPrime a p =
      if legendreSym p a = -1 then .error .squareRoot
      else if (p : Int) % 4 = 3 then .ok (powMod a (((p : Int) + 1) / 4).toNat p)
      else if (p : Int) % 8 = 5 then
        (let d := powMod a (((p : Int) - 1) / 4).toNat p
         if d = 1 then .ok (powMod a (((p : Int) + 3) / 8).toNat p)
         else if d = p - 1 then .ok ((2 * a * powMod (4 * a) (((p : Int) - 5) / 8).toNat p) % p)
         else .error .runtimeError)
      else sqrtSearch a p ((p : Int) - 2).toNat 2 := by
  have h2 := hp.out.two_le
  have hp0 : (0 : Int) < p := by omega
  unfold squareRootModPrime
  have c1 : (0 ≤ a ∧ a < (p : Int)) := ⟨by omega, h1⟩
  have c2 : (1 : Int) < p := by omega
  have c3 : ¬ a = 0 := by omega
  have c4 : ¬ ((p : Int) = 2) := by omega
  simp only [c1, c2, c3, c4, and_self, not_true_eq_false, ↓reduceIte, jacobi_prime hp2, bind, Except.bind,
    pmod_eq_emod (show (0 : Int) < 4 by decide), pmod_eq_emod (show (0 : Int) < 8 by decide), pmod_eq_emod hp0,
    pdiv_eq_ediv (show (0 : Int) < 4 by decide), pdiv_eq_ediv (show (0 : Int) < 8 by decide)]

theorem pow_half_eq_one {a : Int} (h0 : 0 < a) (h1 : a < p) (hs : IsSquare (a : ZMod p)) : (a : ZMod p) ^ (p / 2) = 1 :=
  (ZMod.euler_criterion p (cast_ne_zero h0 h1)).mp hs

theorem legendreSym_ne_neg_one {a : Int} (hs : IsSquare (a : ZMod p)) : ¬ legendreSym p a = -1 := by
  intro h; exact (legendreSym.eq_neg_one_iff p).mp h hs

theorem two_ne_zero' (hp2 : p ≠ 2) : (2 : ZMod p) ≠ 0 :=
  Ring.two_ne_zero (by rwa [ZMod.ringChar_zmod_n])

theorem pow_half_eq_neg_one {x : ZMod p} (hx : ¬ IsSquare x) : x ^ (p / 2) = -1 := by
  have hx0 : x ≠ 0 := fun h => hx (h ▸ IsSquare.zero)
  exact (ZMod.pow_div_two_eq_neg_one_or_one p hx0).resolve_left fun h => hx ((ZMod.euler_criterion p hx0).mpr h)

theorem two_pow_half_eq_neg_one (h58 : p % 8 = 5) : (2 : ZMod p) ^ (p / 2) = -1 :=
  pow_half_eq_neg_one (by rw [ZMod.exists_sq_eq_two_iff (by omega)]; omega)

end NTProofs
