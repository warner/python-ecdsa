import Proofs.EcdsaRecoverBase
/-!
# Proofs.EcdsaRecover — `Signature.recover_public_keys` on honest signatures
-/
namespace Ecdsa

variable {P : Type} {𝔾 : Type} [AddCommGroup 𝔾]
variable {ops : PointOps P} {G : 𝔾} {den : P → 𝔾} {xc : 𝔾 → Option ℤ} {valid : P → Prop}

theorem candidate_spec (C : RecoverOpsCorrect ops G den xc valid) (r s negE : ℤ) (hr : 1 ≤ r ∧ r < ops.order)
    (R : P) (hR : valid R) :
    ∃ Q, candidate ops r s negE R = .ok Q ∧ valid Q ∧ den Q = invZ ops.order r • (s • den R + negE • G) := by
  obtain ⟨hinv, -⟩ := inverseMod_eq_invZ C.n_prime hr.1 hr.2
  obtain ⟨T1, h1, v1, d1⟩ := C.mul s R hR
  obtain ⟨T2, h2, v2, d2⟩ := C.mulG negE
  obtain ⟨S, h3, v3, d3⟩ := C.add T1 T2 v1 v2
  obtain ⟨Q, h4, v4, d4⟩ := C.mul (invZ ops.order r) S v3
  refine ⟨Q, ?_, v4, by rw [d4, d3, d1, d2]⟩
  unfold candidate
  simp [hinv, h1, h2, h3, h4, bind, Except.bind]

theorem order_smul_candidate (C : RecoverOpsCorrect ops G den xc valid) {T : 𝔾} (hnT : ops.order • T = 0) (ri s m : ℤ) :
    ops.order • (ri • (s • T + m • G)) = 0 := by
  refine zsmul_zsmul_eq_zero ?_ ri
  rw [zsmul_add, zsmul_zsmul_eq_zero hnT, zsmul_zsmul_eq_zero C.nG, add_zero]

theorem mapM_ok {α β : Type} {f : α → Res β} {g : α → β} (l : List α) (h : ∀ a ∈ l, f a = .ok (g a)) :
    l.mapM f = .ok (l.map g) := by
  induction l with
  | nil => rfl
  | cons a t ih =>
    rw [List.mapM_cons, h a (by simp), ih fun b hb => h b (by simp [hb])]
    rfl

theorem mapM_publicKeyInit (C : RecoverOpsCorrect ops G den xc valid) (l : List P)
    (hl : ∀ A ∈ l, valid A ∧ den A ≠ 0 ∧ ops.order • den A = 0) :
    l.mapM (fun Q => publicKeyInit ops Q true) = .ok l := by
  rw [mapM_ok (g := id) l, List.map_id]
  intro A hA
  obtain ⟨vA, nA, oA⟩ := hl A hA
  unfold publicKeyInit
  simp [publicKeyCheck_ok C.toPointOpsCorrect A vA nA true (fun _ => C.on_curve A vA nA) (fun _ => oA), bind, Except.bind]

theorem mapM_fromPublicPoint (C : RecoverOpsCorrect ops G den xc valid) (l : List P)
    (hl : ∀ A ∈ l, valid A ∧ den A ≠ 0 ∧ ops.order • den A = 0) :
    l.mapM (fun Q => fromPublicPoint ops Q true) = .ok (l.map ops.fromAffine) := by
  refine mapM_ok l fun A hA => ?_
  obtain ⟨vA, nA, oA⟩ := hl A hA
  obtain ⟨vF, dF⟩ := C.fromAffine A vA
  rw [← dF] at nA oA
  unfold fromPublicPoint
  simp [C.isInfObj A vA (dF ▸ nA), bind, Except.bind,
    publicKeyCheck_ok C.toPointOpsCorrect _ vF nA true (fun _ => C.on_curve _ vF nA) (fun _ => oA)]

/-- the data of an honest signature: made by `d` with a nonce `k` not divisible by `n` whose point has abscissa `x₀ < n` -/
structure Honest (ops : PointOps P) (G : 𝔾) (xc : 𝔾 → Option ℤ) (d e k r s x0 : ℤ) : Prop where
  hk : ¬ ops.order ∣ k
  hd : ¬ ops.order ∣ d
  hsig : sign ops d e k = .ok (r, s)
  hx0 : xc (k • G) = some x0
  hlt : x0 < ops.order

/-- On an honest signature `recover_public_keys` returns `[Q₁, Q₂].filter (≠ ∞)`, `Qᵢ` denoting `r⁻¹(s•Rᵢ − e•G)` with
`{R₁, R₂} = {k•G, −k•G}` (`R₁ = T` below).  `n ∤ d` (`Honest.hd`) plays no part here; only `C14.recovered_contains_Q` uses it. -/
theorem recover_structure (C : RecoverOpsCorrect ops G den xc valid) (sqrt : ℤ → ℤ → Res ℤ) (hsq : SqrtSpec sqrt ops.p)
    (d e k r s x0 : ℤ) (H : Honest ops G xc d e k r s x0) :
    ∃ Q1 Q2 : P, ∃ T : 𝔾, (T = k • G ∨ T = -(k • G)) ∧ valid Q1 ∧ valid Q2 ∧
      den Q1 = invZ ops.order r • (s • T + ((-e) % ops.order) • G) ∧
      den Q2 = invZ ops.order r • (s • (-T) + ((-e) % ops.order) • G) ∧
      recoverPublicKeys ops sqrt r s e = .ok ([Q1, Q2].filter (fun Q => !(ops.isInfinity Q))) ∧
      (T ≠ 0 ∧ xc T = some x0 ∧ ops.order • T = 0) ∧
      ∀ A ∈ [Q1, Q2].filter (fun Q => !(ops.isInfinity Q)), valid A ∧ den A ≠ 0 ∧ ops.order • den A = 0 := by
  have hn := C.n_pos
  obtain ⟨x, hx, hxr, hr, -⟩ := sign_eq_ok C.toPointOpsCorrect H.hk H.hsig
  have hx0 := C.xc_range _ _ H.hx0
  -- r is the abscissa itself
  have hrx : r = x0 := by
    rw [H.hx0] at hx; cases hx
    rw [← hxr]; exact Int.emod_eq_of_lt hx0.1 H.hlt
  have hp : 0 < ops.p := by omega
  obtain ⟨β, hβ, b0, b1, hb⟩ := sqrt_step C sqrt hsq (k • G) x0 H.hx0
  obtain ⟨y0, y1, yc, z0, z1, zc, hyz⟩ := candidate_ordinates x0 ops.p ops.a ops.b β hp b0 b1 hb
  have cp1 := (C.containsPoint_iff x0 _).mpr yc
  have cp2 := (C.containsPoint_iff x0 _).mpr zc
  obtain ⟨vR1, nR1, xR1⟩ := C.mkPoint_valid x0 _ hx0.1 hx0.2 y0 y1 cp1 ⟨k, H.hx0⟩
  obtain ⟨vR2, -, -⟩ := C.mkPoint_valid x0 _ hx0.1 hx0.2 z0 z1 cp2 ⟨k, H.hx0⟩
  have dR2 := C.mkPoint_neg x0 _ _ hx0.1 hx0.2 y0 y1 z0 z1 cp1 ⟨k, H.hx0⟩ hyz
  have hT := C.xc_inj (k • G) _ (C.smul_ne_zero H.hk) (H.hx0.trans xR1.symm)
  have hnT : ops.order • den (ops.mkPoint x0 (Gen.Ecdsa.recover_y β ops.p)) = 0 := by
    rcases hT with h | h <;> rw [h]
    · exact zsmul_zsmul_eq_zero C.nG k
    · rw [zsmul_neg, zsmul_zsmul_eq_zero C.nG, neg_zero]
  have negmod : Gen.Ecdsa.recover_neg_e e ops.order = (-e) % ops.order := pmod_eq_emod hn
  have negmod2 : Gen.Ecdsa.recover_neg_e2 e ops.order = (-e) % ops.order := pmod_eq_emod hn
  obtain ⟨Q1, hQ1, vQ1, dQ1⟩ := candidate_spec C r s ((-e) % ops.order) hr _ vR1
  obtain ⟨Q2, hQ2, vQ2, dQ2⟩ := candidate_spec C r s ((-e) % ops.order) hr _ vR2
  rw [dR2] at dQ2
  have hlist : ∀ A ∈ [Q1, Q2].filter (fun Q => !(ops.isInfinity Q)), valid A ∧ den A ≠ 0 ∧ ops.order • den A = 0 := by
    intro A hA
    obtain ⟨hmem, hinf⟩ := List.mem_filter.mp hA
    -- kept by the filter: not at infinity, hence not denoting 0
    have key (hv : valid A) (hden : ops.order • den A = 0) : valid A ∧ den A ≠ 0 ∧ ops.order • den A = 0 :=
      ⟨hv, fun h0 => by simp [(C.isInf A hv).mpr h0] at hinf, hden⟩
    rcases List.mem_cons.mp hmem with h | h
    · subst h; exact key vQ1 (dQ1 ▸ order_smul_candidate C hnT _ _ _)
    · obtain rfl := List.mem_singleton.mp h
      exact key vQ2 (dQ2 ▸ order_smul_candidate C (by rw [zsmul_neg, hnT, neg_zero]) _ _ _)
  refine ⟨Q1, Q2, _, hT, vQ1, vQ2, dQ1, dQ2, ?_, ⟨nR1, xR1, hnT⟩, hlist⟩
  unfold recoverPublicKeys
  subst hrx
  simp only [ne_of_gt hp, if_false, hβ, bind, Except.bind, negmod, negmod2, hQ1, hQ2]
  exact mapM_publicKeyInit C _ hlist

end Ecdsa
