import Proofs.EcdsaBits
/-!
# Proofs.EcdsaTruncate — `_truncate_and_convert_digest`
-/
namespace Ecdsa

/-- the integer FIPS 186-4 §6.4 / SEC 1 §4.1.3 derive from a digest: its leftmost `min(8·len, bitlen n)` bits -/
def leftmostBits (dg : Bytes) (blen : Nat) : Nat := bitsToNat ((bytesToBits dg).take (min (8 * dg.length) blen))

theorem leftmostBits_eq (dg : Bytes) (blen : Nat) :
    leftmostBits dg blen = beVal dg / 2 ^ (8 * dg.length - min (8 * dg.length) blen) := by
  unfold leftmostBits
  rw [bitsToNat_eq, bytesToBits_eq, Bits.bitsVal_take, Bits.bitsVal_bitsOfBytes, Bits.bitsOfBytes_length]

theorem sub_min_self (a b : Nat) : a - min a b = a - b := by
  rcases Nat.le_total a b with h | h
  · rw [Nat.min_eq_left h, Nat.sub_self, Nat.sub_eq_zero_of_le h]
  · rw [Nat.min_eq_right h]

/-- `max(0, length - max_length)` for `length = 8·a` -/
theorem shift_toNat (a B : Nat) : (max (0 : Int) ((a : Int) * 8 - (B : Int))).toNat = 8 * a - B := by
  rw [Int.max_comm, ← Int.toNat_eq_max, Int.toNat_natCast, Nat.mul_comm, ← Int.toNat_sub, Int.natCast_mul]
  rfl

/-- truncation allowed, for any `baselen ≥ 1` that keeps at least `bit_length(order)` bits:
the byte cropping followed by the shift is one shift — the leftmost `min(8·len, bitlen)` bits -/
theorem truncate_allow_gen (dg : Bytes) (hne : dg ≠ []) (bl : Nat) (order : Int) (hbl : 1 ≤ bl)
    (hb : (bitLen order).toNat ≤ 8 * bl) :
    truncateAndConvertDigest dg bl order true = .ok ((leftmostBits dg (bitLen order).toNat : Nat) : Int) := by
  have htake : dg.take bl ≠ [] := by
    cases dg with
    | nil => exact absurd rfl hne
    | cons b t => cases bl with
      | zero => omega
      | succ k => simp
  obtain ⟨B, hB⟩ : ∃ B : Nat, bitLen order = B := ⟨(bitLen order).toNat, by unfold bitLen; split <;> omega⟩
  rw [hB, Int.toNat_natCast] at hb ⊢
  unfold truncateAndConvertDigest
  simp only [Bool.not_true, Bool.false_eq_true, if_false, Util.stringToNumber_eq _ htake, bind, Except.bind,
    Gen.Ecdsa.truncate_shift, Gen.Ecdsa.truncate_length, hB]
  rw [Int.shiftRight_eq_div_pow, shift_toNat, leftmostBits_eq, sub_min_self, ← Int.natCast_ediv]
  congr 2
  rcases Nat.lt_or_ge bl dg.length with h | h
  · -- the digest is longer than baselen bytes: crop (a division by `256^(len − baselen)`), then shift
    rw [beVal_take, List.length_take, Nat.min_eq_left (Nat.le_of_lt h), Nat.div_div_eq_div_mul,
      show (256 : Nat) = 2 ^ 8 from rfl, ← Nat.pow_mul, ← Nat.pow_add, ← Nat.add_sub_assoc hb, ← Nat.mul_add,
      Nat.sub_add_cancel (Nat.le_of_lt h)]
  · rw [List.take_of_length_le h]

/-- **C03, truncation allowed** (for `curve.baselen = orderlen(curve.order)`, as `curves.Curve` sets it) -/
theorem truncate_allow (dg : Bytes) (hne : dg ≠ []) (n : Nat) :
    truncateAndConvertDigest dg (Util.orderlen n) (n : Int) true = .ok ((leftmostBits dg (bitLen (n : Int)).toNat : Nat) : Int) :=
  truncate_allow_gen dg hne _ _ (Util.orderlen_pos n) (bitLen_le_baselen n)

theorem truncate_noallow (dg : Bytes) (hne : dg ≠ []) (bl : Nat) (order : Int) :
    truncateAndConvertDigest dg bl order false =
      if dg.length > bl then .error .badDigest else .ok (beVal dg : Int) := by
  have hsn := Util.stringToNumber_eq dg hne
  unfold truncateAndConvertDigest
  simp only [Bool.not_false, if_true, Gen.Ecdsa.truncate_too_long, hsn, bind, Except.bind, decide_eq_true_eq, gt_iff_lt,
    Int.ofNat_lt]

/-- both flags, for a curve object (`baselen = orderlen(order)`) -/
theorem truncate_total {P : Type} (ops : PointOps P) (hn : 0 < ops.order) (dg : Bytes) (hne : dg ≠ []) (allow : Bool) :
    truncateAndConvertDigest dg (baselen ops) ops.order allow =
      if allow = false ∧ dg.length > baselen ops then .error .badDigest
      else .ok (if allow = true then ((leftmostBits dg (bitLen ops.order).toNat : Nat) : Int) else (beVal dg : Int)) := by
  cases allow
  · rw [truncate_noallow dg hne]; simp
  · have := truncate_allow dg hne ops.order.toNat
    rw [Int.toNat_of_nonneg (Int.le_of_lt hn)] at this
    rw [baselen, this]; simp

/-- the excluded input: an EMPTY digest makes `int(b"", 16)` raise `ValueError`, with either flag -/
theorem truncate_empty (bl : Nat) (order : Int) (allow : Bool) :
    truncateAndConvertDigest [] bl order allow = .error .valueError := by
  cases allow <;> simp [truncateAndConvertDigest, Gen.Ecdsa.truncate_too_long, Util.stringToNumber, bind, Except.bind]

theorem leftmostBits_short (dg : Bytes) (blen : Nat) (h : 8 * dg.length ≤ blen) : leftmostBits dg blen = beVal dg := by
  rw [leftmostBits_eq, Nat.min_eq_left h]; simp

end Ecdsa
