import Proofs.NTFact
import Proofs.NTNext
import Proofs.NTGcd
import Mathlib.Tactic.Linarith
/-! `factorization` with soundness of `is_prime` assumed only up to `n` (C16) -/
namespace NTProofs
open NT Gen.NT

theorem le_prod_of_mem : ∀ (fs : List (Int × Int)), (∀ g ∈ fs, 2 ≤ g.1 ∧ 1 ≤ g.2) →
    1 ≤ (fs.map (fun f => f.1 ^ f.2.toNat)).prod ∧ ∀ f ∈ fs, f.1 ≤ (fs.map (fun f => f.1 ^ f.2.toNat)).prod
  | [], _ => ⟨le_rfl, nofun⟩
  | g :: r, h => by
    obtain ⟨hg, hr⟩ := List.forall_mem_cons.mp h
    obtain ⟨ih1, ih⟩ := le_prod_of_mem r hr
    have hpow : g.1 ≤ g.1 ^ g.2.toNat := le_self_pow₀ (by omega) (by omega)
    rw [List.map_cons, List.prod_cons]
    exact ⟨one_le_mul_of_one_le_of_one_le (by omega) ih1, List.forall_mem_cons.mpr
      ⟨hpow.trans (le_mul_of_one_le_right (by omega) ih1),
       fun f hf => (ih f hf).trans (le_mul_of_one_le_left (by omega) (by omega))⟩⟩

/-- soundness of `is_prime` is needed only up to `n`: the only number it is applied to is a cofactor `≤ n` -/
theorem factorization_all_prime_bounded (lg : Int → Int) (n : Int) (hn : 2 ≤ n)
    (hsound : ∀ m, 1229 < m → m ≤ n → isPrime lg m = .ok true → m.toNat.Prime) :
    ∃ fs, factorization lg n = .ok fs ∧
        (fs.map (fun f => f.1 ^ f.2.toNat)).prod = n ∧ (fs.map Prod.fst).Pairwise (· < ·) ∧
        (∀ f ∈ fs, 1 ≤ f.2) ∧ (∀ f ∈ fs, 2 ≤ f.1) ∧ ∀ f ∈ fs, f.1.toNat.Prime := by
  obtain ⟨fs, h1, h2, h3, h4, h5, h6⟩ := (factorization_spec lg n).2 hn
  refine ⟨fs, h1, h2, h3, h4, h5, fun f hf => ?_⟩
  rcases h6 f hf with h | ⟨h, _, hp, _⟩
  · exact h
  · have hle := (le_prod_of_mem fs (fun g hg => ⟨h5 g hg, h4 g hg⟩)).2 f hf
    rw [h2] at hle
    exact hsound _ h hle hp

end NTProofs
