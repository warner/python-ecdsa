import Proofs.EcdsaTruncate
import Props.C12
/-!
# Proofs.EcdsaDecode — the only failures of the signature decoders are `MalformedSignature` / `UnexpectedDER`
(C12: the `assert`/`int("", 16)` failure modes kept in the model of `string_to_number_fixedlen` are unreachable)
-/
namespace Ecdsa

/-- what `verify_digest` needs of a decoder: it fails only with the two classes that are caught -/
def DecodeErrorsCaught {σ : Type} (dec : σ → Nat → Res (Nat × Nat)) : Prop :=
  ∀ sig n e, dec sig n = .error e → e = .unexpectedDER ∨ e = .malformedSignature

theorem sigdecodeString_errors : DecodeErrorsCaught Util.sigdecodeString :=
  fun sig n e h => Or.inr ((C12.sigdecode_string_errors sig n).2 e h).1

theorem sigdecodeStrings_errors : DecodeErrorsCaught Util.sigdecodeStrings :=
  fun sig n e h => Or.inr ((C12.sigdecode_strings_errors sig n).2 e h)

theorem derErrorsCaught : DecodeErrorsCaught Util.sigdecodeDer :=
  fun sig n e h => Or.inl ((C12.sigdecode_der_errors sig n).2 e h)

end Ecdsa
