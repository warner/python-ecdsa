import Proofs.DerNum
import Proofs.DerTlv
/-!
# Proofs.DerOid — OBJECT IDENTIFIER: `remove_object` inverts `encode_oid`, accepts only its output, fails only
with `UnexpectedDER` (the fuel of the `while body:` loop never runs out, `numbers.pop(0)` never fails).
-/
namespace Der

def encNums (ns : List Nat) : Bytes := (ns.map encodeNumber).flatten

theorem encNums_nil : encNums [] = [] := rfl
theorem encNums_cons (n : Nat) (ns : List Nat) : encNums (n :: ns) = encodeNumber n ++ encNums ns := rfl

theorem oidBody_eq (first second : Nat) (pieces : List Nat) :
    oidBody first second pieces = encNums ((40 * first + second) :: pieces) := rfl

theorem readNumbers_step (n : Nat) (x : Bytes) (fuel : Nat) :
    readNumbers (fuel + 1) (encodeNumber n ++ x) = readNumbers fuel x >>= fun ns => .ok (n :: ns) := by
  have hne : (encodeNumber n ++ x).isEmpty = false := List.isEmpty_eq_false_iff.mpr (by simp [encodeNumber_ne_nil n])
  simp only [readNumbers, hne, Bool.false_eq_true, if_false, readNumber_encode, bind, Except.bind, List.drop_left']

theorem readNumbers_fuel {n : Nat} {x : Bytes} {fuel : Nat} (hf : (encodeNumber n ++ x).length ≤ fuel) :
    ∃ f, fuel = f + 1 ∧ x.length ≤ f := by
  have hpos := encodeNumber_length_pos n
  rw [List.length_append] at hf
  exact ⟨fuel - 1, by omega, by omega⟩

theorem readNumbers_encode (ns : List Nat) (fuel : Nat) (hf : (encNums ns).length ≤ fuel) :
    readNumbers fuel (encNums ns) = .ok ns := by
  induction ns generalizing fuel with
  | nil => cases fuel <;> rfl
  | cons n ns ih =>
    rw [encNums_cons] at hf ⊢
    obtain ⟨f, rfl, hf'⟩ := readNumbers_fuel hf
    rw [readNumbers_step, ih f hf']; rfl

theorem readNumbers_padded (ns : List Nat) (t : Bytes) (fuel : Nat) (hf : (encNums ns ++ 0x80 :: t).length ≤ fuel) :
    readNumbers fuel (encNums ns ++ 0x80 :: t) = .error .unexpectedDER := by
  induction ns generalizing fuel with
  | nil =>
    obtain ⟨f, rfl⟩ : ∃ f, fuel = f + 1 := ⟨fuel - 1, by simp [encNums_nil] at hf; omega⟩
    rfl
  | cons n ns ih =>
    rw [encNums_cons, List.append_assoc] at hf ⊢
    obtain ⟨f, rfl, hf'⟩ := readNumbers_fuel hf
    rw [readNumbers_step, ih f hf']; rfl

/-- one round of the `while body:` loop -/
theorem readNumbers_succ (fuel : Nat) {body : Bytes} (hne : body ≠ []) :
    readNumbers (fuel + 1) body
      = readNumber body >>= fun p => readNumbers fuel (body.drop p.2) >>= fun ns => .ok (p.1 :: ns) := by
  rw [readNumbers, List.isEmpty_eq_false_iff.mpr hne]; rfl

theorem readNumbers_ok {fuel : Nat} {body : Bytes} {ns : List Nat} (h : readNumbers fuel body = .ok ns) :
    body = encNums ns := by
  induction fuel generalizing body ns with
  | zero =>
    simp only [readNumbers] at h
    split at h
    · rename_i he; cases h; rw [encNums_nil]; simpa using he
    · cases h
  | succ f ih =>
    by_cases hne : body = []
    · subst hne; cases h; rfl
    · rw [readNumbers_succ f hne] at h
      obtain ⟨⟨n, ll⟩, hv, h⟩ := Res.bind_ok h
      obtain ⟨ns', hns, h⟩ := Res.bind_ok h
      cases h
      obtain ⟨rest, hs, hll⟩ := readNumber_ok hv
      have := ih hns
      rw [hs, hll, List.drop_left'] at this
      rw [encNums_cons, ← this, ← hs]
      rfl

theorem readNumbers_err {fuel : Nat} {body : Bytes} {e : PyErr} (hf : body.length ≤ fuel)
    (h : readNumbers fuel body = .error e) : e = .unexpectedDER := by
  induction fuel generalizing body with
  | zero =>
    have : body = [] := List.length_eq_zero_iff.mp (by omega)
    subst this; cases h
  | succ f ih =>
    by_cases hne : body = []
    · subst hne; cases h
    · rw [readNumbers_succ f hne] at h
      rcases Res.bind_error h with he | ⟨⟨n, ll⟩, hv, h⟩
      · exact readNumber_err he
      · rcases Res.bind_error h with he | ⟨ns', _, h⟩
        · obtain ⟨rest, hs, hll⟩ := readNumber_ok hv
          have hpos := encodeNumber_length_pos n
          refine ih ?_ he
          simp only [List.length_drop]; omega
        · cases h
/-- the first two arcs as `remove_object` splits them off the first sub-identifier -/
theorem arcs_split (first second : Nat) (h : OidDomain first second) :
    (if 40 * first + second < 80 then (40 * first + second) / 40 else 2) = first
    ∧ (40 * first + second) - 40 * (if 40 * first + second < 80 then (40 * first + second) / 40 else 2) = second := by
  unfold OidDomain at h
  rcases h with ⟨h1, h2⟩ | h
  · rw [if_pos (by omega)]; omega
  · subst h; rw [if_neg (by omega)]; omega

theorem arcs_join (n0 : Nat) :
    OidDomain (if n0 < 80 then n0 / 40 else 2) (n0 - 40 * (if n0 < 80 then n0 / 40 else 2))
    ∧ 40 * (if n0 < 80 then n0 / 40 else 2) + (n0 - 40 * (if n0 < 80 then n0 / 40 else 2)) = n0 := by
  unfold OidDomain
  split
  · refine ⟨Or.inl ⟨by omega, by omega⟩, by omega⟩
  · exact ⟨Or.inr rfl, by omega⟩

def objCheck (body rest : Bytes) : Res (List Nat × Bytes) :=
  if body.isEmpty then .error .unexpectedDER
  else do
    let numbers ← readNumbers body.length body
    match numbers with
    | [] => .error .indexError
    | n0 :: tail =>
      let first := if n0 < 80 then n0 / 40 else 2
      let second := n0 - 40 * first
      .ok (first :: second :: tail, rest)

theorem removeObject_eq (s : Bytes) : removeObject s = tlvRead (· = 0x06) (fun _ => objCheck) s := by
  cases s with
  | nil => rfl
  | cons t s' =>
    rw [tlvRead_cons]
    simp only [removeObject, tlvBody]
    congr 1
    cases readLength ((t :: s').drop 1) with
    | error e => rfl
    | ok v =>
      obtain ⟨length, llen⟩ := v
      simp only [bind, Except.bind]
      cases hl : tooLong length (t :: s') llen with
      | true =>
        -- `remove_object` makes no buffer test: a slice shorter than announced is empty or fails `len(body) != length`
        rcases take_short_of_tooLong hl with he | hne
        · rw [if_pos he]; rfl
        · rw [if_pos hne]; split <;> rfl
      | false =>
        have hlen := take_length_of_fits hl
        simp only [Bool.false_eq_true, if_false]
        generalize ((t :: s').drop (1 + llen)).take length = body at hlen ⊢
        subst hlen
        rw [if_neg (show ¬ body.length ≠ body.length from fun h => h rfl)]
        rfl

theorem objCheck_ok_iff (body rest r : Bytes) (arcs : List Nat) :
    objCheck body rest = .ok (arcs, r)
      ↔ r = rest ∧ ∃ first second pieces, arcs = first :: second :: pieces ∧ OidDomain first second
          ∧ body = oidBody first second pieces := by
  unfold objCheck
  constructor
  · intro hk
    split at hk
    · cases hk
    · obtain ⟨ns, hrn, hk⟩ := Res.bind_ok hk
      match ns, hk, hrn with
      | n0 :: tail, hk, hrn =>
        cases hk
        obtain ⟨hdom, hjoin⟩ := arcs_join n0
        exact ⟨rfl, _, _, tail, rfl, hdom, by rw [oidBody_eq, hjoin]; exact readNumbers_ok hrn⟩
  · intro ⟨hr, first, second, pieces, ha, hd, hb⟩
    have hne : (oidBody first second pieces).isEmpty = false :=
      List.isEmpty_eq_false_iff.mpr (by rw [oidBody_eq, encNums_cons]; simp [encodeNumber_ne_nil])
    obtain ⟨h1, h2⟩ := arcs_split first second hd
    rw [hb, hne, oidBody_eq, readNumbers_encode _ _ (Nat.le_refl _), hr, ha]
    simp only [Bool.false_eq_true, if_false, bind, Except.bind]
    rw [h1] at h2 ⊢
    rw [h2]

theorem oidTlv_append (body rest : Bytes) :
    [0x06] ++ encodeLength body.length ++ body ++ rest = 0x06 :: (encodeLength body.length ++ body ++ rest) := rfl

theorem removeObject_encode (first second : Nat) (pieces : List Nat) (rest : Bytes)
    (hd : OidDomain first second) (hl : (oidBody first second pieces).length < 256 ^ 127) :
    removeObject ([0x06] ++ encodeLength (oidBody first second pieces).length ++ oidBody first second pieces ++ rest)
      = .ok (first :: second :: pieces, rest) := by
  rw [oidTlv_append, removeObject_eq, tlvRead_encode (by rfl) _ rest hl]
  exact (objCheck_ok_iff _ rest rest _).mpr ⟨rfl, first, second, pieces, rfl, hd, rfl⟩

theorem removeObject_ok {s rest : Bytes} {arcs : List Nat} (h : removeObject s = .ok (arcs, rest)) :
    ∃ first second pieces, arcs = first :: second :: pieces ∧ OidDomain first second
      ∧ (oidBody first second pieces).length < 256 ^ 127
      ∧ s = [0x06] ++ encodeLength (oidBody first second pieces).length ++ oidBody first second pieces ++ rest := by
  rw [removeObject_eq] at h
  obtain ⟨t, body, r, rfl, hs, hl, hk⟩ := tlvRead_ok h
  obtain ⟨rfl, first, second, pieces, ha, hd, rfl⟩ := (objCheck_ok_iff body r rest arcs).mp hk
  refine ⟨first, second, pieces, ha, hd, hl, ?_⟩
  rw [oidTlv_append]; exact hs

theorem removeObject_err {s : Bytes} {e : PyErr} (h : removeObject s = .error e) : e = .unexpectedDER := by
  rw [removeObject_eq] at h
  refine tlvRead_err h (fun _ body rest hk => ?_)
  unfold objCheck at hk
  split at hk
  · cases hk; rfl
  · rename_i hne
    rcases Res.bind_error hk with hrn | ⟨ns, hrn, hk⟩
    · exact readNumbers_err (Nat.le_refl _) hrn
    · match ns, hk, hrn with
      | [], _, hrn =>
        -- `numbers.pop(0)` cannot fail: no sub-identifiers means no content octets
        have hb := readNumbers_ok hrn
        rw [encNums_nil] at hb
        subst hb; exact absurd rfl hne

theorem encodeOid_ok {first second : Nat} {pieces : List Nat} {e : Bytes} (h : encodeOid first second pieces = .ok e) :
    OidDomain first second
    ∧ e = [0x06] ++ encodeLength (oidBody first second pieces).length ++ oidBody first second pieces := by
  unfold encodeOid at h
  split at h
  · rename_i hd; exact ⟨hd, encodeLengthPy_bind_ok h⟩
  · cases h

theorem encodeOid_eq (first second : Nat) (pieces : List Nat) (hd : OidDomain first second)
    (hl : (oidBody first second pieces).length < 256 ^ 127) :
    encodeOid first second pieces
      = .ok ([0x06] ++ encodeLength (oidBody first second pieces).length ++ oidBody first second pieces) := by
  unfold encodeOid
  rw [if_pos hd]
  exact encodeLengthPy_bind_eq hl _

theorem encodeOidPy_nat (first second : Nat) (pieces : List Nat) :
    encodeOidPy (first : Int) (second : Int) pieces = encodeOid first second pieces := by
  unfold encodeOidPy
  by_cases hd : OidDomain first second
  · rw [if_pos]
    · simp
    · unfold OidDomain at hd; omega
  · rw [if_neg]
    · unfold encodeOid; rw [if_neg hd]
    · unfold OidDomain at hd; omega

theorem encodeOidPy_neg (first second : Int) (pieces : List Nat) (h : first < 0 ∨ second < 0) :
    encodeOidPy first second pieces = .error .assertionError := by
  unfold encodeOidPy; rw [if_neg (by omega)]

end Der
