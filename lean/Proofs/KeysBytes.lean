import Model.Keys
import Proofs.UtilNum
/-! # Proofs.KeysBytes — `string_to_number` as the key (de)serialisers use it -/
namespace KeysP
open Keys

theorem beVal_lt (s : Bytes) : beVal s < 256 ^ s.length := _root_.beVal_lt s

theorem stringToNumber_err {s : Bytes} {e : PyErr} (h : Util.stringToNumber s = .error e) : s = [] ∧ e = .valueError := by
  unfold Util.stringToNumber at h
  cases s with
  | nil => simp at h; exact ⟨rfl, h.symm⟩
  | cons a t => simp at h

end KeysP
