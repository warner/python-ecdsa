import Generated.DerGuards
import Proofs.DerSkel
import Proofs.DerDigits
/-!
# Proofs.DerTie — the tests and integer expressions that `harness/translate/gen_der.py` extracts from the current
`src/ecdsa/der.py` (`Generated/DerGuards.lean`) evaluate to the ones of the model `Model/Der.lean`; stated in the
direction in which `Proofs/DerTieFn.lean` rewrites with them.

Bytes, lengths and numbers are universally quantified: Python's operators on the integer value of a byte are the
byte's own (`pand_u8`, `u8_eq_iff_int`).
-/
namespace C11.Tie
open Gen.Der Der

theorem skeleton :
    skel_encode_constructed = Der.Skel.encode_constructed ∧ skel_encode_integer = Der.Skel.encode_integer
    ∧ skel_encode_bitstring = Der.Skel.encode_bitstring ∧ skel_encode_octet_string = Der.Skel.encode_octet_string
    ∧ skel_encode_oid = Der.Skel.encode_oid ∧ skel_encode_sequence = Der.Skel.encode_sequence
    ∧ skel_encode_number = Der.Skel.encode_number ∧ skel_is_sequence = Der.Skel.is_sequence
    ∧ skel_remove_constructed = Der.Skel.remove_constructed ∧ skel_remove_sequence = Der.Skel.remove_sequence
    ∧ skel_remove_octet_string = Der.Skel.remove_octet_string ∧ skel_remove_object = Der.Skel.remove_object
    ∧ skel_remove_integer = Der.Skel.remove_integer ∧ skel_read_number = Der.Skel.read_number
    ∧ skel_encode_length = Der.Skel.encode_length ∧ skel_read_length = Der.Skel.read_length
    ∧ skel_remove_bitstring = Der.Skel.remove_bitstring ∧ skel_str_idx_as_int = Der.Skel.str_idx_as_int :=
  ⟨rfl, rfl, rfl, rfl, rfl, rfl, rfl, rfl, rfl, rfl, rfl, rfl, rfl, rfl, rfl, rfl, rfl, rfl⟩

theorem pand_nat (a b : Nat) : pand (a : Int) (b : Int) = ((a &&& b : Nat) : Int) := by simp [pand]
theorem por_nat (a b : Nat) : por (a : Int) (b : Int) = ((a ||| b : Nat) : Int) := by simp [por]

/-- Python's `&` on the integer values of two bytes is the integer value of their `&&&` -/
theorem pand_u8 (a b : UInt8) : pand (a.toNat : Int) (b.toNat : Int) = ((a &&& b).toNat : Int) := by
  rw [pand_nat, UInt8.toNat_and]

theorem u8_eq_iff_int (a b : UInt8) : (a.toNat : Int) = (b.toNat : Int) ↔ a = b := by
  rw [Int.natCast_inj, UInt8.toNat_inj]

theorem tooLong_eq (length : Nat) (s : Bytes) (llen : Nat) :
    tooLong length s llen = remove_integer_if2 length s.length llen
    ∧ tooLong length s llen = remove_octet_string_if2 length s.length llen
    ∧ tooLong length s llen = remove_sequence_if2 length s.length llen
    ∧ tooLong length s llen = remove_constructed_if2 length s.length llen
    ∧ tooLong length s llen = remove_bitstring_if4 length s.length llen :=
  ⟨rfl, rfl, rfl, rfl, rfl⟩

theorem slice_bounds (llen length : Nat) :
    ((1 + llen : Nat) : Int) = remove_integer_e0 llen ∧ ((1 + llen + length : Nat) : Int) = remove_integer_e1 llen length
    ∧ ((1 + llen + length : Nat) : Int) = remove_integer_e2 llen length
    ∧ ((1 + llen : Nat) : Int) = remove_octet_string_e0 llen ∧ ((1 + llen + length : Nat) : Int) = remove_octet_string_e1 llen length
    ∧ ((1 + llen + length : Nat) : Int) = remove_octet_string_e2 llen length
    ∧ ((1 + llen : Nat) : Int) = remove_sequence_e0 llen ∧ ((1 + llen + length : Nat) : Int) = remove_sequence_let2 llen length
    ∧ ((1 + llen : Nat) : Int) = remove_constructed_e0 llen ∧ ((1 + llen + length : Nat) : Int) = remove_constructed_e1 llen length
    ∧ ((1 + llen + length : Nat) : Int) = remove_constructed_e2 llen length
    ∧ ((1 + llen : Nat) : Int) = remove_object_e0 llen ∧ ((1 + llen + length : Nat) : Int) = remove_object_e1 llen length
    ∧ ((1 + llen + length : Nat) : Int) = remove_object_e2 llen length
    ∧ ((1 + llen : Nat) : Int) = remove_bitstring_e0 llen ∧ ((1 + llen + length : Nat) : Int) = remove_bitstring_e1 llen length
    ∧ ((1 + llen + length : Nat) : Int) = remove_bitstring_e2 llen length := by
  exact ⟨rfl, rfl, rfl, rfl, rfl, rfl, rfl, rfl, rfl, rfl, rfl, rfl, rfl, rfl, rfl, rfl, rfl⟩

theorem read_length_bytes (num : UInt8) :
    read_length_if1 num.toNat = decide (num &&& 0x80 = 0)
    ∧ (read_length_ret0 num.toNat).toNat = (num &&& 0x7f).toNat
    ∧ (read_length_let1 num.toNat).toNat = (num &&& 0x7f).toNat := by
  refine ⟨?_, congrArg Int.toNat (pand_u8 num 0x7f), congrArg Int.toNat (pand_u8 num 0x7f)⟩
  show (!decide (pand (num.toNat : Int) ((0x80 : UInt8).toNat : Int) ≠ ((0 : UInt8).toNat : Int))) = _
  simp only [pand_u8, ne_eq, u8_eq_iff_int, decide_not, Bool.not_not]

theorem read_length_minimal (msb : UInt8) (llen : Nat) :
    read_length_if4 msb.toNat llen = decide (msb = 0 ∨ (llen = 1 ∧ msb < 0x80)) := by
  simp only [read_length_if4, ← decide_not, ← Bool.decide_and, ← Bool.decide_or, decide_eq_decide,
    u8_eq_zero_iff msb, u8_lt_iff msb 0x80, u8_x80]
  omega

theorem read_length_nat (llen restlen : Nat) :
    read_length_if2 llen = decide (llen = 0)
    ∧ read_length_if3 llen ((restlen + 1 : Nat) : Int) = decide (llen > restlen)
    ∧ (read_length_ret3 llen).toNat = 1 + llen := by
  refine ⟨?_, ?_, rfl⟩ <;> simp only [read_length_if2, read_length_if3, ← decide_not, decide_eq_decide] <;> omega

theorem encode_length_guards (l llen : Nat) :
    encode_length_assert0 l = decide ((l : Int) ≥ 0)
    ∧ encode_length_if0 l = decide (l < 0x80)
    ∧ encode_length_e0 llen = ((0x80 ||| llen : Nat) : Int) := by
  refine ⟨rfl, ?_, por_nat 128 llen⟩
  simp only [encode_length_if0, decide_eq_decide]; omega

theorem encode_integer_guards (r : Int) (lens : Nat) :
    decide (r ≥ 0) = encode_integer_assert0 r ∧ ((lens + 1 : Nat) : Int) = encode_integer_e0 lens :=
  ⟨rfl, rfl⟩

theorem integer_bytes (b : UInt8) :
    encode_integer_if1 b.toNat = decide (b ≤ 0x7f)
    ∧ remove_integer_if4 b.toNat = decide (¬ b < 0x80)
    ∧ remove_integer_if6 b.toNat = decide (b < 0x80) := by
  have h1 : b ≤ 0x7f ↔ (b.toNat : Int) ≤ 127 := by rw [u8_le_iff]; exact Int.ofNat_le.symm
  have h2 : b < 0x80 ↔ (b.toNat : Int) < 128 := by rw [u8_lt_iff]; exact Int.ofNat_lt.symm
  simp only [encode_integer_if1, remove_integer_if4, remove_integer_if6, h1, h2, decide_not]
  exact ⟨trivial, trivial, trivial⟩

theorem remove_integer_guards (length : Nat) (msb : UInt8) :
    remove_integer_if3 length = decide (length = 0)
    ∧ remove_integer_if5 length msb.toNat = decide (length > 1 ∧ msb = 0) := by
  simp only [remove_integer_if3, remove_integer_if5, ← decide_not, ← Bool.decide_and, decide_eq_decide,
    u8_eq_zero_iff msb]
  omega

theorem constructed_bytes (s0 : UInt8) :
    remove_constructed_if1 s0.toNat = decide (s0 &&& 0xE0 ≠ 0xA0)
    ∧ (remove_constructed_let1 s0.toNat).toNat = (s0 &&& 0x1F).toNat := by
  refine ⟨?_, congrArg Int.toNat (pand_u8 s0 0x1F)⟩
  show decide (pand (s0.toNat : Int) ((0xE0 : UInt8).toNat : Int) ≠ ((0xA0 : UInt8).toNat : Int)) = _
  simp only [pand_u8, ne_eq, u8_eq_iff_int]

theorem encode_constructed_tag (tag : Int) : (0xA0 + tag) = encode_constructed_e0 tag := rfl

theorem number_bytes (d : UInt8) :
    read_number_if1 d.toNat = decide (d = 0x80)
    ∧ read_number_if3 d.toNat = decide (d &&& 0x80 = 0) := by
  refine ⟨?_, ?_⟩
  · show decide ((d.toNat : Int) = ((0x80 : UInt8).toNat : Int)) = _
    simp only [u8_eq_iff_int]
  · show (!decide (pand (d.toNat : Int) ((0x80 : UInt8).toNat : Int) ≠ ((0 : UInt8).toNat : Int))) = _
    simp only [pand_u8, ne_eq, u8_eq_iff_int, decide_not, Bool.not_not]

theorem read_number_step (number llen : Nat) (d : UInt8) :
    (read_number_let4 (read_number_let2 number) d.toNat).toNat = (number <<< 7) + (d &&& 0x7F).toNat
    ∧ (read_number_let5 llen).toNat = llen + 1 := by
  refine ⟨?_, rfl⟩
  show ((number : Int) * 2 ^ 7 + pand (d.toNat : Int) ((0x7F : UInt8).toNat : Int)).toNat = _
  rw [pand_u8, Nat.shiftLeft_eq]; norm_cast

theorem encode_number_step (n : Nat) :
    (encode_number_e0 n).toNat = (n &&& 0x7F) ||| 0x80
    ∧ (encode_number_let1 n).toNat = n >>> 7
    ∧ encode_number_while0 n = decide (n ≠ 0) := by
  refine ⟨?_, ?_, ?_⟩
  · show (por (pand (n : Int) ((127 : Nat) : Int)) ((128 : Nat) : Int)).toNat = _
    rw [pand_nat, por_nat]; rfl
  · simp only [encode_number_let1, Nat.shiftRight_eq_div_pow]
    rw [Int.fdiv_eq_ediv_of_nonneg _ (by decide)]
    norm_cast
  · simp only [encode_number_while0, decide_eq_decide]; omega

theorem oid_arcs (n0 : Nat) :
    remove_object_if4 n0 = decide (n0 < 80)
    ∧ (remove_object_let8 n0).toNat = n0 / 40
    ∧ (remove_object_let10 n0 ((if n0 < 80 then n0 / 40 else 2 : Nat) : Int)).toNat
        = n0 - 40 * (if n0 < 80 then n0 / 40 else 2) := by
  simp only [remove_object_if4, remove_object_let8, remove_object_let10, decide_eq_decide]
  refine ⟨by omega, ?_, ?_⟩
  · rw [Int.fdiv_eq_ediv_of_nonneg _ (by decide)]; norm_cast
  · split <;> omega

theorem oid_length_test (lenbody length : Nat) : remove_object_if3 lenbody length = decide (lenbody ≠ length) := by
  simp only [remove_object_if3, decide_eq_decide]; omega

theorem encode_oid_guards (first second : Int) (a b : Nat) :
    encode_oid_assert0 first second
      = decide ((0 ≤ first ∧ first < 2 ∧ 0 ≤ second ∧ second ≤ 39) ∨ (first = 2 ∧ 0 ≤ second))
    ∧ encode_oid_e0 first second = 40 * first + second
    ∧ (encode_oid_e0 a b).toNat = 40 * a + b := by
  refine ⟨?_, rfl, rfl⟩
  simp only [encode_oid_assert0, Bool.decide_or, Bool.decide_and, Bool.and_assoc]

theorem unused_range (u : Int) (un : Nat) :
    encode_bitstring_if2 u = decide (¬ (0 ≤ u ∧ u ≤ 7))
    ∧ remove_bitstring_if6 un = decide (¬ un ≤ 7)
    ∧ remove_bitstring_if8 un = decide (un ≠ 0)
    ∧ encode_bitstring_if3 un = decide (un ≠ 0) := by
  simp only [encode_bitstring_if2, remove_bitstring_if6, remove_bitstring_if8, encode_bitstring_if3, ← Bool.decide_and,
    ← decide_not, decide_eq_decide]
  exact ⟨trivial, by omega, by omega, by omega⟩

theorem pad_bits (last : UInt8) (u : Nat) :
    encode_bitstring_if5 last.toNat u = padBits last u
    ∧ remove_bitstring_if10 last.toNat u = padBits last u := by
  -- `2 ** unused - 1` is a natural number, so Python's `&` is `Nat`'s
  have h2 : ((2 : Int) ^ u - 1) = ((2 ^ u - 1 : Nat) : Int) := by
    rw [Int.natCast_sub Nat.one_le_two_pow]; norm_cast
  have h : encode_bitstring_if5 last.toNat u = padBits last u := by
    unfold padBits encode_bitstring_if5
    rw [Int.toNat_natCast, h2, pand_nat]
    simp only [ne_eq, Int.natCast_eq_zero]
  exact ⟨h, h⟩

theorem bitstring_length (length lens lenextra : Nat) :
    remove_bitstring_if3 length = decide (length = 0)
    ∧ (encode_bitstring_e0 lens lenextra).toNat = lens + lenextra := by
  refine ⟨?_, rfl⟩
  simp only [remove_bitstring_if3, ← decide_not, decide_eq_decide]; omega

end C11.Tie
