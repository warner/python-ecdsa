import Model.NumberTheory
import Proofs.NTPow
import Proofs.NTTable
import Mathlib.FieldTheory.Finite.Basic
import Mathlib.Data.ZMod.Basic
/-! Miller–Rabin part of `is_prime` (C16): the round count, one base complete on primes and sound as "strong probable prime" -/
namespace NTProofs
open NT

/-- `n` is a strong probable prime to base `a` (an `Int`, as the bases are entries of the generated `smallprimes`) -/
def SPRP (n : Nat) (a : Int) : Prop :=
  ∃ s r : Nat, n - 1 = 2 ^ s * r ∧ r % 2 = 1 ∧
    ((a : ZMod n) ^ r = 1 ∨ ∃ j, j < s ∧ (a : ZMod n) ^ (2 ^ j * r) = -1)

theorem splitTwos_spec : ∀ (fuel : Nat) (s0 r0 : Int), 0 < r0 → r0 < fuel →
    ∃ (k : Nat) (r : Int), splitTwos fuel s0 r0 = some (s0 + k, r) ∧ r0 = 2 ^ k * r ∧ r % 2 = 1 ∧ 0 < r := by
  intro fuel
  induction fuel with
  | zero => intro s0 r0 h0 h1; simp at h1; omega
  | succ f ih =>
    intro s0 r0 h0 h1
    unfold splitTwos
    simp only [pmod_eq_emod (show (0 : Int) < 2 by decide), pdiv_eq_ediv (show (0 : Int) < 2 by decide)]
    by_cases hc : r0 % 2 = 0
    · simp only [hc, ↓reduceIte]
      obtain ⟨k, r, h1', h2, h3, h4⟩ := ih (s0 + 1) (r0 / 2) (by omega) (by push_cast at h1; omega)
      refine ⟨k + 1, r, ?_, ?_, h3, h4⟩
      · rw [h1']; congr 2; push_cast; ring
      · rw [pow_succ, mul_assoc, mul_comm 2 r, ← mul_assoc, ← h2]; omega
    · simp only [hc, ↓reduceIte]
      exact ⟨0, r0, by simp, by simp, by omega, h0⟩

theorem mrRoundsGo_range (nb lo hi : Int) : ∀ (l : List (Int × Int)) (t : Int), lo ≤ t → t ≤ hi →
    (∀ x ∈ l, lo ≤ x.2 ∧ x.2 ≤ hi) → lo ≤ mrRoundsGo nb l t ∧ mrRoundsGo nb l t ≤ hi := by
  intro l
  induction l with
  | nil => intro t h1 h2 _; exact ⟨h1, h2⟩
  | cons x r ih =>
    intro t h1 h2 hx
    obtain ⟨k, tt⟩ := x
    unfold mrRoundsGo
    split
    · exact ⟨h1, h2⟩
    · have := hx (k, tt) (by simp)
      exact ih tt this.1 this.2 (fun y hy => hx y (by simp [hy]))

theorem mrRounds_range (nb : Int) : 2 ≤ mrRounds nb ∧ mrRounds nb ≤ 40 :=
  mrRoundsGo_range nb 2 40 _ _ (by decide) (by decide) (by decide)

theorem mrRoundsGo_ge (nb m : Int) : ∀ (l : List (Int × Int)) (t : Int), m ≤ t →
    (∀ x ∈ l, x.1 ≤ nb → m ≤ x.2) → m ≤ mrRoundsGo nb l t := by
  intro l
  induction l with
  | nil => intro t h1 _; exact h1
  | cons x r ih =>
    intro t h1 hx
    obtain ⟨k, tt⟩ := x
    unfold mrRoundsGo
    split
    · exact h1
    · have := hx (k, tt) (by simp) (by simp; omega)
      exact ih tt this (fun y hy => hx y (by simp [hy]))

/-- below 300 bits at least 12 rounds are run: the rows of the table with `k < 300` all carry `tt ≥ 12` -/
theorem mrRounds_ge_12 (nb : Int) (h : nb < 300) : 12 ≤ mrRounds nb := by
  have hrows : ∀ x ∈ Gen.NT.mr_table, x.1 < 300 → 12 ≤ x.2 := by decide
  exact mrRoundsGo_ge nb 12 _ _ (by decide) fun x hx hle => hrows x hx (by omega)

section base
variable {n : ℕ}

theorem cast_powMod (hn : 0 < n) (a : Int) (e : Nat) : ((powMod a e n : Int) : ZMod n) = (a : ZMod n) ^ e := by
  rw [powMod_eq _ _ _ (by exact_mod_cast hn), ZMod.intCast_mod, Int.cast_pow]

theorem powMod_range (hn : 0 < n) (a : Int) (e : Nat) : 0 ≤ powMod a e n ∧ powMod a e n < n := by
  have hp0 : (0 : Int) < n := by exact_mod_cast hn
  rw [powMod_eq _ _ _ hp0]
  exact ⟨Int.emod_nonneg _ (by omega), Int.emod_lt_of_pos _ hp0⟩

theorem cast_eq_one_iff (hn : 2 ≤ n) {y : Int} (h0 : 0 ≤ y) (h1 : y < n) : (y : ZMod n) = 1 ↔ y = 1 := by
  constructor
  · intro h
    have : (y : ZMod n) = ((1 : Int) : ZMod n) := by simpa using h
    have := (ZMod.intCast_eq_intCast_iff' y 1 n).mp this
    rwa [Int.emod_eq_of_lt h0 h1, Int.emod_eq_of_lt (by decide) (by omega)] at this
  · rintro rfl; simp

theorem cast_eq_neg_one_iff (hn : 2 ≤ n) {y : Int} (h0 : 0 ≤ y) (h1 : y < n) : (y : ZMod n) = -1 ↔ y = n - 1 := by
  constructor
  · intro h
    have : (y : ZMod n) = (((n : Int) - 1 : Int) : ZMod n) := by simpa using h
    have := (ZMod.intCast_eq_intCast_iff' y (n - 1) n).mp this
    rwa [Int.emod_eq_of_lt h0 h1, Int.emod_eq_of_lt (by omega) (by omega)] at this
  · rintro rfl; simp

theorem mrInner_zero (n s j y : Int) : mrInner n s 0 j y = decide (y = n - 1) := by
  simp [mrInner, Gen.NT.mr_final_fail]

theorem mrInner_succ (n s : Int) (f : Nat) (j y : Int) :
    mrInner n s (f + 1) j y =
      if j ≤ s - 1 ∧ y ≠ n - 1 then (if powMod y 2 n = 1 then false else mrInner n s f (j + 1) (powMod y 2 n))
      else decide (y = n - 1) := by
  rw [mrInner]
  simp only [Gen.NT.mr_loop_cond, Gen.NT.mr_final_fail, Bool.and_eq_true, decide_eq_true_eq, ne_eq, decide_not,
    Bool.not_not, Bool.not_eq_true', decide_eq_false_iff_not]

theorem mrBase_eq (n s r a : Int) :
    mrBase n s r a =
      if powMod a r.toNat n ≠ 1 ∧ powMod a r.toNat n ≠ n - 1 then mrInner n s s.toNat 1 (powMod a r.toNat n) else true := by
  simp only [mrBase, Gen.NT.mr_enter, Bool.and_eq_true, decide_eq_true_eq]

/-- soundness of the squaring loop: `true` means some `y^(2^i) = -1` with `i` squarings available -/
theorem mrInner_sound (hn : 2 ≤ n) (s : Int) : ∀ (fuel : Nat) (j y : Int), 0 ≤ y → y < n → j + fuel = s + 1 → j ≤ s →
    mrInner n s fuel j y = true → ∃ i : Nat, (j : Int) + i ≤ s ∧ (y : ZMod n) ^ (2 ^ i) = -1 := by
  intro fuel
  induction fuel with
  | zero => intro j y h0 h1 hj hjs h; push_cast at hj; omega
  | succ f ih =>
    intro j y h0 h1 hj hjs h
    rw [mrInner_succ] at h
    by_cases hc : j ≤ s - 1 ∧ y ≠ n - 1
    · rw [if_pos hc] at h
      have hr := powMod_range (by omega : 0 < n) y 2
      by_cases h1' : powMod y 2 n = 1
      · simp [h1'] at h
      · rw [if_neg h1'] at h
        obtain ⟨i, hi1, hi2⟩ := ih (j + 1) _ hr.1 hr.2 (by push_cast at hj ⊢; omega) (by omega) h
        refine ⟨i + 1, by push_cast; omega, ?_⟩
        rw [cast_powMod (by omega)] at hi2
        rw [← hi2, ← pow_mul]; congr 1; ring
    · rw [if_neg hc] at h
      have hyn : y = n - 1 := by simpa using h
      exact ⟨0, by simpa using hjs, by simpa using (cast_eq_neg_one_iff hn h0 h1).mpr hyn⟩

theorem mrInner_complete [hp : Fact n.Prime] (s : Int) : ∀ (fuel : Nat) (j y : Int), 0 ≤ y → y < n →
    j + fuel = s + 1 → (y : ZMod n) ^ (2 ^ fuel) = 1 → (y : ZMod n) ≠ 1 → mrInner n s fuel j y = true := by
  have hn : 2 ≤ n := hp.out.two_le
  intro fuel
  induction fuel with
  | zero => intro j y h0 h1 hj hy hy1; simp at hy; exact absurd hy hy1
  | succ f ih =>
    intro j y h0 h1 hj hy hy1
    rw [mrInner_succ]
    by_cases hyn : y = n - 1
    · rw [if_neg (by simp [hyn])]; simp [hyn]
    · have hYn : (y : ZMod n) ≠ -1 := fun h => hyn ((cast_eq_neg_one_iff hn h0 h1).mp h)
      have hsq : (y : ZMod n) * (y : ZMod n) ≠ 1 := by
        intro h; rcases mul_self_eq_one_iff.mp h with h | h
        · exact hy1 h
        · exact hYn h
      have hf : f ≠ 0 := by
        rintro rfl
        apply hsq; simpa [pow_succ] using hy
      have hj' : j ≤ s - 1 := by push_cast at hj; omega
      have hr := powMod_range (by omega : 0 < n) y 2
      have hcast := cast_powMod (n := n) (by omega) y 2
      have hne1 : powMod y 2 n ≠ 1 := by
        intro h
        rw [h] at hcast
        apply hsq; rw [← pow_two, ← hcast]; simp
      rw [if_pos ⟨hj', hyn⟩, if_neg hne1]
      apply ih (j + 1) _ hr.1 hr.2 (by push_cast at hj ⊢; omega)
      · rw [hcast, ← pow_mul, ← pow_succ']; exact hy
      · rw [hcast, pow_two]; exact hsq

theorem mrBase_sound (hn : 2 ≤ n) (k : Nat) (r : Nat) (hs : 1 ≤ k) (a : Int)
    (h : mrBase n k r a = true) :
    (a : ZMod n) ^ r = 1 ∨ ∃ j, j < k ∧ (a : ZMod n) ^ (2 ^ j * r) = -1 := by
  rw [mrBase_eq] at h
  simp only [Int.toNat_natCast] at h
  have hr := powMod_range (by omega : 0 < n) a r
  have hcast := cast_powMod (n := n) (by omega) a r
  by_cases h1 : powMod a r n = 1
  · left; rw [← hcast, h1]; simp
  by_cases h2 : powMod a r n = n - 1
  · right; exact ⟨0, by omega, by rw [pow_zero, one_mul, ← hcast, h2]; simp⟩
  · rw [if_pos ⟨h1, h2⟩] at h
    obtain ⟨i, hi1, hi2⟩ := mrInner_sound hn k k 1 _ hr.1 hr.2 (by ring) (by omega) h
    right
    refine ⟨i, by omega, ?_⟩
    rw [hcast, ← pow_mul, mul_comm] at hi2; exact hi2

theorem mrBase_complete [hp : Fact n.Prime] (k : Nat) (r : Nat) (hk : n - 1 = 2 ^ k * r) (a : Int)
    (ha : (a : ZMod n) ≠ 0) : mrBase n k r a = true := by
  have hn : 2 ≤ n := hp.out.two_le
  rw [mrBase_eq]
  simp only [Int.toNat_natCast]
  have hr := powMod_range (by omega : 0 < n) a r
  have hcast := cast_powMod (n := n) (by omega) a r
  by_cases hc : powMod a r n ≠ 1 ∧ powMod a r n ≠ n - 1
  · rw [if_pos hc]
    apply mrInner_complete k k 1 _ hr.1 hr.2 (by ring)
    · rw [hcast, ← pow_mul, mul_comm, ← hk]; exact ZMod.pow_card_sub_one_eq_one ha
    · intro h; exact hc.1 ((cast_eq_one_iff hn hr.1 hr.2).mp h)
  · rw [if_neg hc]

end base

end NTProofs
