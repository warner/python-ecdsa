import Proofs.EcdsaInstCurve
import Proofs.EcdsaInstToy
/-!
# Proofs.EcdsaInstLegacy — `PointOpsCorrect` for a curve whose generator object is a legacy affine `Point`
(user-built `curves.Curve` over `ellipticcurve.Point`: no `mul_add`, so `Public_key.verifies` computes
`u1 * G + u2 * Q` with `Point.__mul__`, `PointJacobi.__mul__` and the mixed `__add__`/`__radd__` dispatch).
Point objects: INFINITY, `PointJacobi` and legacy `Point` values denoting elements of ⟨G⟩, declared order `n` or none.
-/
namespace Ecdsa.OnCurve
open Curve Jac GroupInterface WeierstrassCurve

variable {p : ℕ} [hp : Fact p.Prime] {a b : ℤ}

/-- the curve description `c` with a legacy `Point` generator matches the group context `C` -/
structure MatchesL (c : Affine.Crv) (C : Ctx p a b) : Prop where
  hp2 : p ≠ 2
  cp : c.p = p
  ca : c.a = a
  cb : c.b = b
  cn : c.n = C.n
  n_prime : Nat.Prime c.n.toNat
  jac : c.jac = false
  genRep : AffRep p a b C.H ⟨crvOf c, c.gx, c.gy, some c.n⟩ C.G

def ValidL (C : Ctx p a b) (A : Pt) : Prop := OrdInvL C.n A ∧ ∃ g, PtRep p a b C.H A g

theorem validG_true (C : Ctx p a b) : ValidG true C = ValidL C :=
  funext fun A => propext (and_congr_left' (ordInvG_true C.n A))

theorem pointOpsCorrect_legacy (c : Affine.Crv) (C : Ctx p a b) (M : MatchesL c C) :
    PointOpsCorrect (ops c) C.G (den C) (xcOf (p := p) (a := a) (b := b)) (ValidL C) := by
  have hgen : genOf c = .aff ⟨crvOf c, c.gx, c.gy, some c.n⟩ := by simp [genOf, M.jac]
  have hord : OrdInvG true C.n (.aff ⟨crvOf c, c.gx, c.gy, some c.n⟩) := ⟨rfl, Or.inl (by rw [M.cn])⟩
  rw [← validG_true]
  refine pointOpsCorrect_of c C M.hp2 M.cp M.cn M.n_prime (AffRep.ne_zero M.genRep) (fun k => ?_) (fun h => ?_)
  · obtain ⟨R, hR, rR⟩ := legacy_mul M.hp2 C M.genRep hord.2 k
    refine ⟨R, ?_, ⟨affMul_ord hord hR, _, rR⟩, den_eq rR⟩
    show ptMulWith [] (genOf c) k = .ok R
    rw [hgen]; exact hR
  · -- a legacy generator has no `mul_add`
    have : (ops c).genHasMulAdd = false := M.jac
    rw [this] at h; cases h

/-- the toy curve with a legacy `Point` generator: `11,1,6,2,7,13,1,a` -/
def toyCrvL : Affine.Crv := ⟨11, 1, 6, 2, 7, 13, 1, false⟩

theorem toy_matchesL : ∃ C : Ctx 11 1 6, MatchesL toyCrvL C := by
  obtain ⟨C, M⟩ := toy_matches
  obtain ⟨x, y, ex, ey, _, _, _, _, hns, hg⟩ := GroupInterface.xy M.genRep
  -- `x()`, `y()` of the generator object evaluate to its stored coordinates
  obtain rfl : (2 : ℤ) = x := Except.ok.inj ex
  obtain rfl : (7 : ℤ) = y := Except.ok.inj ey
  refine ⟨C, ⟨M.hp2, rfl, rfl, rfl, M.cn, M.n_prime, rfl, ?_⟩⟩
  exact ⟨⟨rfl, rfl, rfl⟩, ⟨by decide, by decide⟩, ⟨by decide, by decide⟩, C.G_mem, hns, hg.symm⟩

end Ecdsa.OnCurve
