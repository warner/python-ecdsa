import Proofs.JacField
import Mathlib.Data.ZMod.Basic
import Mathlib.Algebra.Field.ZMod
import Generated.Kernels
/-!
# Proofs.JacCast — from the generated integer kernels (`Gen.k_*`, Python `%` = `Int.fmod`) to the field `ZMod p`

Every sub-kernel either falls through to a doubling kernel (its reduced same-point test) or its residues are the
`% p`-free reading of Proofs/JacField.lean; and whatever it returns is reduced to [0, p).
-/
namespace Jac
open WeierstrassCurve WeierstrassCurve.Jacobian

-- `[Fact p.Prime]` is a section variable that several statements below do not use
set_option linter.unusedSectionVars false
variable {p : ℕ} [hp : Fact p.Prime]

def cast3 (p : ℕ) (t : ℤ × ℤ × ℤ) : Fin 3 → ZMod p := ![(t.1 : ZMod p), (t.2.1 : ZMod p), (t.2.2 : ZMod p)]

@[simp] theorem cast3_mk (x y z : ℤ) : cast3 p (x, y, z) = ![(x : ZMod p), (y : ZMod p), (z : ZMod p)] := rfl

theorem fmod_eq_emod (x : ℤ) : Int.fmod x (p : ℤ) = x % (p : ℤ) :=
  Int.fmod_eq_emod_of_nonneg _ (Int.natCast_nonneg p)

@[simp, push_cast] theorem cast_fmod (x : ℤ) : ((Int.fmod x (p : ℤ) : ℤ) : ZMod p) = (x : ZMod p) := by
  rw [fmod_eq_emod, ZMod.intCast_mod]

theorem fmod_eq_zero_iff (x : ℤ) : Int.fmod x (p : ℤ) = 0 ↔ (x : ZMod p) = 0 := by
  rw [fmod_eq_emod, ZMod.intCast_zmod_eq_zero_iff_dvd, Int.dvd_iff_emod_eq_zero]

theorem fmod_eq_fmod_iff (x y : ℤ) : Int.fmod x (p : ℤ) = Int.fmod y (p : ℤ) ↔ (x : ZMod p) = (y : ZMod p) := by
  rw [fmod_eq_emod, fmod_eq_emod, ZMod.intCast_eq_intCast_iff]; rfl

/-- the integer zero test `not x` agrees with the field: true for every |x| < p -/
def ZT (p : ℕ) (x : ℤ) : Prop := (x : ZMod p) = 0 → x = 0

theorem zt_of_range {x : ℤ} (h1 : -(p : ℤ) < x) (h2 : x < p) : ZT p x := by
  intro h
  exact Int.eq_zero_of_abs_lt_dvd ((ZMod.intCast_zmod_eq_zero_iff_dvd _ _).mp h) (abs_lt.mpr ⟨h1, h2⟩)

theorem zt_neg {x : ℤ} (h : ZT p x) : ZT p (-x) := by
  intro h0; simp only [Int.cast_neg, neg_eq_zero] at h0; simp [h h0]

theorem ZT.ne {x : ℤ} (h : ZT p x) (hx : x ≠ 0) : (x : ZMod p) ≠ 0 := fun h0 => hx (h h0)

theorem zt_one : ZT p 1 := fun h => by
  rw [Int.cast_one] at h; exact absurd h one_ne_zero

theorem two_ne_zero_of (hp2 : p ≠ 2) : (2 : ZMod p) ≠ 0 := by
  intro h
  have : ((2 : ℕ) : ZMod p) = 0 := by exact_mod_cast h
  rw [ZMod.natCast_eq_zero_iff] at this
  exact hp2 ((Nat.prime_dvd_prime_iff_eq hp.out Nat.prime_two).mp this)

def InRange (p : ℕ) (x : ℤ) : Prop := 0 ≤ x ∧ x < p

def InRange3 (p : ℕ) (t : ℤ × ℤ × ℤ) : Prop := InRange p t.1 ∧ InRange p t.2.1 ∧ InRange p t.2.2

namespace InRange3
omit hp in
theorem x {t : ℤ × ℤ × ℤ} (h : InRange3 p t) : InRange p t.1 := h.1
omit hp in
theorem y {t : ℤ × ℤ × ℤ} (h : InRange3 p t) : InRange p t.2.1 := h.2.1
omit hp in
theorem z {t : ℤ × ℤ × ℤ} (h : InRange3 p t) : InRange p t.2.2 := h.2.2
end InRange3

theorem InRange.zt {x : ℤ} (h : InRange p x) : ZT p x :=
  zt_of_range (lt_of_lt_of_le (neg_neg_of_pos (by exact_mod_cast hp.out.pos)) h.1) h.2

theorem inRange_fmod (x : ℤ) : InRange p (Int.fmod x (p : ℤ)) := by
  rw [fmod_eq_emod]
  exact ⟨Int.emod_nonneg _ (by exact_mod_cast hp.out.ne_zero), Int.emod_lt_of_pos _ (by exact_mod_cast hp.out.pos)⟩

theorem inRange_zero : InRange p 0 := ⟨le_refl _, by exact_mod_cast hp.out.pos⟩
theorem inRange_one : InRange p 1 := ⟨by norm_num, by exact_mod_cast hp.out.one_lt⟩

theorem inRange3_sentinel : InRange3 p (0, 0, 1) := ⟨inRange_zero, inRange_zero, inRange_one⟩

theorem inRange3_fmod (x y z : ℤ) : InRange3 p (Int.fmod x p, Int.fmod y p, Int.fmod z p) :=
  ⟨inRange_fmod _, inRange_fmod _, inRange_fmod _⟩

theorem k_double_with_z_1_inRange (X1 Y1 a : ℤ) : InRange3 p (Gen.k_double_with_z_1 X1 Y1 p a) := by
  fun_cases Gen.k_double_with_z_1 X1 Y1 p a
  exacts [inRange3_sentinel, inRange3_fmod _ _ _]

theorem k_double_inRange (X1 Y1 Z1 a : ℤ) : InRange3 p (Gen.k_double X1 Y1 Z1 p a) := by
  fun_cases Gen.k_double X1 Y1 Z1 p a
  exacts [k_double_with_z_1_inRange _ _ _, inRange3_sentinel, inRange3_sentinel, inRange3_fmod _ _ _]

theorem k_add_with_z_1_inRange (X1 Y1 X2 Y2 a : ℤ) : InRange3 p (Gen.k_add_with_z_1 X1 Y1 X2 Y2 p a) := by
  fun_cases Gen.k_add_with_z_1 X1 Y1 X2 Y2 p a
  exacts [k_double_with_z_1_inRange _ _ _, inRange3_fmod _ _ _]

theorem k_add_with_z_eq_inRange (X1 Y1 Z1 X2 Y2 a : ℤ) :
    InRange3 p (Gen.k_add_with_z_eq X1 Y1 Z1 X2 Y2 p a) := by
  fun_cases Gen.k_add_with_z_eq X1 Y1 Z1 X2 Y2 p a
  exacts [k_double_inRange _ _ _ _, inRange3_fmod _ _ _]

theorem k_add_with_z2_1_inRange (X1 Y1 Z1 X2 Y2 a : ℤ) :
    InRange3 p (Gen.k_add_with_z2_1 X1 Y1 Z1 X2 Y2 p a) := by
  fun_cases Gen.k_add_with_z2_1 X1 Y1 Z1 X2 Y2 p a
  exacts [k_double_with_z_1_inRange _ _ _, inRange3_fmod _ _ _]

theorem k_add_with_z_ne_inRange (X1 Y1 Z1 X2 Y2 Z2 a : ℤ) :
    InRange3 p (Gen.k_add_with_z_ne X1 Y1 Z1 X2 Y2 Z2 p a) := by
  fun_cases Gen.k_add_with_z_ne X1 Y1 Z1 X2 Y2 Z2 p a
  exacts [k_double_inRange _ _ _ _, inRange3_fmod _ _ _]

theorem k_add_dispatch {motive : ℤ × ℤ × ℤ → Prop} (X1 Y1 Z1 X2 Y2 Z2 q a : ℤ)
    (id1 : Y1 = 0 ∨ Z1 = 0 → motive (X2, Int.fmod Y2 q, Z2))
    (id2 : Y2 = 0 ∨ Z2 = 0 → motive (X1, Y1, Z1))
    (z1 : Y1 ≠ 0 → Y2 ≠ 0 → Z1 = 1 → Z2 = 1 → motive (Gen.k_add_with_z_1 X1 Y1 X2 Y2 q a))
    (zeq : Y1 ≠ 0 → Z1 ≠ 0 → Y2 ≠ 0 → Z2 = Z1 → motive (Gen.k_add_with_z_eq X1 Y1 Z1 X2 Y2 q a))
    (z21l : Y1 ≠ 0 → Y2 ≠ 0 → Z2 ≠ 0 → Z1 = 1 → motive (Gen.k_add_with_z2_1 X2 Y2 Z2 X1 Y1 q a))
    (z21r : Y1 ≠ 0 → Z1 ≠ 0 → Y2 ≠ 0 → Z2 = 1 → motive (Gen.k_add_with_z2_1 X1 Y1 Z1 X2 Y2 q a))
    (ne : Y1 ≠ 0 → Z1 ≠ 0 → Y2 ≠ 0 → Z2 ≠ 0 → motive (Gen.k_add_with_z_ne X1 Y1 Z1 X2 Y2 Z2 q a)) :
    motive (Gen.k_add X1 Y1 Z1 X2 Y2 Z2 q a) := by
  fun_cases Gen.k_add X1 Y1 Z1 X2 Y2 Z2 q a with
  | case1 c1 => exact id1 (by simpa using c1)
  | case2 _ c2 => exact id2 (by simpa using c2)
  | case3 c1 c2 c3 c4 =>
    simp only [Bool.or_eq_true, decide_eq_true_eq, not_or] at c1 c2 c3 c4
    exact z1 c1.1 c2.1 c4 (c3 ▸ c4)
  | case4 c1 c2 c3 c4 =>
    simp only [Bool.or_eq_true, decide_eq_true_eq, not_or] at c1 c2 c3 c4
    exact zeq c1.1 c1.2 c2.1 c3.symm
  | case5 c1 c2 c3 c4 =>
    simp only [Bool.or_eq_true, decide_eq_true_eq, not_or] at c1 c2 c3 c4
    exact z21l c1.1 c2.1 c2.2 c4
  | case6 c1 c2 c3 c4 c5 =>
    simp only [Bool.or_eq_true, decide_eq_true_eq, not_or] at c1 c2 c3 c4 c5
    exact z21r c1.1 c1.2 c2.1 c5
  | case7 c1 c2 c3 c4 c5 =>
    simp only [Bool.or_eq_true, decide_eq_true_eq, not_or] at c1 c2 c3 c4 c5
    exact ne c1.1 c1.2 c2.1 c2.2

/-- `_add` passes an identity operand over (reducing only `Y2`); every other result is reduced -/
theorem k_add_range_cases (X1 Y1 Z1 X2 Y2 Z2 a : ℤ) :
    Gen.k_add X1 Y1 Z1 X2 Y2 Z2 p a = (X2, Int.fmod Y2 p, Z2) ∨
      ((Y2 = 0 ∨ Z2 = 0) ∧ Gen.k_add X1 Y1 Z1 X2 Y2 Z2 p a = (X1, Y1, Z1)) ∨
      InRange3 p (Gen.k_add X1 Y1 Z1 X2 Y2 Z2 p a) := by
  refine k_add_dispatch
    (motive := fun t => t = (X2, Int.fmod Y2 p, Z2) ∨ ((Y2 = 0 ∨ Z2 = 0) ∧ t = (X1, Y1, Z1)) ∨ InRange3 p t)
    X1 Y1 Z1 X2 Y2 Z2 p a (fun _ => Or.inl rfl) (fun c => Or.inr (Or.inl ⟨c, rfl⟩)) ?_ ?_ ?_ ?_ ?_ <;> intros
  exacts [Or.inr (Or.inr (k_add_with_z_1_inRange _ _ _ _ _)), Or.inr (Or.inr (k_add_with_z_eq_inRange _ _ _ _ _ _)),
    Or.inr (Or.inr (k_add_with_z2_1_inRange _ _ _ _ _ _)), Or.inr (Or.inr (k_add_with_z2_1_inRange _ _ _ _ _ _)),
    Or.inr (Or.inr (k_add_with_z_ne_inRange _ _ _ _ _ _ _))]

theorem k_add_inRange {X1 Y1 Z1 X2 Z2 : ℤ} (Y2 a : ℤ) (h1 : InRange3 p (X1, Y1, Z1)) (hx : InRange p X2)
    (hz : InRange p Z2) : InRange3 p (Gen.k_add X1 Y1 Z1 X2 Y2 Z2 p a) := by
  rcases k_add_range_cases (p := p) X1 Y1 Z1 X2 Y2 Z2 a with e | ⟨_, e⟩ | h
  · rw [e]; exact ⟨hx, inRange_fmod _, hz⟩
  · rw [e]; exact h1
  · exact h

/-- X and Z of the result of `_add` are reduced as soon as X and Z of both operands are (a passed-over operand keeps
its Y, which the loops may have negated) -/
theorem k_add_inRangeXZ {X1 Z1 X2 Z2 : ℤ} (Y1 Y2 a : ℤ) (hx1 : InRange p X1) (hz1 : InRange p Z1)
    (hx : InRange p X2) (hz : InRange p Z2) :
    InRange p (Gen.k_add X1 Y1 Z1 X2 Y2 Z2 p a).1 ∧ InRange p (Gen.k_add X1 Y1 Z1 X2 Y2 Z2 p a).2.2 := by
  rcases k_add_range_cases (p := p) X1 Y1 Z1 X2 Y2 Z2 a with e | ⟨_, e⟩ | h
  · rw [e]; exact ⟨hx, hz⟩
  · rw [e]; exact ⟨hx1, hz1⟩
  · exact ⟨h.x, h.z⟩

/-! ### the two branches of every sub-kernel, in the field

All six proofs have one shape.  `h` is the reduced same-point test of the code, `H % p = 0 ∧ r % p = 0`; the `simp only … at h`
call makes it the cross-multiplied equalities of the statement: `%`-tests become equations of residues, casts are pushed
through, the factor 2 of `r` is cancelled (`mul_eq_zero, h2, false_or`), `Z * (Z * Z)` is folded into `Z ^ 3`.  In the
generic branch the pushed-cast outputs are literally the `let`-body of the reading `add…F` / `dbl…F`, so `rfl` closes it. -/

theorem k_add_with_z_ne_cases (h2 : (2 : ZMod p) ≠ 0) (X1 Y1 Z1 X2 Y2 Z2 a : ℤ) :
    (((X2 : ZMod p) * Z1 ^ 2 = X1 * Z2 ^ 2 ∧ (Y2 : ZMod p) * Z1 ^ 3 = Y1 * Z2 ^ 3) ∧
        Gen.k_add_with_z_ne X1 Y1 Z1 X2 Y2 Z2 p a = Gen.k_double X1 Y1 Z1 p a) ∨
    (¬((X2 : ZMod p) * Z1 ^ 2 = X1 * Z2 ^ 2 ∧ (Y2 : ZMod p) * Z1 ^ 3 = Y1 * Z2 ^ 3) ∧
        cast3 p (Gen.k_add_with_z_ne X1 Y1 Z1 X2 Y2 Z2 p a) = addNeF (X1 : ZMod p) Y1 Z1 X2 Y2 Z2) := by
  unfold Gen.k_add_with_z_ne
  simp only []
  split_ifs with h <;>
    simp only [Bool.and_eq_true, decide_eq_true_eq, sub_eq_zero, fmod_eq_fmod_iff, fmod_eq_zero_iff, cast_fmod,
      Int.cast_sub, Int.cast_mul, Int.cast_pow, Int.cast_ofNat, mul_eq_zero, h2, false_or, ← pow_two, mul_assoc,
      ← pow_succ', Nat.reduceAdd] at h
  · exact Or.inl ⟨h, rfl⟩
  · refine Or.inr ⟨h, ?_⟩
    simp only [cast3_mk, cast_fmod, Int.cast_sub, Int.cast_mul, Int.cast_pow, Int.cast_add, Int.cast_ofNat]; rfl

theorem k_add_with_z_1_cases (h2 : (2 : ZMod p) ≠ 0) (X1 Y1 X2 Y2 a : ℤ) :
    (((X2 : ZMod p) = X1 ∧ (Y2 : ZMod p) = Y1) ∧
        Gen.k_add_with_z_1 X1 Y1 X2 Y2 p a = Gen.k_double_with_z_1 X1 Y1 p a) ∨
    (¬((X2 : ZMod p) = X1 ∧ (Y2 : ZMod p) = Y1) ∧
        cast3 p (Gen.k_add_with_z_1 X1 Y1 X2 Y2 p a) = addZ1F (X1 : ZMod p) Y1 X2 Y2) := by
  unfold Gen.k_add_with_z_1
  simp only []
  split_ifs with h <;>
    simp only [Bool.and_eq_true, decide_eq_true_eq, fmod_eq_zero_iff, Int.cast_sub, Int.cast_mul, Int.cast_ofNat,
      mul_eq_zero, h2, false_or, sub_eq_zero] at h
  · exact Or.inl ⟨h, rfl⟩
  · refine Or.inr ⟨h, ?_⟩
    simp only [cast3_mk, cast_fmod, Int.cast_sub, Int.cast_mul, Int.cast_pow, Int.cast_ofNat]; rfl

theorem k_add_with_z_eq_cases (X1 Y1 Z1 X2 Y2 a : ℤ) :
    (((X2 : ZMod p) = X1 ∧ (Y2 : ZMod p) = Y1) ∧
        Gen.k_add_with_z_eq X1 Y1 Z1 X2 Y2 p a = Gen.k_double X1 Y1 Z1 p a) ∨
    (¬((X2 : ZMod p) = X1 ∧ (Y2 : ZMod p) = Y1) ∧
        cast3 p (Gen.k_add_with_z_eq X1 Y1 Z1 X2 Y2 p a) = addZeqF (X1 : ZMod p) Y1 Z1 X2 Y2) := by
  unfold Gen.k_add_with_z_eq
  simp only []
  split_ifs with h <;>
    simp only [Bool.and_eq_true, decide_eq_true_eq, fmod_eq_zero_iff, Int.cast_sub, Int.cast_pow, sq_eq_zero_iff,
      sub_eq_zero] at h
  · exact Or.inl ⟨h, rfl⟩
  · refine Or.inr ⟨h, ?_⟩
    simp only [cast3_mk, cast_fmod, Int.cast_sub, Int.cast_mul, Int.cast_pow]; rfl

theorem k_add_with_z2_1_cases (h2 : (2 : ZMod p) ≠ 0) (X1 Y1 Z1 X2 Y2 a : ℤ) :
    (((X2 : ZMod p) * Z1 ^ 2 = X1 ∧ (Y2 : ZMod p) * Z1 ^ 3 = Y1) ∧
        Gen.k_add_with_z2_1 X1 Y1 Z1 X2 Y2 p a = Gen.k_double_with_z_1 X2 Y2 p a) ∨
    (¬((X2 : ZMod p) * Z1 ^ 2 = X1 ∧ (Y2 : ZMod p) * Z1 ^ 3 = Y1) ∧
        cast3 p (Gen.k_add_with_z2_1 X1 Y1 Z1 X2 Y2 p a) = addZ21F (X1 : ZMod p) Y1 Z1 X2 Y2) := by
  unfold Gen.k_add_with_z2_1
  simp only []
  split_ifs with h <;>
    simp only [Bool.and_eq_true, decide_eq_true_eq, fmod_eq_zero_iff, cast_fmod, Int.cast_sub, Int.cast_mul,
      Int.cast_pow, Int.cast_ofNat, mul_eq_zero, h2, false_or, sub_eq_zero, ← pow_two, mul_assoc, ← pow_succ',
      Nat.reduceAdd] at h
  · exact Or.inl ⟨h.symm, rfl⟩
  · refine Or.inr ⟨fun e => h e.symm, ?_⟩
    simp only [cast3_mk, cast_fmod, Int.cast_sub, Int.cast_mul, Int.cast_pow, Int.cast_add, Int.cast_ofNat]; rfl

theorem k_double_with_z_1_cases (X1 Y1 a : ℤ) :
    ((Y1 : ZMod p) = 0 ∧ Gen.k_double_with_z_1 X1 Y1 p a = (0, 0, 1)) ∨
    ((Y1 : ZMod p) ≠ 0 ∧ cast3 p (Gen.k_double_with_z_1 X1 Y1 p a) = dblZ1F (a : ZMod p) X1 Y1) := by
  unfold Gen.k_double_with_z_1
  simp only []
  split_ifs with h <;>
    simp only [decide_eq_true_eq, fmod_eq_zero_iff, Int.cast_mul, mul_self_eq_zero] at h
  · exact Or.inl ⟨h, rfl⟩
  · refine Or.inr ⟨h, ?_⟩
    simp only [cast3_mk, cast_fmod, Int.cast_sub, Int.cast_mul, Int.cast_pow, Int.cast_add, Int.cast_ofNat]; rfl

theorem k_double_z1 (X1 Y1 a : ℤ) (q : ℤ) : Gen.k_double X1 Y1 1 q a = Gen.k_double_with_z_1 X1 Y1 q a := by
  unfold Gen.k_double; simp

theorem k_double_cases (X1 Y1 Z1 a : ℤ) (hZ : Z1 ≠ 1) :
    ((Y1 = 0 ∨ Z1 = 0 ∨ (Y1 : ZMod p) = 0) ∧ Gen.k_double X1 Y1 Z1 p a = (0, 0, 1)) ∨
    (Y1 ≠ 0 ∧ Z1 ≠ 0 ∧ (Y1 : ZMod p) ≠ 0 ∧
        cast3 p (Gen.k_double X1 Y1 Z1 p a) = dblF (a : ZMod p) X1 Y1 Z1) := by
  unfold Gen.k_double
  simp only []
  rw [if_neg (by simpa using hZ)]
  split_ifs with h h' <;> simp only [Bool.or_eq_true, decide_eq_true_eq] at h
  · exact Or.inl ⟨by tauto, rfl⟩
  all_goals simp only [decide_eq_true_eq, fmod_eq_zero_iff, Int.cast_mul, mul_self_eq_zero] at h'
  · exact Or.inl ⟨Or.inr (Or.inr h'), rfl⟩
  · refine Or.inr ⟨fun hy => h (Or.inl hy), fun hz => h (Or.inr hz), h', ?_⟩
    simp only [cast3_mk, cast_fmod, Int.cast_sub, Int.cast_mul, Int.cast_pow, Int.cast_add, Int.cast_ofNat]; rfl

end Jac
