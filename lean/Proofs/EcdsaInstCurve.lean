import Proofs.GroupInterface
import Proofs.EcdsaGroup
import Proofs.EcdsaInstOrd
/-!
# Proofs.EcdsaInstCurve — `PointOpsCorrect` holds for the model of the real point classes

The interface of the ECDSA layer (`Ecdsa.PointOpsCorrect`, Proofs/EcdsaGroup.lean) is discharged for
`Ecdsa.OnCurve.ops c` (= `Model/Curve.lean`: `PointJacobi.__mul__`, `mul_add`, `__add__`, `__eq__`, `x()`, `y()`,
`scale()` as written) from the point-layer theorems packaged in `Proofs/GroupInterface.lean` (C06/C07).
Group: Mathlib's `WeierstrassCurve.Affine.Point` of `y² = x³ + ax + b` over `ZMod p`; base point `C.G`, `n • G = 0`,
`n` an odd prime; point objects: INFINITY and `PointJacobi` values denoting elements of ⟨G⟩ with declared order `n`
or none (what the library's curves, keys and results carry).  The generator object is a `PointJacobi` (all library
curves); what does not involve it is proved once, also for Proofs/EcdsaInstLegacy.lean (`pointOpsCorrect_of`).
-/
namespace Ecdsa.OnCurve
open Curve Jac GroupInterface WeierstrassCurve

variable {p : ℕ} [hp : Fact p.Prime] {a b : ℤ}

/-- the curve description `c` (as sent to the driver / read from a `curves.Curve`) matches the group context `C` -/
structure Matches (c : Affine.Crv) (C : Ctx p a b) : Prop where
  hp2 : p ≠ 2
  cp : c.p = p
  ca : c.a = a
  cb : c.b = b
  cn : c.n = C.n
  n_prime : Nat.Prime c.n.toNat
  jac : c.jac = true
  /-- the generator object denotes the base point -/
  genRep : PJRep p a b C.H ⟨crvOf c, c.gx, c.gy, 1, some c.n, true⟩ C.G

/-- denotation of a point value: the element it represents (0 if it represents none) -/
noncomputable def den (C : Ctx p a b) (A : Pt) : Grp (a : ZMod p) (b : ZMod p) :=
  open Classical in if h : ∃ g, PtRep p a b C.H A g then Classical.choose h else 0

/-- representation invariant: no legacy point, declared order n or none, denotes an element of ⟨G⟩ -/
def Valid (C : Ctx p a b) (A : Pt) : Prop := OrdInv C.n A ∧ ∃ g, PtRep p a b C.H A g

/-- affine x-coordinate of a group element as an integer of [0, p) -/
noncomputable def xcOf : Grp (a : ZMod p) (b : ZMod p) → Option ℤ
  | .zero => none
  | .some x _ _ => some (ZMod.val x : ℤ)

theorem ptRep_unique {C : Ctx p a b} {A : Pt} {g g'} (h : PtRep p a b C.H A g) (h' : PtRep p a b C.H A g') : g = g' := by
  cases A with
  | infinity => exact (show g = 0 from h).trans (show g' = 0 from h').symm
  | jac J =>
    obtain ⟨x, y, ex, ey, _, _, hn, hg⟩ := pjXY_correct (show PJRep p a b C.H J g from h)
    obtain ⟨x', y', ex', ey', _, _, hn', hg'⟩ := pjXY_correct (show PJRep p a b C.H J g' from h')
    obtain rfl : x = x' := Except.ok.inj (ex.symm.trans ex')
    obtain rfl : y = y' := Except.ok.inj (ey.symm.trans ey')
    rw [hg, hg']
  | aff Af =>
    obtain ⟨_, _, _, _, hn, e⟩ := (show AffRep p a b C.H Af g from h)
    obtain ⟨_, _, _, _, hn', e'⟩ := (show AffRep p a b C.H Af g' from h')
    rw [← e, ← e']

theorem den_eq {C : Ctx p a b} {A : Pt} {g} (h : PtRep p a b C.H A g) : den C A = g := by
  unfold den
  have hex : ∃ g, PtRep p a b C.H A g := ⟨g, h⟩
  rw [dif_pos hex]
  exact ptRep_unique (Classical.choose_spec hex) h

/-- `Valid` (`f = false`) and `ValidL` (`f = true`) at once -/
def ValidG (f : Bool) (C : Ctx p a b) (A : Pt) : Prop := OrdInvG f C.n A ∧ ∃ g, PtRep p a b C.H A g

theorem validG_false (C : Ctx p a b) : ValidG false C = Valid C :=
  funext fun A => propext (and_congr_left' (ordInvG_false C.n A))

variable {f : Bool}

theorem ValidG.rep {C : Ctx p a b} {A : Pt} (h : ValidG f C A) : PtRep p a b C.H A (den C A) := by
  obtain ⟨g, hg⟩ := h.2
  rw [den_eq hg]; exact hg

theorem valid_rep {C : Ctx p a b} {A : Pt} (h : Valid C A) : PtRep p a b C.H A (den C A) :=
  ValidG.rep (validG_false C ▸ h)

theorem ptMulOK_of {C : Ctx p a b} {A : Pt} (h : ValidG f C A) : PtMulOK p a b C.H A (den C A) := by
  have hr := h.rep
  cases A with
  | infinity => exact hr
  | jac J => exact mulOK_of C hr h.1
  | aff Af =>
    refine ⟨hr, fun m hm => ?_⟩
    rcases h.1.2 with ho | ho
    · rw [ho] at hm
      simp only [truthy] at hm
      split_ifs at hm
      cases hm
      exact C.order_annihilates (AffRep.mem hr)
    · rw [ho] at hm; simp [truthy] at hm

theorem coords_of_rep (c : Affine.Crv) {C : Ctx p a b} {A : Pt} {g} (hr : PtRep p a b C.H A g) (hne : g ≠ 0) :
    ∃ x y, (ops c).xOf A = .ok x ∧ (ops c).yOf A = .ok y ∧ 0 ≤ x ∧ x < p ∧ 0 ≤ y ∧ y < p ∧ (ops c).isInfObj A = false ∧
      ∃ hns : (shortW (a : ZMod p) (b : ZMod p)).toAffine.Nonsingular (x : ZMod p) (y : ZMod p),
        g = Affine.Point.some _ _ hns := by
  rcases result_cases hr with ⟨_, h0⟩ | ⟨J, rfl, hJ, _⟩ | ⟨Af, rfl, hAf, _⟩
  · exact absurd h0 hne
  · obtain ⟨x, y, ex, ey, x0, x1, y0, y1, hns, hg⟩ := GroupInterface.xy hJ
    exact ⟨x, y, ex, ey, x0, x1, y0, y1, rfl, hns, hg⟩
  · obtain ⟨_, hx, hy, _, hns, hg⟩ := hAf
    exact ⟨Af.x, Af.y, rfl, rfl, hx.1, hx.2, hy.1, hy.2, rfl, hns, hg.symm⟩

theorem ptIsInf_eq (A : Pt) : ptIsInf A = ptEq A .infinity := by
  cases A <;> rfl

/-- for either kind of generator: every field but the operations on the generator itself -/
theorem pointOpsCorrect_of (c : Affine.Crv) (C : Ctx p a b) (hp2 : p ≠ 2) (cp : c.p = p) (cn : c.n = C.n)
    (n_prime : Nat.Prime c.n.toNat) (G_ne : C.G ≠ 0)
    (mulG : ∀ k, ∃ R, (ops c).mulG k = .ok R ∧ ValidG f C R ∧ den C R = k • C.G)
    (mulAddG : (ops c).genHasMulAdd = true → ∀ u1 Q u2, ValidG f C Q →
      ∃ R, (ops c).mulAddG u1 Q u2 = .ok R ∧ ValidG f C R ∧ den C R = u1 • C.G + u2 • den C Q) :
    PointOpsCorrect (ops c) C.G (den C) (xcOf (p := p) (a := a) (b := b)) (ValidG f C) where
  n_prime := n_prime
  nG := by show c.n • C.G = 0; rw [cn]; exact C.hn
  G_ne := G_ne
  xc_none R := by
    cases R with
    | zero => exact ⟨fun _ => rfl, fun _ => rfl⟩
    | some x y h => exact ⟨nofun, fun h => absurd h (Affine.Point.some_ne_zero _)⟩
  xc_neg R := by cases R <;> rfl
  xc_range R x h := by
    cases R with
    | zero => cases h
    | some x' y' h' =>
      injection h with h; subst h
      refine ⟨by positivity, ?_⟩
      show ((ZMod.val x' : ℕ) : ℤ) < c.p
      rw [cp]
      exact_mod_cast ZMod.val_lt x'
  mulG := mulG
  mulAddG := mulAddG
  mul k Q hQ := by
    obtain ⟨R, hR, rR⟩ := ptMul_correct hp2 C.n2t (ptMulOK_of hQ) k
    exact ⟨R, hR, ⟨ptMulWith_ord hQ.1 hR, _, rR⟩, den_eq rR⟩
  add A B hA hB := by
    obtain ⟨R, hR, rR⟩ := GroupInterface.add hp2 C hA.rep hB.rep
    exact ⟨R, hR, ⟨ptAdd_ord hA.1 hB.1 hR, _, rR⟩, den_eq rR⟩
  isInf A hA := by
    show ptIsInf A = true ↔ _
    rw [ptIsInf_eq]
    exact eq_infinity_iff C hA.rep
  xOf A hA hne := by
    obtain ⟨x, y, ex, -, x0, x1, -, -, -, hns, hg⟩ := coords_of_rep c hA.rep hne
    exact ⟨x, ex, by rw [hg]; exact congrArg some (val_cast_of_inRange x0 x1)⟩
  yOf A hA hne := by
    obtain ⟨x, y, -, ey, -, -, y0, y1, -⟩ := coords_of_rep c hA.rep hne
    exact ⟨y, ey, y0, by show y < c.p; rw [cp]; exact y1⟩
  isInfObj A hA hne := by
    obtain ⟨x, y, -, -, -, -, -, -, h, -⟩ := coords_of_rep c hA.rep hne
    exact h
  fromAffine A hA := by
    cases A with
    | infinity => exact ⟨hA, rfl⟩
    | jac J => exact ⟨hA, rfl⟩
    | aff Af =>
      -- `PointJacobi.from_affine`: same coordinates and order, not a generator
      have hpt : PtRep p a b C.H (.jac (pjFromAffine Af)) (den C (.aff Af)) :=
        AffRep.pj C.n2t (show AffRep p a b C.H Af (den C (.aff Af)) from hA.rep) false
      exact ⟨⟨hA.1.2.imp_right fun h => ⟨h, rfl⟩, _, hpt⟩, den_eq hpt⟩
  scale A hA := by
    cases A with
    | infinity => exact ⟨.infinity, rfl, hA, rfl⟩
    | aff Af => exact ⟨.aff Af, rfl, hA, rfl⟩
    | jac J =>
      obtain ⟨S, hS, rS, -⟩ := GroupInterface.scale (show PJRep p a b C.H J (den C (.jac J)) from hA.rep)
      refine ⟨.jac S, ?_, ⟨pjScale_ord hA.1 hS, _, rS⟩, den_eq (A := .jac S) rS⟩
      show (do let S ← pjScale J; Except.ok (Pt.jac S)) = _
      rw [hS]; rfl

theorem pointOpsCorrect (c : Affine.Crv) (C : Ctx p a b) (M : Matches c C) :
    PointOpsCorrect (ops c) C.G (den C) (xcOf (p := p) (a := a) (b := b)) (Valid C) := by
  have hgen : genOf c = .jac ⟨crvOf c, c.gx, c.gy, 1, some c.n, true⟩ := by simp [genOf, M.jac]
  have hord : OrdInvG false C.n (.jac ⟨crvOf c, c.gx, c.gy, 1, some c.n, true⟩) := Or.inl (by rw [M.cn])
  rw [← validG_false]
  refine pointOpsCorrect_of c C M.hp2 M.cp M.cn M.n_prime (good_ne_zero M.genRep.2.2) (fun k => ?_) (fun _ u1 Q u2 hQ => ?_)
  · obtain ⟨R, hR, rR⟩ := GroupInterface.mul M.hp2 C M.genRep hord k
    refine ⟨R, ?_, ⟨pjMulWith_ord hord hR, _, rR⟩, den_eq rR⟩
    show ptMulWith [] (genOf c) k = .ok R
    rw [hgen]; exact hR
  · obtain ⟨R, hR, rR⟩ := pjMulAdd_correct M.hp2 C.n2t (mulOK_of C M.genRep hord) (ptMulOK_of hQ)
      (OrderOK.annihilates hord (PtRep.mem hQ.rep)) u1 u2
    refine ⟨R, ?_, ⟨pjMulAddWith_ord hord hQ.1 hR, _, rR⟩, den_eq rR⟩
    show (match genOf c with | .jac G => pjMulAdd G u1 Q u2 | _ => .error .attributeError) = .ok R
    rw [hgen]; exact hR

end Ecdsa.OnCurve
