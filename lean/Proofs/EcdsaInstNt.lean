import Proofs.EcdsaRecoverBase
import Props.C15
/-!
# Proofs.EcdsaInstNt — the model of `numbertheory.square_root_mod_prime` (C15) satisfies what recovery needs
-/
namespace Ecdsa

theorem sqrtSpec_nt (p : ℕ) (hp : p.Prime) (hp2 : p ≠ 2) : SqrtSpec NT.squareRootModPrime (p : ℤ) := by
  intro a h0 h1 ⟨y, hy⟩
  have hsq : IsSquare ((a : ℤ) : ZMod p) := by
    refine ⟨(y : ZMod p), ?_⟩
    have : ((y * y - a : ℤ) : ZMod p) = 0 := by
      rw [ZMod.intCast_zmod_eq_zero_iff_dvd]
      exact Int.dvd_of_emod_eq_zero hy
    push_cast at this
    exact (sub_eq_zero.mp this).symm
  obtain ⟨r, hr, r0, r1, hrr⟩ := (C15.sqrt_spec p hp hp2 a h0 h1).1 hsq
  refine ⟨r, hr, r0, r1, ?_⟩
  rw [emod_zero_iff_modEq]
  exact hrr

end Ecdsa
