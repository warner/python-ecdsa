import Model.ThreadProgs
/-! # Proofs.ThreadsSpec — what the operations on shared points and keys may return

For every operation: its *sequential value* on given snapshots (`seq…`, the functions of `Model/Curve.lean`) and the
predicate on results it satisfies under every interleaving (`acc…`: the sequential value on admissible snapshots,
composed with `accBind` where an operation calls others). -/
namespace ThreadProgs
open Access Threads

/-- the shared objects: immutable part, initial coordinates `c0`, their scaled form `cS`, and the complete
multiplication table `tF` (`[]` for a point that is not a generator) -/
structure Env where
  info : Nat → ObjInfo
  c0 : Nat → Coords
  cS : Nat → Coords
  tF : Nat → Table
  targets : Nat → Nat → Prop := fun _ _ => False   -- `targets kid id`: the key `kid` may refer to the point object `id`

/-- the pointer cell of a key may be overwritten at any time (by an allowed value): a *free* cell; the cells of a point
move once to their canonical value -/
def Env.free (_ : Env) : Cell → Prop
  | (_, .point) => True
  | _ => False

def Env.good (E : Env) : Cell → Val → Prop
  | (id, .coords), v => v = .coords (E.c0 id) ∨ v = .coords (E.cS id)
  | (id, .pre), v => v = .table [] ∨ v = .table (E.tF id)
  | (kid, .point), v => ∃ t, E.targets kid t ∧ v = .ptr t

/-- the canonical value of a cell: the scaled triple / the complete table.  A pointer cell is free (`Env.free`): `Safe`
never consults its canonical value, the third clause only makes the function total. -/
def Env.canon (E : Env) : Cell → Val
  | (id, .coords) => .coords (E.cS id)
  | (id, .pre) => .table (E.tF id)
  | (_, .point) => .table []

def isInfC (c : Coords) : Bool := c.2.1 == 0 || c.2.2 == 0

/-- what is assumed of a shared object (to be discharged from the C06/C07 theorems for valid points): scaling its
initial triple succeeds and gives `cS` (with z = 1); being the identity, and y = 0, do not depend on the representation
(`_ri`: representation independent); for a generator the table computed from either representation is the same
non-empty `tF` -/
structure ObjOK (E : Env) (id : Nat) : Prop where
  scale0 : Curve.pjScale (mkPJ (E.info id) (E.c0 id)) = .ok (mkPJ (E.info id) (E.cS id))
  zS : (E.cS id).2.2 = 1
  inf_ri : isInfC (E.c0 id) = isInfC (E.cS id)
  y_ri : ((E.c0 id).2.1 == 0) = ((E.cS id).2.1 == 0)
  table_gen : (E.info id).generator = true →
    Curve.precomputeTable (mkPJ (E.info id) (E.c0 id)) = .ok (E.tF id) ∧
    Curve.precomputeTable (mkPJ (E.info id) (E.cS id)) = .ok (E.tF id) ∧ (E.tF id).isEmpty = false
  table_nogen : (E.info id).generator = false → E.tF id = []

abbrev SafeE (E : Env) (acc : Res Out → Prop) (ph : Phases Cell) (p : P) : Prop :=
  Safe E.free E.good E.canon acc ph p

/-- an admissible snapshot of `__coords` -/
def GoodC (E : Env) (id : Nat) (c : Coords) : Prop := c = E.c0 id ∨ c = E.cS id

/-- the snapshots an operand can deliver: an allowed value of the shared object, or THE value of a local operand -/
def GoodOp (E : Env) (s : Loc) (o : Obj) (c : Coords) : Prop :=
  match s.fresh o with
  | .shared => GoodC E (s.obj o) c
  | fr => c = asCoords (freshVal fr .coords)

/-- sequential value of `x()` on an object whose coordinates are `c` -/
def seqX (i : ObjInfo) (c : Coords) : Res Out := (Curve.pjX (mkPJ i c)).map .int
def seqY (i : ObjInfo) (c : Coords) : Res Out := (Curve.pjY (mkPJ i c)).map .int

def seqNeg (i : ObjInfo) (c : Coords) : Res Out := .ok (.pt (.jac (Curve.pjNeg (mkPJ i c))))

def seqDouble (i : ObjInfo) (c : Coords) : Res Out := .ok (.pt (Curve.pjDouble (mkPJ i c)))

def seqToAffine (i : ObjInfo) (c : Coords) : Res Out := (Curve.pjToAffine (mkPJ i c)).map .pt

def seqEq (is : ObjInfo) (a : Coords) (io : ObjInfo) (b : Coords) : Res Out :=
  if !(is.curve.eqv io.curve) then .ok (.bool false)
  else if isInfC a || isInfC b then .ok (.bool (isInfC a && isInfC b))
  else .ok (.bool (Curve.coordsEq is.curve.p a.1 a.2.1 a.2.2 b.1 b.2.1 b.2.2))

/-- sequential value of `A + B` on snapshots `a`, `b` (`rs`, `ro` = what `return self` / `return other` yield) -/
def seqAddG (is io : ObjInfo) (rs ro : Out) (a b : Coords) : Res Out :=
  if isInfC a then .ok ro
  else if isInfC b then .ok rs
  else if !(is.curve.eqv io.curve) then .error .valueError
  else (Curve.pjAddCore (mkPJ is a) (mkPJ io b)).map .pt

def seqAdd (is : ObjInfo) (s : Nat) (a : Coords) (io : ObjInfo) (o : Nat) (b : Coords) : Res Out :=
  seqAddG is io (.obj s) (.obj o) a b

def accAddG (E : Env) (s : Loc) (r : Res Out) : Prop :=
  ∃ a b, GoodOp E s .self a ∧ GoodOp E s .other b ∧
    r = seqAddG (infoOf E.info s .self) (infoOf E.info s .other) (retOperand s .self) (retOperand s .other) a b

/-- sequential value of `P * k` on an object with coordinates `c` and table state `t` (`Model.Curve.pjMulWith`) -/
def seqMul (i : ObjInfo) (id : Nat) (c : Coords) (t : Table) (k : Int) : Res Out :=
  if (c.2.1 == 0 || k == 0) then .ok (.pt .infinity)
  else if k == 1 then .ok (.obj id)
  else (Curve.pjMulWith t (mkPJ i c) k).map .pt

def accEq (E : Env) (s o : Nat) (r : Res Out) : Prop :=
  ∃ a b, GoodC E s a ∧ GoodC E o b ∧ r = seqEq (E.info s) a (E.info o) b
def accAdd (E : Env) (s o : Nat) (r : Res Out) : Prop :=
  ∃ a b, GoodC E s a ∧ GoodC E o b ∧ r = seqAdd (E.info s) s a (E.info o) o b
def accMul (E : Env) (id : Nat) (k : Int) (r : Res Out) : Prop :=
  ∃ c t, GoodC E id c ∧ (t = [] ∨ t = E.tF id) ∧ r = seqMul (E.info id) id c t k

/-- `A` then, on success, `F` of its value -/
def accBind (A : Res Out → Prop) (F : Out → Res Out → Prop) (r : Res Out) : Prop :=
  (∃ e, A (.error e) ∧ r = .error e) ∨ ∃ o, A (.ok o) ∧ F o r

/-- `not (self == other)` -/
def negOut : Res Out → Res Out
  | .ok o => .ok (.bool (!isTrue o))
  | .error e => .error e

/-- `from_affine(P, generator)` applied to a shared `PointJacobi` (what `VerifyingKey.precompute` does): the new point
has `x()` of one allowed snapshot and `y()` of one allowed snapshot of `P` (the same affine pair, by C06 `xy_unique`) -/
def fromAffineOut (i : ObjInfo) (g : Int) (rx ry : Res Out) : Res Out :=
  match rx with
  | .error e => .error e
  | .ok ox => match ry with
    | .error e => .error e
    | .ok oy => match ox, oy with
      | .int x, .int y => .ok (.pt (.jac ⟨i.curve, x, y, 1, i.order, g != 0⟩))
      | _, _ => .error .typeError

/-- the operands of the final `+` of `self * a + other * b`: the results of the two multiplications -/
def sumLoc (a b : Nat) (o1 o2 : Out) : Loc :=
  { self := a, other := b, selfFresh := freshOf o1, otherFresh := freshOf o2 }

/-- what `self * ka + other * kb` may return: each product its sequential value on allowed snapshots, the sum taken of
those results (which ARE the shared objects when a multiplier is 1) -/
def accSum (E : Env) (a b : Nat) (ka kb : Int) (r : Res Out) : Prop :=
  (∃ e, accMul E a ka (.error e) ∧ r = .error e) ∨
  ∃ o1, accMul E a ka (.ok o1) ∧
    ((∃ e, accMul E b kb (.error e) ∧ r = .error e) ∨
     ∃ o2, accMul E b kb (.ok o2) ∧ accAddG E (sumLoc a b o1 o2) r)

def pApBInf (i : ObjInfo) (c1 c2 : Coords) : Bool := (pApB i c1 c2).2.1 == 0 || (pApB i c1 c2).2.2 == 0

/-- what `a.mul_add(ka, b, kb)` may return: the value of the branch the sequential code takes (the branch conditions do
not depend on the interleaving: `b == INFINITY` is the same on every snapshot of `b` by `ObjOK.inf_ri`, so it is written
for the initial triple), each sub-operation on allowed snapshots -/
def accMulAdd (E : Env) (a b : Nat) (ka kb : Int) (r : Res Out) : Prop :=
  let c1 := isInfC (E.c0 b) || kb == 0
  let gg := (E.info a).generator && (E.info b).generator
  let ka' := redMA (E.info a) ka
  let kb' := redMA (E.info a) kb
  (c1 = true ∧ accMul E a ka r) ∨
  (c1 = false ∧ (ka == 0) = true ∧ accMul E b kb r) ∨
  (c1 = false ∧ (ka == 0) = false ∧ gg = true ∧ accSum E a b ka kb r) ∨
  (c1 = false ∧ (ka == 0) = false ∧ gg = false ∧ pApBInf (E.info a) (E.cS a) (E.cS b) = true ∧ accSum E a b ka' kb' r) ∨
  (c1 = false ∧ (ka == 0) = false ∧ gg = false ∧ pApBInf (E.info a) (E.cS a) (E.cS b) = false ∧
    r = .ok (.pt (mulAddLoop (E.info a) (E.cS a) (E.cS b) ka' kb')))

def accXat (E : Env) (t : Nat) (r : Res Out) : Prop := r = seqX (E.info t) (E.c0 t) ∨ r = seqX (E.info t) (E.cS t)
def accYat (E : Env) (t : Nat) (r : Res Out) : Prop := r = seqY (E.info t) (E.c0 t) ∨ r = seqY (E.info t) (E.cS t)

/-- x() of the object the key refers to at one moment, y() of the object it refers to at another moment, each on an
allowed snapshot -/
def accKeyXY (E : Env) (kid : Nat) (post : Out → Out → Res Out → Prop) (r : Res Out) : Prop :=
  ∃ t1, E.targets kid t1 ∧ accBind (accXat E t1) (fun ox r => ∃ t2, E.targets kid t2 ∧
    accBind (accYat E t2) (fun oy r => post ox oy r) r) r

def parityOf : Out → Int
  | .int y => if pmod y 2 == 1 then 1 else 0
  | _ => 0

def accFromAffine (E : Env) (id : Nat) (g : Int) (r : Res Out) : Prop :=
  ∃ ca cb, GoodC E id ca ∧ GoodC E id cb ∧ r = fromAffineOut (E.info id) g (seqX (E.info id) ca) (seqY (E.info id) cb)

def accFromAffineAt (E : Env) (t : Nat) (r : Res Out) : Prop :=
  ∃ ca cb, GoodC E t ca ∧ GoodC E t cb ∧ r = fromAffineOut (E.info t) 1 (seqX (E.info t) ca) (seqY (E.info t) cb)

/-- `precompute(lazy)`: reads the reference once, builds the new point from `x()`, `y()` of that object, publishes it by
ONE store, and (unless lazy) reads the reference again and multiplies whatever object it finds by 2.  It returns `None`
unless one of these sequential sub-operations raises. -/
def accKeyPrecompute (E : Env) (kid : Nat) (lazy : Bool) (r : Res Out) : Prop :=
  ∃ t1, E.targets kid t1 ∧ accBind (accFromAffineAt E t1) (fun _ r =>
    if lazy then r = .ok .none
    else ∃ t2, E.targets kid t2 ∧ accBind (accMul E t2 2) (fun _ r => r = .ok .none) r) r

/-- x() of a call result `o` of the generator `G` (the generator itself if the result aliases it, else a local value) -/
def accXofRes (E : Env) (G : Nat) (o : Out) (rx : Res Out) : Prop :=
  ∃ c, GoodOp E { self := objOf o G, selfFresh := freshOf o } .self c ∧ rx = seqX (E.info (objOf o G)) c

/-- the integer part of `Private_key.sign` after `p1 = k' * G`: r = x(p1) mod n, s = k⁻¹ (hash + d r) mod n -/
def signPost (n k hash d : Int) (ox : Out) : Res Out :=
  match ox with
  | .int x =>
    let rr := pmod x n
    if rr == 0 then .error .rsZero
    else match Curve.inverseMod k n with
      | .error e => .error e
      | .ok ki =>
        let ss := pmod (ki * (hash + pmod (d * rr) n)) n
        if ss == 0 then .error .rsZero else .ok (.pair rr ss)
  | _ => .error .typeError

/-- the multiplier `sign` uses (`ks` or `kt`, of fixed bit length) -/
def signMult (n rk : Int) : Int :=
  let k := pmod rk n
  if bitLength (k + n).toNat == bitLength n.toNat then k + n + n else k + n

def accKeySign (E : Env) (G : Nat) (hash rk d : Int) (r : Res Out) : Prop :=
  let n := orderOf (E.info G)
  accBind (accMul E G (signMult n rk)) (fun o r => accBind (accXofRes E G o) (fun ox r =>
    r = signPost n (pmod rk n) hash d ox) r) r

def accInfOfRes (E : Env) (G : Nat) (o : Out) (rb : Res Out) : Prop :=
  ∃ c, GoodOp E { self := objOf o G, otherInf := true, selfFresh := freshOf o } .self c ∧ rb = .ok (.bool (isInfC c))

def verifyPost (n r : Int) (ox : Out) : Res Out :=
  match ox with
  | .int x => .ok (.bool (pmod x n == r))
  | _ => .error .typeError

/-- `verifies(hash, (r, s))` on the key `kid` with generator `G`: range checks; ONE read of the key's point reference;
`G.mul_add(u1, point, u2)` (sequential value on allowed snapshots, `accMulAdd`); `xy == INFINITY`; `xy.x() % n == r` -/
def accKeyVerifies (E : Env) (kid G : Nat) (hash r s : Int) (res : Res Out) : Prop :=
  let n := orderOf (E.info G)
  if r < 1 || r > n - 1 then res = .ok (.bool false)
  else if s < 1 || s > n - 1 then res = .ok (.bool false)
  else match Curve.inverseMod s n with
    | .error e => res = .error e
    | .ok c =>
      ∃ t, E.targets kid t ∧ accBind (accMulAdd E G t (pmod (hash * c) n) (pmod (r * c) n)) (fun o res =>
        accBind (accInfOfRes E G o) (fun ob res =>
          if isTrue ob then res = .ok (.bool false)
          else accBind (accXofRes E G o) (fun ox res => res = verifyPost n r ox) res) res) res

end ThreadProgs

namespace C18
open ThreadProgs Threads

inductive Op
  | x (id : Nat) | y (id : Nat) | scale (id : Nat) | toAffine (id : Nat) | double (id : Nat) | neg (id : Nat)
  | getstate (id : Nat) | eq (s o : Nat) | eqInf (id : Nat) | add (s o : Nat) | mul (id : Nat) (k : Int)
  | maybePrecompute (id : Nat) | ne (s o : Nat) | radd (s o : Nat) | rmul (id : Nat) (k : Int)
  | fromAffine (id : Nat) (gen : Int) | mulAdd (s : Nat) (ka : Int) (o : Nat) (kb : Int)
  | keyVerifies (kid G : Nat) (hash r s : Int) | keySign (G : Nat) (hash rk d : Int)
  | keyPrecompute (kid newObj : Nat) (lazyFlag : Int) | keyRawEncode (kid : Nat) | keyCompressedEncode (kid : Nat)

def Op.prog (E : Env) : Op → P
  | .x id => toProg (mX E.info) { self := id }
  | .y id => toProg (mY E.info) { self := id }
  | .scale id => toProg (mScale E.info) { self := id }
  | .toAffine id => toProg (mToAffine E.info) { self := id }
  | .double id => toProg (mDouble E.info) { self := id }
  | .neg id => toProg (mNeg E.info) { self := id }
  | .getstate id => toProg mGetstate { self := id }
  | .eq s o => toProg (mEq E.info) { self := s, other := o }
  | .eqInf id => toProg (mEq E.info) { self := id, otherInf := true }
  | .add s o => toProg (mAdd E.info) { self := s, other := o }
  | .mul id k => toProg (mMul E.info) { self := id, ka := k }
  | .maybePrecompute id => toProg (mMaybePrecompute E.info) { self := id }
  | .ne s o => toProg (mNe E.info) { self := s, other := o }
  | .radd s o => toProg (mRadd E.info) { self := s, other := o }
  | .rmul id k => toProg (mRmul E.info) { self := id, ka := k }
  | .fromAffine id g => toProg (mFromAffine E.info) { self := id, other := id, ka := g }
  | .mulAdd s ka o kb => toProg (mMulAdd E.info) { self := s, other := o, ka := ka, kb := kb }
  | .keyVerifies kid G hash r s => toProg (mKeyVerifies E.info) { self := G, key := kid, kc := hash, kd := r, ke := s }
  | .keySign G hash rk d => toProg (mKeySign E.info) { self := G, ka := rk, kc := hash, kd := d }
  | .keyPrecompute kid newObj lz =>
      toProg (mKeyPrecompute E.info) { self := 0, key := kid, newObj := newObj, ka := lz }
  | .keyRawEncode kid => toProg (mKeyRawEncode E.info) { self := 0, key := kid }
  | .keyCompressedEncode kid => toProg (mKeyCompressedEncode E.info) { self := 0, key := kid }

/-- what each operation may return: its SEQUENTIAL value (the functions of `Model/Curve.lean`) on an object whose
coordinates are the initial triple or its scaled form and whose table is empty or complete — i.e. the value it returns
when the operations run one after another, before or after the in-place rescaling / table construction of another one -/
def Op.acc (E : Env) : Op → Res Out → Prop
  | .x id => fun r => r = seqX (E.info id) (E.c0 id) ∨ r = seqX (E.info id) (E.cS id)
  | .y id => fun r => r = seqY (E.info id) (E.c0 id) ∨ r = seqY (E.info id) (E.cS id)
  | .scale id => fun r => r = .ok (.obj id)
  | .toAffine id => fun r => r = seqToAffine (E.info id) (E.c0 id) ∨ r = seqToAffine (E.info id) (E.cS id)
  | .double id => fun r => r = seqDouble (E.info id) (E.c0 id) ∨ r = seqDouble (E.info id) (E.cS id)
  | .neg id => fun r => r = seqNeg (E.info id) (E.c0 id) ∨ r = seqNeg (E.info id) (E.cS id)
  | .getstate id => fun r => ∃ c t, (c = E.c0 id ∨ c = E.cS id) ∧ (t = [] ∨ t = E.tF id) ∧ r = .ok (.state c t)
  | .eq s o => fun r => ∃ a b, GoodC E s a ∧ GoodC E o b ∧ r = seqEq (E.info s) a (E.info o) b
  | .eqInf id => fun r => r = .ok (.bool (isInfC (E.c0 id))) ∨ r = .ok (.bool (isInfC (E.cS id)))
  | .add s o => fun r => ∃ a b, GoodC E s a ∧ GoodC E o b ∧ r = seqAdd (E.info s) s a (E.info o) o b
  | .mul id k => fun r => ∃ c t, GoodC E id c ∧ (t = [] ∨ t = E.tF id) ∧ r = seqMul (E.info id) id c t k
  | .maybePrecompute _ => fun r => r = .ok .none
  | .ne s o => fun r => ∃ r0, accEq E s o r0 ∧ r = negOut r0
  | .radd s o => accAdd E s o
  | .rmul id k => accMul E id k
  | .fromAffine id g => fun r => ∃ ca cb, GoodC E id ca ∧ GoodC E id cb ∧
      r = fromAffineOut (E.info id) g (seqX (E.info id) ca) (seqY (E.info id) cb)
  | .mulAdd s ka o kb => accMulAdd E s o ka kb
  | .keyVerifies kid G hash r s => accKeyVerifies E kid G hash r s
  | .keySign G hash rk d => accKeySign E G hash rk d
  | .keyPrecompute kid _ lz => accKeyPrecompute E kid (lz != 0)
  | .keyRawEncode kid => accKeyXY E kid fun ox oy r => r = pairOf ox oy id
  | .keyCompressedEncode kid => accKeyXY E kid fun ox oy r => r = pairOf ox oy fun _ => parityOf oy

theorem Op.acc_x (E : Env) (id : Nat) : (Op.x id).acc E = accXat E id := rfl
theorem Op.acc_y (E : Env) (id : Nat) : (Op.y id).acc E = accYat E id := rfl
theorem Op.acc_eq (E : Env) (s o : Nat) : (Op.eq s o).acc E = accEq E s o := rfl
theorem Op.acc_add (E : Env) (s o : Nat) : (Op.add s o).acc E = accAdd E s o := rfl
theorem Op.acc_mul (E : Env) (id : Nat) (k : Int) : (Op.mul id k).acc E = accMul E id k := rfl
theorem Op.acc_fromAffine (E : Env) (id : Nat) (g : Int) : (Op.fromAffine id g).acc E = accFromAffine E id g := rfl

/-- side condition of an operation: the object `precompute` publishes is one of the allowed referents of the key -/
def Op.wf (E : Env) : Op → Prop
  | .keyPrecompute kid newObj _ => E.targets kid newObj
  | _ => True

end C18
