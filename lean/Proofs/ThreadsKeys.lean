import Proofs.ThreadsOps
/-! # Proofs.ThreadsKeys — the key-level operations (`Public_key.verifies`, `Private_key.sign`,
`VerifyingKey.precompute`, `_raw_encode`, `_compressed_encode`) are `Safe`

The key's field `point` is a *free* cell: `precompute` may overwrite it at any time, with a reference to any of the
allowed point objects (`Env.targets`: the original point and the equal-valued objects created by `precompute`). -/
namespace ThreadProgs
open Access Threads C18

section
variable {E : Env} {acc : Res Out → Prop} {ph : Phases Cell} {s : Loc} {kx : PyErr → P} {kr k : Loc → P}

theorem safe_load_ptr (h : ∀ t, E.targets s.key t → SafeE E acc ph (k { s with other := t })) :
    SafeE E acc ph (den loadPtr s kx kr k) := by
  rw [loadPtr, den_load rfl]
  refine Safe.readFree trivial fun v hv => ?_
  obtain ⟨t, ht, rfl⟩ := hv
  exact h t ht

theorem safe_store_ptr {val : Loc → Val} (hv : E.good (s.key, .point) (val s)) (h : SafeE E acc ph (k s)) :
    SafeE E acc ph (den (.store .key .point val) s kx kr k) := by
  rw [den_store rfl]
  exact Safe.writeFree trivial hv h

theorem safe_pure_error {f : Loc → Res Loc} {e : PyErr} (hf : f s = .error e) (h : acc (.error e)) :
    SafeE E acc ph (den (.pure f) s (fun e => .ret (.error e)) kr k) := by
  simp only [den, hf]; exact Safe.ret h

end

theorem _root_.C18.op_safe_key_raw_encode (E : Env) (kid : Nat) (ph : Phases Cell) :
    SafeE E ((Op.keyRawEncode kid).acc E) ph ((Op.keyRawEncode kid).prog E) := by
  unfold Op.prog Op.acc toProg mKeyRawEncode
  refine safe_seq (safe_load_ptr fun t1 ht1 => Safe.weaken (fun _ h => ⟨t1, ht1, h⟩) ?_)
  refine safe_seq (safe_call_bind (op_safe_x E t1 ph) fun ox ph1 _ _ => ?_)
  refine safe_seq (safe_load_ptr fun t2 ht2 => Safe.weaken (fun _ h => ⟨t2, ht2, h⟩) ?_)
  refine safe_seq (safe_call_bind (op_safe_y E t2 ph1) fun oy ph2 _ _ => ?_)
  exact safe_ret rfl

theorem pairOf_congr (ox : Out) {oy : Out} {f g : Int → Int} (h : ∀ y, oy = .int y → f y = g y) :
    pairOf ox oy f = pairOf ox oy g := by
  cases oy with
  | int y => cases ox <;> simp only [pairOf, h y rfl]
  | _ => cases ox <;> rfl

theorem _root_.C18.op_safe_key_compressed_encode (E : Env) (kid : Nat) (ph : Phases Cell) :
    SafeE E ((Op.keyCompressedEncode kid).acc E) ph ((Op.keyCompressedEncode kid).prog E) := by
  unfold Op.prog Op.acc toProg mKeyCompressedEncode
  refine safe_seq (safe_load_ptr fun t1 ht1 => Safe.weaken (fun _ h => ⟨t1, ht1, h⟩) ?_)
  refine safe_seq (safe_call_bind (op_safe_x E t1 ph) fun ox ph1 _ _ => ?_)
  refine safe_seq (safe_load_ptr fun t2 ht2 => Safe.weaken (fun _ h => ⟨t2, ht2, h⟩) ?_)
  refine safe_seq (safe_call_bind (op_safe_y E t2 ph1) fun oy ph2 _ _ => ?_)
  refine safe_seq (safe_ite (fun hp => safe_ret (pairOf_congr ox fun y hy => ?_))
    fun hp => safe_ret (pairOf_congr ox fun y hy => ?_))
  · subst hy
    have hp : (pmod y 2 == 1) = true := hp
    exact (if_pos hp).symm
  · subst hy
    have hp : (pmod y 2 == 1) = false := hp
    exact (if_neg (hp ▸ Bool.false_ne_true)).symm

theorem _root_.C18.op_safe_key_precompute (E : Env) (kid newObj : Nat) (lazyFlag : Int) (hnew : E.targets kid newObj)
    (htg : ∀ t, E.targets kid t → ObjOK E t) (ph : Phases Cell) :
    SafeE E ((Op.keyPrecompute kid newObj lazyFlag).acc E) ph ((Op.keyPrecompute kid newObj lazyFlag).prog E) := by
  unfold Op.prog Op.acc toProg mKeyPrecompute
  refine safe_seq (safe_load_ptr fun t1 ht1 => Safe.weaken (fun _ h => ⟨t1, ht1, h⟩) ?_)
  refine safe_seq (safe_call_bind (op_safe_from_affine E t1 1 ph) fun _ ph1 _ _ => ?_)
  refine safe_seq (safe_store_ptr ⟨newObj, hnew, rfl⟩ ?_)
  refine safe_seq (safe_ite (fun hl => ?_) fun hl => safe_skip ?_)
  · -- not lazy: the reference is read again
    have hl : (lazyFlag == 0) = true := hl
    have hl : (lazyFlag != 0) = false := congrArg not hl
    refine Safe.weaken (fun _ h => (if_neg (hl ▸ Bool.false_ne_true)).mpr h) ?_
    refine safe_seq (safe_load_ptr fun t2 ht2 => Safe.weaken (fun _ h => ⟨t2, ht2, h⟩) ?_)
    exact safe_call_bind (op_safe_mul E t2 2 (htg t2 ht2) ph1) fun _ _ _ _ => safe_ret rfl
  · have hl : (lazyFlag == 0) = false := hl
    have hl : (lazyFlag != 0) = true := congrArg not hl
    exact Safe.weaken (fun _ h => (if_pos hl).mpr h) (safe_ret rfl)

theorem safe_den_callR_k {E : Env} {o : Obj} {nm : String} {body : M} {enter : Loc → Loc} {leave : Loc → Out → Loc}
    {s : Loc} {accB acc : Res Out → Prop} {ph : Phases Cell} {kx : PyErr → P} {kr k : Loc → P}
    (hb : SafeE E accB ph (toProg body (enter s)))
    (hF : ∀ r (ph' : Phases Cell), accB r → (∀ k', ph k' = .canon → ph' k' = .canon) →
      SafeE E acc ph' (match r with
        | .error e => kx e
        | .ok out => k (leave s out))) :
    SafeE E acc ph (den (.callR o nm body enter leave) s kx kr k) :=
  safe_callR (.of_safe hb) (fun e => hF (.error e)) fun out => hF (.ok out)

/-- `if c: r = a.m(x) else: r = a.m(y)`: whichever call is made, what follows is the same -/
theorem safe_ite_call_bind {E : Env} {A : Res Out → Prop} {F : Out → Res Out → Prop} {ph : Phases Cell} {c : Loc → Bool}
    {o : Obj} {nm : String} {body : M} {e1 e2 : Loc → Loc} {leave : Loc → Out → Loc} {s : Loc} {kr k : Loc → P}
    (h1 : c s = true → SafeE E A ph (toProg body { e1 s with self := s.obj o }))
    (h2 : c s = false → SafeE E A ph (toProg body { e2 s with self := s.obj o }))
    (hk : ∀ out ph', A (.ok out) → ph.Le ph' → SafeE E (F out) ph' (k (leave s out))) :
    SafeE E (accBind A F) ph (den (.ite c (.call o nm body e1 leave) (.call o nm body e2 leave)) s
      (fun e => .ret (.error e)) kr k) :=
  safe_ite (fun h => safe_call_bind (h1 h) hk) fun h => safe_call_bind (h2 h) hk

/-- `Private_key.sign(hash, random_k)` with secret multiplier `d` on the shared generator `G`: one multiplication
`k' * G` (its sequential value on allowed snapshots of `G`), `x()` of the result, then the integer arithmetic -/
theorem _root_.C18.op_safe_key_sign (E : Env) (G : Nat) (hash rk d : Int) (hG : ObjOK E G) (ph : Phases Cell) :
    SafeE E ((Op.keySign G hash rk d).acc E) ph ((Op.keySign G hash rk d).prog E) := by
  unfold Op.prog Op.acc toProg mKeySign
  refine safe_seq (safe_pure rfl ?_)
  dsimp only
  refine safe_seq (safe_ite_call_bind
    (fun hb => (if_pos hb : signMult (orderOf (E.info G)) rk = _) ▸ op_safe_rmul E G _ hG ph)
    (fun hb => (if_neg (hb ▸ Bool.false_ne_true) : signMult (orderOf (E.info G)) rk = _) ▸ op_safe_rmul E G _ hG ph)
    fun o ph1 _ _ => ?_)
  refine safe_seq (safe_callR_bind (op_safe_x_g E { self := objOf o G, selfFresh := freshOf o } ph1) fun ox ph2 _ _ => ?_)
  dsimp only
  -- the integer arithmetic: `signPost` step by step
  cases ox with
  | int x =>
    refine safe_seq (safe_pure rfl ?_)
    dsimp only
    refine safe_guard (fun h0 => safe_ret (if_pos h0).symm) fun h0 => ?_
    have h0 : ¬ (pmod x (orderOf (E.info G)) == 0) = true := h0 ▸ Bool.false_ne_true
    cases hki : Curve.inverseMod (pmod rk (orderOf (E.info G))) (orderOf (E.info G)) with
    | error e =>
      refine safe_seq (safe_pure_error (e := e) (by simp only [hki]; rfl) ?_)
      simp only [signPost, if_neg h0, hki]
    | ok ki =>
      refine safe_seq (safe_pure (by simp only [hki]; rfl) ?_)
      refine safe_guard (fun h1 => safe_ret ?_) fun h1 => safe_ret ?_
      · simp only [signPost, if_neg h0, hki, if_pos h1]
      · simp only [signPost, if_neg h0, hki, if_neg (h1 ▸ Bool.false_ne_true)]
  | _ => exact safe_seq (safe_pure_error rfl rfl)

theorem _root_.C18.op_safe_key_verifies (E : Env) (kid G : Nat) (hash r s : Int) (hG : ObjOK E G)
    (htg : ∀ t, E.targets kid t → ObjOK E t) (ph : Phases Cell) :
    SafeE E ((Op.keyVerifies kid G hash r s).acc E) ph ((Op.keyVerifies kid G hash r s).prog E) := by
  simp only [Op.prog, Op.acc]
  unfold toProg mKeyVerifies
  refine safe_guard (fun h1 => ?_) fun h1 => ?_
  · have h1 : (decide (r < 1) || decide (r > orderOf (E.info G) - 1)) = true := h1
    exact safe_ret ((if_pos h1).mpr rfl)
  have h1 : ¬ (decide (r < 1) || decide (r > orderOf (E.info G) - 1)) = true := h1 ▸ Bool.false_ne_true
  refine safe_guard (fun h2 => ?_) fun h2 => ?_
  · have h2 : (decide (s < 1) || decide (s > orderOf (E.info G) - 1)) = true := h2
    exact safe_ret ((if_neg h1).mpr ((if_pos h2).mpr rfl))
  have h2 : ¬ (decide (s < 1) || decide (s > orderOf (E.info G) - 1)) = true := h2 ▸ Bool.false_ne_true
  cases hc : Curve.inverseMod s (orderOf (E.info G)) with
  | error e =>
    refine safe_seq (safe_pure_error (e := e) (by simp only [hc]; rfl) ?_)
    simp only [accKeyVerifies, if_neg h1, if_neg h2, hc]
  | ok c =>
    refine safe_seq (safe_pure (by simp only [hc]; rfl) ?_)
    -- what `accKeyVerifies` says once the range checks have passed and the inverse exists
    have hacc : accKeyVerifies E kid G hash r s = _ :=
      funext fun res => by simp only [accKeyVerifies, if_neg h1, if_neg h2, hc]; rfl
    rw [hacc]
    refine safe_seq (safe_then rfl ?_)
    refine safe_seq (safe_load_ptr fun t ht => Safe.weaken (fun _ h => ⟨t, ht, h⟩) ?_)
    refine safe_call_bind (op_safe_mul_add E G _ t _ hG (htg t ht) ph) fun o ph1 _ _ => ?_
    dsimp only
    refine safe_seq (safe_callR_bind (op_safe_eqinf_g E { self := objOf o G, otherInf := true, selfFresh := freshOf o }
      rfl ph1) fun ob ph2 _ _ => ?_)
    dsimp only
    refine safe_guard (fun hb => safe_ret ((if_pos hb).mpr rfl)) fun hb => ?_
    have hb : ¬ isTrue ob = true := hb ▸ Bool.false_ne_true
    refine Safe.weaken (fun _ h => (if_neg hb).mpr h) ?_
    refine safe_seq (safe_callR_bind (op_safe_x_g E { self := objOf o G, selfFresh := freshOf o } ph2)
      fun ox ph3 _ _ => ?_)
    exact safe_ret rfl

end ThreadProgs
