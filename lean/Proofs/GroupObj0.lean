import Proofs.Legacy
/-!
# Proofs.GroupObj0 — the object layer INCLUDING identity-valued `PointJacobi` objects

`PJRep` describes the objects the library itself produces: a stored `PointJacobi` is never an identity.  The constructor,
however, accepts `PointJacobi(c, 0, 0, 1)`, `(x, y, 0)`, `(x, 0, z)` and the code treats them as the point at infinity
("Y = 0 or Z = 0").  `PJRep0` admits these objects (`Rep` instead of `Good`), so that C06's "including the identity" holds
at object level for every way the identity can be held, not only for INFINITY.
-/
namespace Jac
open WeierstrassCurve WeierstrassCurve.Jacobian Curve

variable {p : ℕ} [hp : Fact p.Prime] {a b : ℤ} {H : AddSubgroup (Grp (a : ZMod p) (b : ZMod p))}

def PJRep0 (p : ℕ) [Fact p.Prime] (a b : ℤ) (H : AddSubgroup (Grp (a : ZMod p) (b : ZMod p)))
    (P : PJ) (g : Grp (a : ZMod p) (b : ZMod p)) : Prop :=
  OnCurve p a b P.curve ∧ InRange3 p (P.x, P.y, P.z) ∧
    Rep (a : ZMod p) (b : ZMod p) H (cast3 p (P.x, P.y, P.z)) g

def PtRep0 (p : ℕ) [Fact p.Prime] (a b : ℤ) (H : AddSubgroup (Grp (a : ZMod p) (b : ZMod p))) :
    Pt → Grp (a : ZMod p) (b : ZMod p) → Prop
  | .infinity, g => g = 0
  | .jac P, g => PJRep0 p a b H P g
  | .aff A, g => AffRep p a b H A g

theorem PJRep.rep0 {P : PJ} {g} (h : PJRep p a b H P g) : PJRep0 p a b H P g := ⟨h.onCurve, h.inRange, h.good.rep⟩

theorem PtRep.rep0 {R : Pt} {g} (h : PtRep p a b H R g) : PtRep0 p a b H R g := by
  cases R with
  | infinity => exact h
  | jac P => exact PJRep.rep0 h
  | aff A => exact h

namespace PJRep0
theorem onCurve {P : PJ} {g} (h : PJRep0 p a b H P g) : OnCurve p a b P.curve := h.1
theorem inRange {P : PJ} {g} (h : PJRep0 p a b H P g) : InRange3 p (P.x, P.y, P.z) := h.2.1
theorem rep {P : PJ} {g} (h : PJRep0 p a b H P g) :
    Rep (a : ZMod p) (b : ZMod p) H (cast3 p (P.x, P.y, P.z)) g := h.2.2
end PJRep0

theorem PJRep0.irep {P : PJ} {g} (h : PJRep0 p a b H P g) : IRep p a b H (P.x, P.y, P.z) g :=
  ⟨h.inRange.y.zt, h.inRange.z.zt, h.rep⟩

theorem PJRep0.cases {P : PJ} {g} (h : PJRep0 p a b H P g) :
    ((P.y = 0 ∨ P.z = 0) ∧ g = 0) ∨ (P.y ≠ 0 ∧ P.z ≠ 0 ∧ PJRep p a b H P g) := by
  by_cases hy : P.y = 0
  · exact Or.inl ⟨Or.inl hy, h.irep.eq_zero (Or.inl hy)⟩
  · by_cases hz : P.z = 0
    · exact Or.inl ⟨Or.inr hz, h.irep.eq_zero (Or.inr hz)⟩
    · exact Or.inr ⟨hy, hz, h.onCurve, h.inRange, h.irep.good hy hz⟩

theorem PJRep0.mem {P : PJ} {g} (h : PJRep0 p a b H P g) : g ∈ H := h.rep.1

theorem PJRep0.good_of_ne {P : PJ} {g} (h : PJRep0 p a b H P g) (hg : g ≠ 0) : PJRep p a b H P g := by
  rcases h.cases with ⟨_, h0⟩ | ⟨_, _, hr⟩
  · exact absurd h0 hg
  · exact hr

theorem pjRep0_zero {P : PJ} (hc : OnCurve p a b P.curve) (hr : InRange3 p (P.x, P.y, P.z))
    (h0 : P.y = 0 ∨ P.z = 0) : PJRep0 p a b H P 0 :=
  ⟨hc, hr, rep_zero_of H (by rcases h0 with h0 | h0 <;> simp [cast3, h0])⟩

theorem PtRep0.cases {R : Pt} {g} (h : PtRep0 p a b H R g) :
    (g = 0 ∧ ptIsInf R = true) ∨ PtRep p a b H R g := by
  cases R with
  | infinity => exact Or.inr h
  | aff A => exact Or.inr h
  | jac P =>
    rcases PJRep0.cases h with ⟨h0, hg⟩ | ⟨_, _, hr⟩
    · refine Or.inl ⟨hg, ?_⟩
      rcases h0 with h0 | h0 <;> simp [ptIsInf, pjEqInf, h0]
    · exact Or.inr hr

theorem pjEqInf_iff0 {P : PJ} {g} (h : PJRep0 p a b H P g) : pjEqInf P = true ↔ g = 0 := by
  rcases h.cases with ⟨h0, hg⟩ | ⟨hy, hz, hr⟩
  · rcases h0 with h0 | h0 <;> simp [pjEqInf, h0, hg]
  · simp [pjEqInf, hy, hz, good_ne_zero hr.good]

/-- as soon as one of the two identity tests holds, `__eq__` answers with their conjunction; the tests are `g = 0`, `h = 0` -/
theorem pjEq_jac_iff0 {P Q : PJ} {g h} (hP : PJRep0 p a b H P g) (hQ : PJRep0 p a b H Q h) :
    pjEq P (.jac Q) = true ↔ g = h := by
  have iP := pjEqInf_iff0 hP
  have iQ := pjEqInf_iff0 hQ
  by_cases hi : g = 0 ∨ h = 0
  · have e : pjEq P (.jac Q) = (pjEqInf P && pjEqInf Q) := by
      have hc : (pjEqInf P || pjEqInf Q) = true := by rwa [Bool.or_eq_true, iP, iQ]
      rw [show pjEq P (.jac Q) = eqCoords P.curve.p P.x P.y P.z Q.x Q.y Q.z by
        simp only [pjEq, hP.onCurve.eqv hQ.onCurve, Bool.not_true, Bool.false_eq_true, if_false]]
      unfold eqCoords
      rw [Bool.or_assoc]
      exact if_pos hc
    rw [e, Bool.and_eq_true, iP, iQ]
    constructor
    · rintro ⟨rfl, rfl⟩; rfl
    · rintro rfl; exact ⟨hi.elim id id, hi.elim id id⟩
  · rw [not_or] at hi
    exact pjEq_jac_iff (hP.good_of_ne hi.1) (hQ.good_of_ne hi.2)

theorem pjEq_iff0 (hH : NoOrder2 H) {P : PJ} {other : Pt} {g h}
    (hP : PJRep0 p a b H P g) (hQ : PtRep0 p a b H other h) : pjEq P other = true ↔ g = h := by
  cases other with
  | infinity =>
    have : h = 0 := hQ
    rw [this]; exact pjEqInf_iff0 hP
  | jac Q => exact pjEq_jac_iff0 hP hQ
  | aff A =>
    rw [show pjEq P (.aff A) = pjEq P (.jac (pjFromAffine A)) from rfl]
    exact pjEq_jac_iff0 hP (AffRep.pj hH hQ false).rep0

theorem pjAdd_correct0 (hp2 : p ≠ 2) (hH : NoOrder2 H) {P : PJ} {other : Pt} {g h}
    (hP : PJRep0 p a b H P g) (hQ : PtRep0 p a b H other h) :
    ∃ R, pjAdd P other = .ok R ∧ PtRep0 p a b H R (g + h) := by
  rcases hP.cases with ⟨h0, rfl⟩ | ⟨hy, hz, hr⟩
  · have hid : pjEqInf P = true := by rcases h0 with h0 | h0 <;> simp [pjEqInf, h0]
    exact ⟨other, by simp [pjAdd, pjEq, hid], by rwa [zero_add]⟩
  · rcases hQ.cases with ⟨rfl, hi⟩ | hQ'
    · refine ⟨.jac P, ?_, by rw [add_zero]; exact hr.rep0⟩
      have hn : pjEqInf P = false := pjEqInf_false hr
      cases other with
      | infinity => simp [pjAdd, pjEq, hn]
      | aff A => simp [ptIsInf] at hi
      | jac Q =>
        simp only [ptIsInf] at hi
        simp [pjAdd, pjEq, hn, hi]
    · obtain ⟨R, e, hR⟩ := pjAdd_correct hp2 hH hr hQ'
      exact ⟨R, e, hR.rep0⟩

theorem pjDouble_correct0 (hH : NoOrder2 H) {P : PJ} {g} (hP : PJRep0 p a b H P g) :
    PtRep p a b H (pjDouble P) (g + g) :=
  pjDouble_of_irep hH hP.onCurve hP.irep

theorem pjNeg_correct0 {P : PJ} {g} (hP : PJRep0 p a b H P g) : PJRep0 p a b H (pjNeg P) (-g) := by
  refine ⟨hP.onCurve, ⟨hP.inRange.x, ?_, hP.inRange.z⟩, ?_⟩
  · simp only [pjNeg, pmod, hP.onCurve.p_eq]; exact inRange_fmod _
  · have := rep_neg hP.rep
    simp only [pjNeg, pmod, hP.onCurve.p_eq]
    convert this using 2
    simp [cast3]

/-- `scale()` never raises on an identity-valued object: `inverse_mod(0, p)` is 0 -/
theorem pjScale_correct0 {P : PJ} {g} (hP : PJRep0 p a b H P g) :
    ∃ S, pjScale P = .ok S ∧ PJRep0 p a b H S g ∧ S.z = 1 ∧ S.curve = P.curve ∧ S.order = P.order ∧
      S.generator = P.generator := by
  rcases hP.cases with ⟨h0, rfl⟩ | ⟨_, _, hr⟩
  · by_cases hz1 : P.z = 1
    · exact ⟨P, by simp [pjScale, hz1], hP, hz1, rfl, rfl, rfl⟩
    · -- the inverse exists (or Z = 0 and `inverse_mod` returns 0); the new Y is 0 in both cases
      have hinv : ∃ zi, inverseMod P.z P.curve.p = .ok zi ∧ (P.y = 0 ∨ zi = 0) := by
        by_cases hz : P.z = 0
        · exact ⟨0, by simp [hz, inverseMod], Or.inr rfl⟩
        · have hy : P.y = 0 := h0.resolve_right hz
          have hzf : (P.z : ZMod p) ≠ 0 := hP.inRange.z.zt.ne hz
          obtain ⟨zi, hzi, _⟩ := InvMod.inverseMod_prime_cast p P.z hzf
          exact ⟨zi, by rw [hP.onCurve.p_eq]; exact hzi, Or.inl hy⟩
      obtain ⟨zi, hzi, hy0⟩ := hinv
      refine ⟨⟨P.curve, pmod (P.x * pmod (zi * zi) P.curve.p) P.curve.p,
        pmod (P.y * pmod (zi * zi) P.curve.p * zi) P.curve.p, 1, P.order, P.generator⟩,
        by simp only [pjScale, hz1, if_false, hzi]; rfl, ?_, rfl, rfl, rfl, rfl⟩
      have hY : pmod (P.y * pmod (zi * zi) P.curve.p * zi) P.curve.p = 0 := by
        rcases hy0 with h | h <;> simp [h, pmod]
      refine pjRep0_zero hP.onCurve ?_ (Or.inl hY)
      rw [hP.onCurve.p_eq]
      exact ⟨inRange_fmod _, by rw [← hP.onCurve.p_eq, hY]; exact inRange_zero, inRange_one⟩
  · obtain ⟨S, e, hS, r⟩ := pjScale_correct hr
    exact ⟨S, e, hS.rep0, r⟩

theorem pjToAffine_correct0 {P : PJ} {g} (hP : PJRep0 p a b H P g) :
    ∃ R, pjToAffine P = .ok R ∧ PtRep p a b H R g := by
  rcases hP.cases with ⟨h0, rfl⟩ | ⟨_, _, hr⟩
  · refine ⟨.infinity, ?_, rfl⟩
    rcases h0 with h0 | h0 <;> simp [pjToAffine, h0]
  · obtain ⟨A, e, hA, _⟩ := pjToAffine_correct hr
    exact ⟨.aff A, e, hA⟩

/-- on INFINITY and legacy points `PtRep0` is `PtRep` by definition -/
theorem ptAdd_correct0 (hp2 : p ≠ 2) (hH : NoOrder2 H) {A B : Pt} {g h}
    (hA : PtRep0 p a b H A g) (hB : PtRep0 p a b H B h) :
    ∃ R, ptAdd A B = .ok R ∧ PtRep0 p a b H R (g + h) := by
  cases A with
  | jac P => exact pjAdd_correct0 hp2 hH hA hB
  | infinity =>
    have : g = 0 := hA
    subst this
    cases B with
    | infinity => exact ⟨.infinity, rfl, by simpa [PtRep0] using hB⟩
    | aff Q => exact ⟨.aff Q, rfl, by rwa [zero_add]⟩
    | jac Q =>
      obtain ⟨R, e, hR⟩ := pjAdd_correct0 hp2 hH hB (show PtRep0 p a b H .infinity 0 from rfl)
      exact ⟨R, e, by rwa [add_comm] at hR⟩
  | aff P =>
    cases B with
    | jac Q =>
      obtain ⟨R, e, hR⟩ := pjAdd_correct0 hp2 hH hB (other := .aff P) hA
      exact ⟨R, e, by rwa [add_comm] at hR⟩
    | infinity =>
      obtain ⟨R, e, hR⟩ := ptAdd_correct hp2 hH (A := .aff P) (B := .infinity) hA hB
      exact ⟨R, e, hR.rep0⟩
    | aff Q =>
      obtain ⟨R, e, hR⟩ := ptAdd_correct hp2 hH (A := .aff P) (B := .aff Q) hA hB
      exact ⟨R, e, hR.rep0⟩

theorem ptEq_iff0 (hH : NoOrder2 H) {A B : Pt} {g h}
    (hA : PtRep0 p a b H A g) (hB : PtRep0 p a b H B h) : ptEq A B = true ↔ g = h := by
  cases A with
  | jac P => exact pjEq_iff0 hH hA hB
  | infinity =>
    have : g = 0 := hA
    subst this
    cases B with
    | infinity => have : h = 0 := hB; simp [ptEq, this]
    | aff Q => simp only [ptEq, Bool.false_eq_true, false_iff]; exact fun e => AffRep.ne_zero hB e.symm
    | jac Q =>
      rw [show ptEq .infinity (.jac Q) = pjEq Q .infinity from rfl,
        pjEq_iff0 hH hB (show PtRep0 p a b H .infinity 0 from rfl)]
      exact eq_comm
  | aff P =>
    cases B with
    | jac Q =>
      rw [show ptEq (.aff P) (.jac Q) = pjEq Q (.aff P) from rfl,
        pjEq_iff0 hH hB (other := .aff P) hA]
      exact eq_comm
    | infinity => exact ptEq_iff hH (A := .aff P) (B := .infinity) hA hB
    | aff Q => exact ptEq_iff hH (A := .aff P) (B := .aff Q) hA hB

/-- What the proofs about `*` and `mul_add` use of a way of reading point values (`J`: a stored `PointJacobi`, `T`: any
point value).  They are carried out once for an arbitrary reading and used for the two below: `Reading.strict`, objects
as the library produces them, and `Reading.loose`, identity-valued `PointJacobi` objects admitted. -/
structure Reading (p : ℕ) [Fact p.Prime] (a b : ℤ) (H : AddSubgroup (Grp (a : ZMod p) (b : ZMod p))) where
  J : PJ → Grp (a : ZMod p) (b : ZMod p) → Prop
  T : Pt → Grp (a : ZMod p) (b : ZMod p) → Prop
  hp2 : p ≠ 2
  hH : NoOrder2 H
  rep0 : ∀ {P g}, J P g → PJRep0 p a b H P g
  jac : ∀ {P g}, T (.jac P) g ↔ J P g
  aff : ∀ {A g}, T (.aff A) g → J (pjFromAffine A) g
  isInf : ∀ {R g}, T R g → ptIsInf R = true → g = 0
  ofPtRep : ∀ {R g}, PtRep p a b H R g → T R g
  scale : ∀ {P g}, J P g → ∃ S, pjScale P = .ok S ∧ J S g ∧ S.z = 1 ∧ S.curve = P.curve ∧ S.order = P.order ∧
    S.generator = P.generator
  add : ∀ {A B g h}, T A g → T B h → ∃ R, ptAdd A B = .ok R ∧ T R (g + h)

def Reading.strict (hp2 : p ≠ 2) (hH : NoOrder2 H) : Reading p a b H where
  J := PJRep p a b H
  T := PtRep p a b H
  hp2 := hp2
  hH := hH
  rep0 := PJRep.rep0
  jac := Iff.rfl
  aff := fun h => AffRep.pj hH h false
  isInf := fun h hi => (ptIsInf_iff h).mp hi
  ofPtRep := id
  scale := pjScale_correct
  add := ptAdd_correct hp2 hH

def Reading.loose (hp2 : p ≠ 2) (hH : NoOrder2 H) : Reading p a b H where
  J := PJRep0 p a b H
  T := PtRep0 p a b H
  hp2 := hp2
  hH := hH
  rep0 := id
  jac := Iff.rfl
  aff := fun h => (AffRep.pj hH h false).rep0
  isInf := fun {R} _ h hi => by
    cases R with
    | infinity => exact h
    | jac Q => exact (pjEqInf_iff0 h).mp hi
    | aff A => simp [ptIsInf] at hi
  ofPtRep := PtRep.rep0
  scale := pjScale_correct0
  add := ptAdd_correct0 hp2 hH

end Jac
