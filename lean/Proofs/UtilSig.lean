import Proofs.UtilNum
import Proofs.DerEnc
/-!
# Proofs.UtilSig — the three signature codecs of `util.py` (raw string, string pair, DER)
-/
namespace Util
open Der

theorem sigencodeStrings_eq (r s n : Nat) (hr : r < 256 ^ orderlen n) (hs : s < 256 ^ orderlen n) :
    sigencodeStrings r s n = .ok (beFixed (orderlen n) r, beFixed (orderlen n) s) := by
  unfold sigencodeStrings
  rw [numberToString_eq r n hr, numberToString_eq s n hs]; rfl

theorem sigencodeStrings_ok {r s n : Nat} {p : Bytes × Bytes} (h : sigencodeStrings r s n = .ok p) :
    r < 256 ^ orderlen n ∧ s < 256 ^ orderlen n ∧ p = (beFixed (orderlen n) r, beFixed (orderlen n) s) := by
  obtain ⟨a, ha, h⟩ := Res.bind_ok h
  obtain ⟨b, hb, h⟩ := Res.bind_ok h
  obtain ⟨h1, rfl⟩ := numberToString_ok ha
  obtain ⟨h2, rfl⟩ := numberToString_ok hb
  exact ⟨h1, h2, (Except.ok.inj h).symm⟩

theorem sigdecodeStrings_pair (a b : Bytes) (n : Nat) :
    sigdecodeStrings [a, b] n =
      if a.length ≠ orderlen n then .error .malformedSignature
      else if b.length ≠ orderlen n then .error .malformedSignature
      else .ok (beVal a, beVal b) := by
  unfold sigdecodeStrings
  simp only
  split
  · rfl
  · rename_i ha
    split
    · rfl
    · rename_i hb
      rw [stringToNumberFixedlen_eq a n (by simpa using ha), stringToNumberFixedlen_eq b n (by simpa using hb)]
      rfl

theorem sigdecodeStrings_ok {rs : List Bytes} {n r s : Nat} (h : sigdecodeStrings rs n = .ok (r, s)) :
    ∃ a b, rs = [a, b] ∧ a.length = orderlen n ∧ b.length = orderlen n ∧ r = beVal a ∧ s = beVal b := by
  match rs, h with
  | [a, b], h =>
    rw [sigdecodeStrings_pair] at h
    split at h
    · cases h
    · rename_i ha
      split at h
      · cases h
      · rename_i hb
        simp only [Except.ok.injEq, Prod.mk.injEq] at h
        exact ⟨a, b, rfl, by simpa using ha, by simpa using hb, h.1.symm, h.2.symm⟩
  | [], h => simp [sigdecodeStrings] at h
  | [_], h => simp [sigdecodeStrings] at h
  | _ :: _ :: _ :: _, h => simp [sigdecodeStrings] at h

theorem sigdecodeStrings_err {rs : List Bytes} {n : Nat} {e : PyErr} (h : sigdecodeStrings rs n = .error e) :
    e = .malformedSignature := by
  match rs, h with
  | [a, b], h =>
    rw [sigdecodeStrings_pair] at h
    split at h
    · cases h; rfl
    · split at h
      · cases h; rfl
      · cases h
  | [], h => simp [sigdecodeStrings] at h; exact h.symm
  | [_], h => simp [sigdecodeStrings] at h; exact h.symm
  | _ :: _ :: _ :: _, h => simp [sigdecodeStrings] at h; exact h.symm

theorem sigencodeString_eq (r s n : Nat) (hr : r < 256 ^ orderlen n) (hs : s < 256 ^ orderlen n) :
    sigencodeString r s n = .ok (beFixed (orderlen n) r ++ beFixed (orderlen n) s) := by
  unfold sigencodeString
  rw [sigencodeStrings_eq r s n hr hs]; rfl

theorem sigencodeString_ok {r s n : Nat} {e : Bytes} (h : sigencodeString r s n = .ok e) :
    r < 256 ^ orderlen n ∧ s < 256 ^ orderlen n ∧ e = beFixed (orderlen n) r ++ beFixed (orderlen n) s := by
  obtain ⟨p, hp, h⟩ := Res.bind_ok h
  obtain ⟨h1, h2, rfl⟩ := sigencodeStrings_ok hp
  exact ⟨h1, h2, (Except.ok.inj h).symm⟩

theorem sigdecodeString_eval (sig : Bytes) (n : Nat) :
    sigdecodeString sig n =
      if sig.length ≠ 2 * orderlen n then .error .malformedSignature
      else .ok (beVal (sig.take (orderlen n)), beVal (sig.drop (orderlen n))) := by
  unfold sigdecodeString
  simp only
  split
  · rfl
  · rename_i hl
    have hl' : sig.length = 2 * orderlen n := by simpa using hl
    rw [stringToNumberFixedlen_eq _ n (by rw [List.length_take]; omega),
      stringToNumberFixedlen_eq _ n (by rw [List.length_drop]; omega)]
    rfl

theorem encodeLength_length_le (l : Nat) (h : l < 256 ^ 127) : (encodeLength l).length ≤ 128 := by
  unfold encodeLength
  split
  · simp
  · have := hexBytes_length_le l 127 (by decide) h
    simp only [List.length_cons]; omega

theorem encodeInteger_length_le (r : Nat) (h : r < 256 ^ 126) : (encodeInteger r).length ≤ 256 := by
  have h1 := intBody_length_le r 126 (by decide) h
  have h2 : (intBody r).length < 256 ^ 127 := Nat.lt_of_le_of_lt h1 (by decide)
  have h3 := encodeLength_length_le _ h2
  unfold encodeInteger
  simp only [List.length_append, List.length_cons, List.length_nil]
  omega

theorem sigencodeDer_eq (r s n : Nat) (hr : (intBody r).length < 256 ^ 127) (hs : (intBody s).length < 256 ^ 127)
    (hl : (encodeInteger r ++ encodeInteger s).length < 256 ^ 127) :
    sigencodeDer r s n = .ok (encodeSequence [encodeInteger r, encodeInteger s]) := by
  unfold sigencodeDer
  rw [encodeIntegerPy_eq r hr, encodeIntegerPy_eq s hs]
  simp only [bind, Except.bind]
  exact encodeSequencePy_eq _ (by simpa using hl)

theorem sigencodeDer_ok {r s n : Nat} {e : Bytes} (h : sigencodeDer r s n = .ok e) :
    e = encodeSequence [encodeInteger r, encodeInteger s] := by
  obtain ⟨a, ha, h⟩ := Res.bind_ok h
  obtain ⟨b, hb, h⟩ := Res.bind_ok h
  rw [(encodeIntegerPy_ok ha).2, (encodeIntegerPy_ok hb).2] at h
  exact encodeSequencePy_ok h

/-- `removeSequence_encode` / `removeInteger_encode` when nothing follows -/
theorem removeSequence_encode_nil (pieces : List Bytes) (h : pieces.flatten.length < 256 ^ 127) :
    removeSequence (encodeSequence pieces) = .ok (pieces.flatten, []) := by
  simpa using removeSequence_encode pieces [] h

theorem removeInteger_encode_nil (r : Nat) (hl : (intBody r).length < 256 ^ 127) :
    removeInteger (encodeInteger r) = .ok (r, []) := by
  simpa using removeInteger_encode r [] hl

theorem sigdecodeDer_encode (r s n : Nat) (hr : (intBody r).length < 256 ^ 127) (hs : (intBody s).length < 256 ^ 127)
    (hl : (encodeInteger r ++ encodeInteger s).length < 256 ^ 127) :
    sigdecodeDer (encodeSequence [encodeInteger r, encodeInteger s]) n = .ok (r, s) := by
  unfold sigdecodeDer
  rw [removeSequence_encode_nil _ (by simpa using hl)]
  simp only [bind, Except.bind, List.flatten_cons, List.flatten_nil, List.append_nil, ne_eq, not_true_eq_false, if_false]
  rw [removeInteger_encode r _ hr]
  simp only
  rw [removeInteger_encode_nil s hs]
  simp

theorem sigdecodeDer_ok {sig : Bytes} {n r s : Nat} (h : sigdecodeDer sig n = .ok (r, s)) :
    sig = encodeSequence [encodeInteger r, encodeInteger s]
    ∧ (intBody r).length < 256 ^ 127 ∧ (intBody s).length < 256 ^ 127
    ∧ (encodeInteger r ++ encodeInteger s).length < 256 ^ 127 := by
  obtain ⟨⟨body, empty⟩, hv, h⟩ := Res.bind_ok h
  simp only at h
  split at h
  · cases h
  · rename_i he
    obtain ⟨⟨r', rest⟩, hv1, h⟩ := Res.bind_ok h
    obtain ⟨⟨s', empty2⟩, hv2, h⟩ := Res.bind_ok h
    simp only at h
    split at h
    · cases h
    · rename_i he2
      obtain ⟨rfl, rfl⟩ := Prod.mk.inj (Except.ok.inj h)
      obtain rfl : empty = [] := Decidable.not_not.1 he
      obtain rfl : empty2 = [] := Decidable.not_not.1 he2
      obtain ⟨hs1, hl1⟩ := removeSequence_ok hv
      obtain ⟨rfl, hl2⟩ := removeInteger_ok hv1
      obtain ⟨rfl, hl3⟩ := removeInteger_ok hv2
      rw [List.append_nil] at hs1 hl1
      refine ⟨?_, hl2, hl3, hl1⟩
      rw [hs1]; simp [encodeSequence]

theorem sigdecodeDer_err {sig : Bytes} {n : Nat} {e : PyErr} (h : sigdecodeDer sig n = .error e) :
    e = .unexpectedDER := by
  rcases Res.bind_error h with he | ⟨⟨body, empty⟩, _, h⟩
  · exact removeSequence_err he
  simp only at h
  split at h
  · cases h; rfl
  rcases Res.bind_error h with he | ⟨⟨r', rest⟩, _, h⟩
  · exact removeInteger_err he
  rcases Res.bind_error h with he | ⟨⟨s', empty2⟩, _, h⟩
  · exact removeInteger_err he
  simp only at h
  split at h <;> cases h
  rfl

theorem sigdecodeDer_trailing (r s n : Nat) (junk : Bytes) (hl : (encodeInteger r ++ encodeInteger s).length < 256 ^ 127)
    (hj : junk ≠ []) :
    sigdecodeDer (encodeSequence [encodeInteger r, encodeInteger s] ++ junk) n = .error .unexpectedDER := by
  unfold sigdecodeDer
  rw [removeSequence_encode [encodeInteger r, encodeInteger s] junk (by simpa using hl)]
  simp [bind, Except.bind, hj]

/-- a third INTEGER is one instance -/
theorem sigdecodeDer_inner_junk (r s n : Nat) (junk : Bytes) (hr : (intBody r).length < 256 ^ 127)
    (hs : (intBody s).length < 256 ^ 127) (hl : (encodeInteger r ++ encodeInteger s ++ junk).length < 256 ^ 127)
    (hj : junk ≠ []) :
    sigdecodeDer (encodeSequence [encodeInteger r, encodeInteger s, junk]) n = .error .unexpectedDER := by
  unfold sigdecodeDer
  rw [removeSequence_encode_nil _ (by simpa [List.append_assoc] using hl)]
  simp only [bind, Except.bind, List.flatten_cons, List.flatten_nil, List.append_nil, ne_eq, not_true_eq_false, if_false]
  rw [removeInteger_encode r _ hr]
  simp only
  rw [removeInteger_encode s junk hs]
  simp [hj]

theorem sigdecodeDer_single (r n : Nat) (hr : (intBody r).length < 256 ^ 127)
    (hl : (encodeInteger r).length < 256 ^ 127) :
    sigdecodeDer (encodeSequence [encodeInteger r]) n = .error .unexpectedDER := by
  unfold sigdecodeDer
  rw [removeSequence_encode_nil _ (by simpa using hl)]
  simp only [bind, Except.bind, List.flatten_cons, List.flatten_nil, List.append_nil, ne_eq, not_true_eq_false, if_false]
  rw [removeInteger_encode_nil r hr]
  rfl

end Util
