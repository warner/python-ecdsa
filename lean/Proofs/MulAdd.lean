import Proofs.MulNaf
/-!
# Proofs.MulAdd — `PointJacobi.mul_add`: the interleaved double-scalar loop and all its early exits

Proved once for an arbitrary `Reading` of point values: with identity-valued `PointJacobi` operands the combined points
`±A ± B` are still operands of the loop (`OpRep`: an identity operand is passed through with its unreduced `-Y`).
-/
namespace Jac
open WeierstrassCurve WeierstrassCurve.Jacobian Curve

variable {p : ℕ} [hp : Fact p.Prime] {a b : ℤ} {H : AddSubgroup (Grp (a : ZMod p) (b : ZMod p))}

theorem mulAddStep_rep (hp2 : p ≠ 2) (hH : NoOrder2 H) {P1 P2 mAmB pAmB mApB pApB : ℤ × ℤ × ℤ} {g h}
    (h1 : OpRep p a b H P1 g) (h2 : OpRep p a b H P2 h)
    (hmm : OpRep p a b H mAmB (-g + -h)) (hpm : OpRep p a b H pAmB (g + -h))
    (hmp : OpRep p a b H mApB (-g + h)) (hpp : OpRep p a b H pApB (g + h))
    (t : ℤ × ℤ × ℤ) (h0) (A B : ℤ) (ht : AccRep p a b H t h0)
    (hA : A = -1 ∨ A = 0 ∨ A = 1) (hB : B = -1 ∨ B = 0 ∨ B = 1) :
    AccRep p a b H (mulAddStep p a P1 P2 mAmB pAmB mApB pApB t (A, B))
      ((h0 + h0) + (A • g + B • h)) := by
  have hd := accRep_double hH ht
  have n1 : OpRep p a b H (P1.1, -P1.2.1, P1.2.2) (-g) := OpRep.neg h1
  have n2 : OpRep p a b H (P2.1, -P2.2.1, P2.2.2) (-h) := OpRep.neg h2
  unfold mulAddStep
  simp only []
  rcases hA with rfl | rfl | rfl <;> rcases hB with rfl | rfl | rfl <;>
    simp only [one_ne_zero, if_false, if_true, Int.reduceNeg, Left.neg_neg_iff, zero_lt_one,
      Int.neg_eq_zero, lt_self_iff_false, neg_smul, one_smul, zero_smul, add_zero, zero_add, Int.reduceLT]
  -- (A, B) in the order (−1,−1) (−1,0) (−1,1) (0,−1) (0,0) (0,1) (1,−1) (1,0) (1,1)
  · exact accRep_add hp2 hH hd hmm
  · exact accRep_add hp2 hH hd n1
  · exact accRep_add hp2 hH hd hmp
  · exact accRep_add hp2 hH hd n2
  · exact hd
  · exact accRep_add hp2 hH hd h2
  · exact accRep_add hp2 hH hd hpm
  · exact accRep_add hp2 hH hd h1
  · exact accRep_add hp2 hH hd hpp

def Reading.MulSpec (R : Reading p a b H) (t : List (ℤ × ℤ)) (S : PJ) (g : Grp (a : ZMod p) (b : ZMod p)) : Prop :=
  ∀ k, ∃ Q, pjMulWith t S k = .ok Q ∧ R.T Q (k • g)

/-- `Reading.MulSpec` of the library's own objects -/
def MulSpec (p : ℕ) [Fact p.Prime] (a b : ℤ) (H : AddSubgroup (Grp (a : ZMod p) (b : ZMod p)))
    (t : List (ℤ × ℤ)) (S : PJ) (g : Grp (a : ZMod p) (b : ZMod p)) : Prop :=
  ∀ k, ∃ R, pjMulWith t S k = .ok R ∧ PtRep p a b H R (k • g)

/-- for every `S` with the order and flag of `P`, because the fallback for `A + B = INFINITY` multiplies the SCALED copies -/
def Reading.MulEnv (R : Reading p a b H) (pre : List (ℤ × ℤ)) (P : PJ) (g : Grp (a : ZMod p) (b : ZMod p)) : Prop :=
  ∃ t, maybePrecompute P pre = .ok t ∧
    ∀ S, R.J S g → S.order = P.order → S.generator = P.generator → R.MulSpec t S g

theorem reduce2_smul {g h : Grp (a : ZMod p) (b : ZMod p)} {ord : Option ℤ}
    (ho : ∀ n, truthy ord = some n → n • g = 0 ∧ n • h = 0) (sm om : ℤ) :
    (match truthy ord with
      | some o => (pmod sm o, pmod om o)
      | none => (sm, om)).1 • g +
    (match truthy ord with
      | some o => (pmod sm o, pmod om o)
      | none => (sm, om)).2 • h = sm • g + om • h := by
  cases hh : truthy ord with
  | none => rfl
  | some o =>
    simp only [smul_pmod (ho o hh).1 sm o (dvd_refl o), smul_pmod (ho o hh).2 om o (dvd_refl o)]

/-- the text of `Curve.pjMulAddWith` after the early exits and `_maybe_precompute`, kept in step with it by the `rfl` of
`pjMulAddWith_eq_tail` -/
def mulAddTail (tP tQ : List (ℤ × ℤ)) (P Q : PJ) (sm om : ℤ) : Res Pt :=
  if !tP.isEmpty && !tQ.isEmpty then do
    let r1 ← pjMulWith tP P sm
    let r2 ← pjMulWith tQ Q om
    ptAdd r1 r2
  else
    let (sm, om) := match truthy P.order with
      | some o => (pmod sm o, pmod om o)
      | none => (sm, om)
    let p' := P.curve.p
    let a' := P.curve.a
    do
    let SP ← pjScale P
    let SQ ← pjScale Q
    let P1 := (SP.x, SP.y, SP.z)
    let P2 := (SQ.x, SQ.y, SQ.z)
    let mAmB := Gen.k_add SP.x (-SP.y) SP.z SQ.x (-SQ.y) SQ.z p' a'
    let pAmB := Gen.k_add SP.x SP.y SP.z SQ.x (-SQ.y) SQ.z p' a'
    let mApB := Gen.k_add SP.x (-SP.y) SP.z SQ.x SQ.y SQ.z p' a'
    let pApB := Gen.k_add SP.x SP.y SP.z SQ.x SQ.y SQ.z p' a'
    if pApB.2.1 == 0 || pApB.2.2 == 0 then do
      let r1 ← pjMulWith tP SP sm
      let r2 ← pjMulWith tQ SQ om
      ptAdd r1 r2
    else
      let nafs := padNafs (naf sm).reverse (naf om).reverse
      let acc := (nafs.1.zip nafs.2).foldl (mulAddStep p' a' P1 P2 mAmB pAmB mApB pApB) (0, 0, 1)
      .ok (coordsOut P.curve P.order acc)

theorem pjMulAddWith_eq_tail {preP preQ : List (ℤ × ℤ)} {P Q : PJ} {sm om : ℤ} {other : Pt}
    (hQ : other = .jac Q ∨ ∃ A, other = .aff A ∧ Q = pjFromAffine A)
    (c1 : (ptIsInf other || om == 0) = false) (c2 : (sm == 0) = false) :
    pjMulAddWith preP preQ P sm other om = (do
      let tP ← maybePrecompute P preP
      let tQ ← maybePrecompute Q preQ
      mulAddTail tP tQ P Q sm om) := by
  unfold pjMulAddWith
  rw [c1, c2]
  rcases hQ with rfl | ⟨A, rfl, rfl⟩ <;> rfl

theorem Reading.mulAddTail_correct (R : Reading p a b H) {P Q : PJ} {g h} (hP : R.J P g) (hQ : R.J Q h)
    (ho : ∀ n, truthy P.order = some n → n • g = 0 ∧ n • h = 0) {tP tQ : List (ℤ × ℤ)}
    (mP : ∀ S, R.J S g → S.order = P.order → S.generator = P.generator → R.MulSpec tP S g)
    (mQ : ∀ S, R.J S h → S.order = Q.order → S.generator = Q.generator → R.MulSpec tQ S h) (sm om : ℤ) :
    ∃ X, mulAddTail tP tQ P Q sm om = .ok X ∧ R.T X (sm • g + om • h) := by
  unfold mulAddTail
  split_ifs with hboth
  · obtain ⟨r1, e1, h1⟩ := mP P hP rfl rfl sm
    obtain ⟨r2, e2, h2⟩ := mQ Q hQ rfl rfl om
    simp only [e1, e2, ok_bind]
    exact R.add h1 h2
  · obtain ⟨SP, eSP, jSP, -, -, oSP, gSP⟩ := R.scale hP
    obtain ⟨SQ, eSQ, jSQ, -, -, oSQ, gSQ⟩ := R.scale hQ
    rw [← reduce2_smul ho sm om]
    generalize (match truthy P.order with
          | some o => (pmod sm o, pmod om o)
          | none => (sm, om)) = sc
    obtain ⟨sm', om'⟩ := sc
    have hc := (R.rep0 hP).onCurve
    simp only [eSP, eSQ, ok_bind, hc.p_eq, hc.a_eq]
    split_ifs with hinf
    · obtain ⟨r1, e1, h1⟩ := mP SP jSP oSP gSP sm'
      obtain ⟨r2, e2, h2⟩ := mQ SQ jSQ oSQ gSQ om'
      simp only [e1, e2, ok_bind]
      exact R.add h1 h2
    · refine ⟨_, rfl, R.ofPtRep ?_⟩
      have i1 := (R.rep0 jSP).op
      have i2 := (R.rep0 jSQ).op
      have hl := Naf.mulAdd_rel (AccRep p a b H) _ g h
        (fun t h0 A B ht hA hB => mulAddStep_rep R.hp2 R.hH i1 i2
          (opRep_add R.hp2 R.hH i1.neg i2.neg) (opRep_add R.hp2 R.hH i1 i2.neg)
          (opRep_add R.hp2 R.hH i1.neg i2) (opRep_add R.hp2 R.hH i1 i2) t h0 A B ht hA hB)
        (0, 0, 1) accRep_sentinel sm' om'
      exact coordsOut_rep hc _ hl.irep hl.inRange

/-- the same for the library's own objects, with the text of `pjMulAddWith` written out (the form Props/C19g.lean
rewrites with, as it does with `MulSpec`) -/
theorem mulAdd_main (hp2 : p ≠ 2) (hH : NoOrder2 H) {P Q : PJ} {g h}
    (hP : PJRep p a b H P g) (hQ : PJRep p a b H Q h)
    (ho : ∀ n, truthy P.order = some n → n • g = 0 ∧ n • h = 0)
    {tP tQ : List (ℤ × ℤ)}
    (mP : ∀ S, PJRep p a b H S g → S.order = P.order → S.generator = P.generator → MulSpec p a b H tP S g)
    (mQ : ∀ S, PJRep p a b H S h → S.order = Q.order → S.generator = Q.generator → MulSpec p a b H tQ S h)
    (sm om : ℤ) :
    ∃ R, (if !tP.isEmpty && !tQ.isEmpty then do
        let r1 ← pjMulWith tP P sm
        let r2 ← pjMulWith tQ Q om
        ptAdd r1 r2
      else
        let (sm, om) := match truthy P.order with
          | some o => (pmod sm o, pmod om o)
          | none => (sm, om)
        let p' := P.curve.p
        let a' := P.curve.a
        do
        let SP ← pjScale P
        let SQ ← pjScale Q
        let P1 := (SP.x, SP.y, SP.z)
        let P2 := (SQ.x, SQ.y, SQ.z)
        let mAmB := Gen.k_add SP.x (-SP.y) SP.z SQ.x (-SQ.y) SQ.z p' a'
        let pAmB := Gen.k_add SP.x SP.y SP.z SQ.x (-SQ.y) SQ.z p' a'
        let mApB := Gen.k_add SP.x (-SP.y) SP.z SQ.x SQ.y SQ.z p' a'
        let pApB := Gen.k_add SP.x SP.y SP.z SQ.x SQ.y SQ.z p' a'
        if pApB.2.1 == 0 || pApB.2.2 == 0 then do
          let r1 ← pjMulWith tP SP sm
          let r2 ← pjMulWith tQ SQ om
          ptAdd r1 r2
        else
          let nafs := padNafs (naf sm).reverse (naf om).reverse
          let acc := (nafs.1.zip nafs.2).foldl (mulAddStep p' a' P1 P2 mAmB pAmB mApB pApB) (0, 0, 1)
          .ok (coordsOut P.curve P.order acc)) = .ok R ∧ PtRep p a b H R (sm • g + om • h) :=
  (Reading.strict hp2 hH).mulAddTail_correct hP hQ ho mP mQ sm om

/-- the single multiplications `mul_add` falls back on are hypotheses (discharged in Proofs/MulAll.lean): `m0`, `mO` serve
the two early exits (which multiply with the table states as they are), `eP`, `eQ` the paths after `_maybe_precompute` -/
theorem Reading.pjMulAddWith_correct (R : Reading p a b H) {P : PJ} {other : Pt} {g h}
    (hP : R.J P g) (hO : R.T other h)
    (ho : ∀ n, truthy P.order = some n → n • g = 0 ∧ n • h = 0)
    {preP preQ : List (ℤ × ℤ)}
    (m0 : R.MulSpec preP P g)
    (mO : ∀ k, ∃ X, ptMulWith preQ other k = .ok X ∧ R.T X (k • h))
    (eP : R.MulEnv preP P g)
    (eQ : ∀ Q, R.J Q h → (other = .jac Q ∨ ∃ A, other = .aff A ∧ Q = pjFromAffine A) → R.MulEnv preQ Q h)
    (sm om : ℤ) :
    ∃ X, pjMulAddWith preP preQ P sm other om = .ok X ∧ R.T X (sm • g + om • h) := by
  by_cases c1 : (ptIsInf other || om == 0) = true
  · -- other == INFINITY or other_mul == 0
    obtain ⟨X, e, hX⟩ := m0 sm
    refine ⟨X, by unfold pjMulAddWith; rw [if_pos c1]; exact e, ?_⟩
    have : om • h = 0 := by
      simp only [Bool.or_eq_true, beq_iff_eq] at c1
      rcases c1 with c1 | c1
      · rw [R.isInf hO c1, smul_zero]
      · rw [c1, zero_smul]
    rwa [this, add_zero]
  by_cases c2 : (sm == 0) = true
  · -- self_mul == 0
    obtain ⟨X, e, hX⟩ := mO om
    refine ⟨X, by unfold pjMulAddWith; rw [if_neg c1, if_pos c2]; exact e, ?_⟩
    rw [beq_iff_eq] at c2
    rwa [c2, zero_smul, zero_add]
  have key : ∀ Q, R.J Q h → (other = .jac Q ∨ ∃ A, other = .aff A ∧ Q = pjFromAffine A) →
      ∃ X, pjMulAddWith preP preQ P sm other om = .ok X ∧ R.T X (sm • g + om • h) := by
    intro Q hQ hQo
    obtain ⟨tP, etP, mP⟩ := eP
    obtain ⟨tQ, etQ, mQ⟩ := eQ Q hQ hQo
    rw [pjMulAddWith_eq_tail hQo (by simpa using c1) (by simpa using c2), etP, etQ]
    exact R.mulAddTail_correct hP hQ ho mP mQ sm om
  cases other with
  | infinity => simp [ptIsInf] at c1
  | jac Q => exact key Q (R.jac.mp hO) (Or.inl rfl)
  | aff A => exact key _ (R.aff hO) (Or.inr ⟨A, rfl, rfl⟩)

end Jac
