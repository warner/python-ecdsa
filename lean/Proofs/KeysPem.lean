import Proofs.KeysDerRT
/-!
# Proofs.KeysPem — PEM armour: `unpem (topem der name) = der`, PEM round trips, the PEM loaders' errors, and the
model of CPython's base64 decoder
-/
namespace KeysP
open Keys

/-- a byte that is neither a newline, nor a dash, nor ASCII whitespace: everything from `+` on except `-` -/
def Clean (b : UInt8) : Prop := 43 ≤ b.toNat ∧ b.toNat ≠ 45

theorem b64_alphabet : ∀ i : Fin 64,
    b64Val (b64Char i.val) = some i.val ∧ (b64Char i.val).toNat ≠ 61 ∧ Clean (b64Char i.val) := by
  unfold Clean; decide

theorem b64Char_clean (i : Nat) : Clean (b64Char i) := by
  by_cases h : i < 64
  · exact (b64_alphabet ⟨i, h⟩).2.2
  · unfold b64Char
    rw [if_neg (by omega), if_neg (by omega), if_neg (by omega), if_neg (by omega)]
    exact ⟨by decide, by decide⟩

theorem b64encode_clean (s : Bytes) : ∀ b ∈ b64encode s, Clean b := by
  have pad : Clean 61 := ⟨by decide, by decide⟩
  induction s using b64encode.induct with
  | case1 => exact nofun
  | case2 a =>
    rw [b64encode]; simp only [List.forall_mem_cons]
    exact ⟨b64Char_clean _, b64Char_clean _, pad, pad, nofun⟩
  | case3 a b' =>
    rw [b64encode]; simp only [List.forall_mem_cons]
    exact ⟨b64Char_clean _, b64Char_clean _, b64Char_clean _, pad, nofun⟩
  | case4 a b' c rest ih =>
    rw [b64encode]; simp only [List.forall_mem_cons]
    exact ⟨b64Char_clean _, b64Char_clean _, b64Char_clean _, b64Char_clean _, ih⟩

theorem clean_ne10 {b : UInt8} (h : Clean b) : b ≠ 10 := by
  rintro rfl; exact absurd h.1 (by decide)
theorem clean_ne45 {b : UInt8} (h : Clean b) : b ≠ 45 := by
  rintro rfl; exact h.2 rfl
theorem clean_notWs {b : UInt8} (h : Clean b) : isWs b = false := by
  have h43 := h.1
  have ne : ∀ c : UInt8, c.toNat < 43 → b ≠ c := by
    rintro c hc rfl
    omega
  unfold isWs
  simp only [ne 32 (by decide), ne 9 (by decide), ne 10 (by decide), ne 13 (by decide), ne 11 (by decide), ne 12 (by decide),
    or_self, decide_false]

theorem splitNl_ne_nil (s : Bytes) : splitNl s ≠ [] := by
  induction s with
  | nil => simp [splitNl]
  | cons b t ih =>
    unfold splitNl
    split
    · simp
    · split <;> simp

theorem splitNl_line (l rest : Bytes) (h : ∀ b ∈ l, b ≠ 10) : splitNl (l ++ 10 :: rest) = l :: splitNl rest := by
  induction l with
  | nil => simp [splitNl]
  | cons b t ih =>
    have hb : b ≠ 10 := h b (by simp)
    have := ih (fun x hx => h x (by simp [hx]))
    simp only [List.cons_append]
    rw [splitNl, if_neg hb, this]

/-- the lines `unpem` keeps, stripped and joined -/
def payloadOf (ls : List Bytes) : Bytes :=
  ((ls.filter fun l => l ≠ [] ∧ ¬ dashes.isPrefixOf l).map strip).flatten

theorem pemPayload_eq (pem : Bytes) : pemPayload pem = payloadOf (splitNl pem) := rfl

theorem payloadOf_keep (l : Bytes) (ls : List Bytes) (h1 : l ≠ []) (h2 : dashes.isPrefixOf l = false) :
    payloadOf (l :: ls) = strip l ++ payloadOf ls := by
  have h2' : ¬ dashes <+: l := by
    intro hp; rw [← List.isPrefixOf_iff_prefix] at hp; rw [hp] at h2; cases h2
  simp [payloadOf, h1, h2']

theorem payloadOf_dashes (t : Bytes) (ls : List Bytes) : payloadOf ((dashes ++ t) :: ls) = payloadOf ls := by
  simp [payloadOf]

theorem payloadOf_empty (ls : List Bytes) : payloadOf ([] :: ls) = payloadOf ls := by
  simp [payloadOf]

theorem dropWhile_head (p : UInt8 → Bool) (b : UInt8) (t : Bytes) (h : p b = false) : (b :: t).dropWhile p = b :: t := by
  simp [List.dropWhile, h]

theorem strip_clean (l : Bytes) (h : ∀ b ∈ l, Clean b) : strip l = l := by
  unfold strip
  cases l with
  | nil => rfl
  | cons b t =>
    rw [dropWhile_head _ b t (clean_notWs (h b (by simp)))]
    cases hr : (b :: t).reverse with
    | nil => simp at hr
    | cons c u =>
      have hc : c ∈ b :: t := by
        have : c ∈ (b :: t).reverse := by rw [hr]; simp
        exact List.mem_reverse.mp this
      rw [dropWhile_head _ c u (clean_notWs (h c hc)), ← hr, List.reverse_reverse]

theorem payloadOf_chunk64 (s tail : Bytes) (h : ∀ b ∈ s, Clean b) :
    payloadOf (splitNl (chunk64 s ++ tail)) = s ++ payloadOf (splitNl tail) := by
  induction s using chunk64.induct with
  | case1 => rw [chunk64]; simp
  | case2 s hne ih =>
    rw [chunk64, if_neg hne]
    have htake : ∀ b ∈ s.take 64, Clean b := fun b hb => h b (List.mem_of_mem_take hb)
    have hdrop : ∀ b ∈ s.drop 64, Clean b := fun b hb => h b (List.mem_of_mem_drop hb)
    have e : s.take 64 ++ [10] ++ chunk64 (s.drop 64) ++ tail = s.take 64 ++ 10 :: (chunk64 (s.drop 64) ++ tail) := by simp
    rw [e, splitNl_line _ _ (fun b hb => clean_ne10 (htake b hb))]
    have hne' : s.take 64 ≠ [] := by
      cases s with
      | nil => exact absurd rfl hne
      | cons a t => simp
    have hd : dashes.isPrefixOf (s.take 64) = false := by
      cases hs : s.take 64 with
      | nil => exact absurd hs hne'
      | cons a t =>
        have : a ≠ 45 := clean_ne45 (htake a (by rw [hs]; simp))
        simp [dashes, List.isPrefixOf]
        intro h45; exact absurd h45.symm this
    rw [payloadOf_keep _ _ hne' hd, strip_clean _ htake, ih hdrop, ← List.append_assoc, List.take_append_drop]

theorem pemTail_eq : pemTail = dashes ++ [10] := rfl

theorem pemPayload_topem (der name : Bytes) (hname : ∀ b ∈ name, b ≠ 10) :
    pemPayload (topem der name) = b64encode der := by
  rw [pemPayload_eq]
  have e : topem der name =
      (dashes ++ (pemBegin.drop 5 ++ name ++ dashes)) ++ 10 ::
        (chunk64 (b64encode der) ++ ((dashes ++ (pemEnd.drop 5 ++ name ++ dashes)) ++ 10 :: [])) := by
    simp [topem, pemBegin, pemEnd, pemTail_eq, dashes]
  have h10 : ∀ t : Bytes, (∀ b ∈ t, b ≠ 10) → ∀ b ∈ dashes ++ (t ++ name ++ dashes), b ≠ 10 := by
    intro t ht b hb
    simp only [List.mem_append] at hb
    rcases hb with hb | (hb | hb) | hb
    · simp [dashes] at hb; subst hb; decide
    · exact ht b hb
    · exact hname b hb
    · simp [dashes] at hb; subst hb; decide
  rw [e, splitNl_line _ _ (h10 (pemBegin.drop 5) (by decide)), payloadOf_dashes,
    payloadOf_chunk64 _ _ (b64encode_clean der),
    splitNl_line _ _ (h10 (pemEnd.drop 5) (by decide)), payloadOf_dashes]
  simp [splitNl, payloadOf]

theorem unpem_topem (E : Ext) (der name : Bytes) (hname : ∀ b ∈ name, b ≠ 10)
    (hb64 : E.b64decode (b64encode der) = some der) : unpem E (topem der name) = .ok der := by
  unfold unpem
  rw [pemPayload_topem der name hname, hb64]

theorem unpem_err (E : Ext) (pem : Bytes) (e : PyErr) (h : unpem E pem = .error e) : e = .unexpectedDER := by
  unfold unpem at h
  split at h
  · cases h
  · injection h with h; exact h.symm

theorem isPrefixOf_append_self (sub t : Bytes) : sub.isPrefixOf (sub ++ t) = true := by
  induction sub with
  | nil => simp [List.isPrefixOf]
  | cons a l ih => simp [ih]

theorem dropToSub_prefix (a : UInt8) (sub t : Bytes) :
    dropToSub (a :: sub) ((a :: sub) ++ t) = some ((a :: sub) ++ t) := by
  have := isPrefixOf_append_self (a :: sub) t
  simp only [List.cons_append] at this ⊢
  rw [dropToSub, if_pos this]

theorem dropToSub_skip (sub body t : Bytes) (h : ∀ b ∈ body, b ≠ 45) :
    dropToSub (45 :: sub) (body ++ t) = dropToSub (45 :: sub) t := by
  induction body with
  | nil => rfl
  | cons b r ih =>
    have hb : b ≠ 45 := h b (by simp)
    simp only [List.cons_append]
    rw [dropToSub]
    have : (45 :: sub).isPrefixOf (b :: (r ++ t)) = false := by
      simp [List.isPrefixOf]; intro h45; exact absurd h45.symm hb
    rw [if_neg (by rw [this]; simp)]
    exact ih (fun x hx => h x (by simp [hx]))

theorem chunk64_no_dash (s : Bytes) (h : ∀ b ∈ s, Clean b) : ∀ b ∈ chunk64 s, b ≠ 45 := by
  induction s using chunk64.induct with
  | case1 => rw [chunk64]; simp
  | case2 s hne ih =>
    rw [chunk64, if_neg hne]
    intro b hb
    simp only [List.mem_append, List.mem_singleton] at hb
    rcases hb with (hb | hb) | hb
    · exact clean_ne45 (h b (List.mem_of_mem_take hb))
    · subst hb; decide
    · exact ih (fun x hx => h x (List.mem_of_mem_drop hx)) b hb

/-- in a `PRIVATE KEY` PEM the `EC PRIVATE KEY` header does not occur: not in the first line (evaluation), not in the
dash-free body, not in the last line (evaluation) -/
theorem dropToSub_ec_in_p8 (der : Bytes) :
    dropToSub (pemBegin ++ pemNameEcPrivate ++ dashes) (topem der pemNamePrivate) = none := by
  have e : topem der pemNamePrivate =
      (pemBegin ++ pemNamePrivate ++ pemTail) ++ (chunk64 (b64encode der) ++ (pemEnd ++ pemNamePrivate ++ pemTail)) := by
    simp [topem]
  have hB : ∀ t : Bytes, dropToSub (pemBegin ++ pemNameEcPrivate ++ dashes) ((pemBegin ++ pemNamePrivate ++ pemTail) ++ t)
      = dropToSub (pemBegin ++ pemNameEcPrivate ++ dashes) t := fun _ => rfl
  have hF : dropToSub (pemBegin ++ pemNameEcPrivate ++ dashes) (pemEnd ++ pemNamePrivate ++ pemTail) = none := by decide
  rw [e, hB]
  exact (dropToSub_skip _ _ _ (chunk64_no_dash _ (b64encode_clean der))).trans hF

theorem dropToSub_own_header (der name : Bytes) :
    dropToSub (pemBegin ++ name ++ dashes) (topem der name) = some (topem der name) := by
  have e : topem der name = (pemBegin ++ name ++ dashes) ++ ([10] ++ chunk64 (b64encode der) ++ pemEnd ++ name ++ pemTail) := by
    simp [topem, pemTail_eq]
  rw [e]
  exact dropToSub_prefix 45 _ _

theorem vk_fromPem_toPem (E : Ext) (k : VK) (enc : PointEnc) (bs : Bytes) (hder : k.toDer enc = .ok bs)
    (hrt : VK.fromDer E bs = .ok k) (hb64 : E.b64decode (b64encode bs) = some bs) :
    ∃ pem, k.toPem enc = .ok pem ∧ VK.fromPem E pem = .ok k := by
  refine ⟨topem bs pemNamePublic, by unfold VK.toPem; rw [hder]; rfl, ?_⟩
  unfold VK.fromPem
  rw [unpem_topem E bs pemNamePublic (by decide) hb64]
  exact hrt

theorem sk_fromPem_toPem (E : Ext) (k : SK) (enc : PointEnc) (fmt : PrivFmt) (bs : Bytes) (hder : k.toDer enc fmt = .ok bs)
    (hrt : SK.fromDer E bs = .ok k) (hb64 : E.b64decode (b64encode bs) = some bs) :
    ∃ pem, k.toPem enc fmt = .ok pem ∧ SK.fromPem E pem = .ok k := by
  cases fmt
  · refine ⟨topem bs pemNameEcPrivate, by unfold SK.toPem; rw [hder]; rfl, ?_⟩
    unfold SK.fromPem
    simp only [dropToSub_own_header bs pemNameEcPrivate]
    rw [unpem_topem E bs pemNameEcPrivate (by decide) hb64]
    exact hrt
  · refine ⟨topem bs pemNamePrivate, by unfold SK.toPem; rw [hder]; rfl, ?_⟩
    unfold SK.fromPem
    simp only [dropToSub_ec_in_p8 bs, dropToSub_own_header bs pemNamePrivate]
    rw [unpem_topem E bs pemNamePrivate (by decide) hb64]
    exact hrt

theorem vk_fromPem_cases (E : Ext) (pem : Bytes) :
    VK.fromPem E pem = .error .unexpectedDER ∨ ∃ d, VK.fromPem E pem = VK.fromDer E d := by
  unfold VK.fromPem
  cases h : unpem E pem with
  | error e => rw [unpem_err E pem e h]; exact .inl rfl
  | ok d => exact .inr ⟨d, rfl⟩

theorem sk_fromPem_cases (E : Ext) (pem : Bytes) :
    SK.fromPem E pem = .error .unexpectedDER ∨ ∃ d, SK.fromPem E pem = SK.fromDer E d := by
  unfold SK.fromPem
  dsimp only
  split
  · exact .inl rfl
  · rename_i s _
    cases h : unpem E s with
    | error e => rw [unpem_err E s e h]; exact .inl rfl
    | ok d => exact .inr ⟨d, rfl⟩

theorem vk_fromPem_err (E : Ext) (hsq : ∀ c ∈ Gen.curveTable, SqrtSpec E.sqrtModP c.p) (pem : Bytes) (e : PyErr)
    (h : VK.fromPem E pem = .error e) : Documented e := by
  rcases vk_fromPem_cases E pem with h' | ⟨d, h'⟩
  · exact .inl (Except.error.inj (h.symm.trans h'))
  · exact vk_fromDer_err E hsq d e (h'.symm.trans h)

theorem sk_fromPem_err (E : Ext) (pem : Bytes) (e : PyErr) (h : SK.fromPem E pem = .error e) : Documented e := by
  rcases sk_fromPem_cases E pem with h' | ⟨d, h'⟩
  · exact .inl (Except.error.inj (h.symm.trans h'))
  · exact sk_fromDer_err E d e (h'.symm.trans h)

theorem vk_fromPem_curve_mem (E : Ext) (pem : Bytes) (k : VK) (h : VK.fromPem E pem = .ok k) : k.curve ∈ Gen.curveTable := by
  rcases vk_fromPem_cases E pem with h' | ⟨d, h'⟩
  · cases h.symm.trans h'
  · exact vk_fromDer_curve_mem E d k (h'.symm.trans h)

theorem sk_fromPem_curve_mem (E : Ext) (pem : Bytes) (k : SK) (h : SK.fromPem E pem = .ok k) : k.curve ∈ Gen.curveTable := by
  rcases sk_fromPem_cases E pem with h' | ⟨d, h'⟩
  · cases h.symm.trans h'
  · exact sk_fromDer_curve_mem E d k (h'.symm.trans h)

/-! ## the model of CPython's lenient base64 decoder inverts the exact encoder

So the PEM round trips hold for the driver's `Ext` without a base64 hypothesis.  For the real `base64` module the equation
remains the assumed contract of an external function; the correspondence run compares the model decoder with the real one. -/

theorem a2b_char (i : Nat) (hi : i < 64) (rest : Bytes) (q l p : Nat) (acc : Bytes) :
    a2bLoop (b64Char i :: rest) q l p acc =
      match q with
      | 0 => a2bLoop rest 1 i 0 acc
      | 1 => a2bLoop rest 2 (i % 16) 0 (UInt8.ofNat (l * 4 + i / 16) :: acc)
      | 2 => a2bLoop rest 3 (i % 4) 0 (UInt8.ofNat (l * 16 + i / 4) :: acc)
      | _ => a2bLoop rest 0 0 0 (UInt8.ofNat (l * 64 + i) :: acc) := by
  obtain ⟨hv, hn, _⟩ := b64_alphabet ⟨i, hi⟩
  rw [a2bLoop, if_neg (fun h => hn (congrArg UInt8.toNat h)), hv]
  rfl

/-- three bytes cut into four 6-bit digits and put together again -/
theorem sextets_recombine (a b c : Nat) (ha : a < 256) (hb : b < 256) (hc : c < 256) :
    (a / 4 < 64 ∧ a % 4 * 16 + b / 16 < 64 ∧ b % 16 * 4 + c / 64 < 64 ∧ c % 64 < 64) ∧
    a / 4 * 4 + (a % 4 * 16 + b / 16) / 16 = a ∧
    (a % 4 * 16 + b / 16) % 16 * 16 + (b % 16 * 4 + c / 64) / 4 = b ∧
    (b % 16 * 4 + c / 64) % 4 * 64 + c % 64 = c := by
  omega

theorem a2b_group (a b c : UInt8) (rest : Bytes) (l p : Nat) (acc : Bytes) :
    a2bLoop (b64Char (a.toNat / 4) :: b64Char (a.toNat % 4 * 16 + b.toNat / 16) :: rest) 0 l p acc
      = a2bLoop rest 2 ((a.toNat % 4 * 16 + b.toNat / 16) % 16) 0 (a :: acc) ∧
    a2bLoop (b64Char (b.toNat % 16 * 4 + c.toNat / 64) :: rest) 2 ((a.toNat % 4 * 16 + b.toNat / 16) % 16) 0 (a :: acc)
      = a2bLoop rest 3 ((b.toNat % 16 * 4 + c.toNat / 64) % 4) 0 (b :: a :: acc) ∧
    a2bLoop (b64Char (c.toNat % 64) :: rest) 3 ((b.toNat % 16 * 4 + c.toNat / 64) % 4) 0 (b :: a :: acc)
      = a2bLoop rest 0 0 0 (c :: b :: a :: acc) := by
  obtain ⟨⟨i0, i1, i2, i3⟩, e1, e2, e3⟩ := sextets_recombine a.toNat b.toNat c.toNat a.toNat_lt b.toNat_lt c.toNat_lt
  refine ⟨?_, ?_, ?_⟩
  · rw [a2b_char _ i0]; simp only
    rw [a2b_char _ i1]; simp only
    rw [e1, UInt8.ofNat_toNat]
  · rw [a2b_char _ i2]; simp only
    rw [e2, UInt8.ofNat_toNat]
  · rw [a2b_char _ i3]; simp only
    rw [e3, UInt8.ofNat_toNat]

/-- the last, partial group is a full one whose missing bytes are zero, cut after two or three characters -/
theorem a2b_encode (s : Bytes) (l p : Nat) (acc : Bytes) :
    a2bLoop (b64encode s) 0 l p acc = some (acc.reverse ++ s) := by
  induction s using b64encode.induct generalizing l p acc with
  | case1 => simp [b64encode, a2bLoop]
  | case2 a =>
    rw [b64encode]
    refine (a2b_group a 0 0 _ l p acc).1.trans ?_
    simp [a2bLoop]
  | case3 a b =>
    rw [b64encode, (a2b_group a b 0 _ l p acc).1]
    refine (a2b_group a b 0 _ l p acc).2.1.trans ?_
    simp [a2bLoop]
  | case4 a b c rest ih =>
    rw [b64encode, (a2b_group a b c _ l p acc).1, (a2b_group a b c _ l p acc).2.1, (a2b_group a b c _ l p acc).2.2, ih]
    simp

end KeysP
