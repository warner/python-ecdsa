import Proofs.Asn1
import Proofs.KeysString
import Proofs.DerBits
import Proofs.DerOid
import Proofs.DerInt
/-!
# Proofs.KeysDer — `to_der` writes the canonical DER of the RFC structures (byte equality with the spec encoder of
`Proofs/Asn1.lean`): the model's encoders write, node by node, what the spec encoder writes, as long as a content is
shorter than `256 ^ 127` bytes (beyond that `encode_length` cannot announce its own size in one byte)
-/
namespace KeysP
open Keys Asn1Spec

/-- `65536` in the statements of `Props/C09.lean` and in `table_sizes` is a round bound under which length octets take at
most three bytes (`lenOctets_length_le`); the lemmas here and on the loaders in `Proofs/KeysDerRT.lean` need only
`256 ^ 127`, the domain of `encode_length` -/
theorem lt_pow127_of_lt_65536 (n : Nat) (h : n < 65536) : n < 256 ^ 127 :=
  Nat.lt_of_lt_of_le h (by decide)

theorem encodeLength_eq_lenOctets (l : Nat) (h : l < 256 ^ 127) : Der.encodeLength l = lenOctets l := by
  unfold Der.encodeLength lenOctets
  by_cases hs : l < 128
  · rw [if_pos (by omega), if_pos hs]
  · rw [if_neg (by omega), if_neg hs]
    simp only
    rw [Der.hexBytes_pos l (by omega)]
    rw [Der.or80_eq _ (Nat.lt_of_le_of_lt (Der.beMin_length_le l 127 h) (by decide))]

theorem encList_cons (a : Asn1) (rest : List Asn1) : Asn1.encList (a :: rest) = a.enc ++ Asn1.encList rest := rfl

/-- `encode_sequence` sees only the concatenation of its pieces -/
theorem encodeSequence_enc (items : List Asn1) (ps : List Bytes) (hps : ps.flatten = Asn1.encList items)
    (h : (Asn1.encList items).length < 256 ^ 127) : Der.encodeSequence ps = (Asn1.seq items).enc := by
  unfold Der.encodeSequence
  simp only
  rw [hps, encodeLength_eq_lenOctets _ h]
  rfl

theorem enc_octets (s : Bytes) (h : s.length < 256 ^ 127) : (Asn1.octets s).enc = Der.encodeOctetString s := by
  unfold Der.encodeOctetString
  rw [encodeLength_eq_lenOctets _ h]
  rfl

theorem enc_ctx (n : Nat) (t : Asn1) (h : t.enc.length < 256 ^ 127) :
    (Asn1.ctx n t).enc = Der.encodeConstructed n t.enc := by
  unfold Der.encodeConstructed
  rw [encodeLength_eq_lenOctets _ h]
  rfl

theorem enc_bits (s : Bytes) (h : s.length + 1 < 256 ^ 127) : (Asn1.bits 0 s).enc = Der.encodeBits s 0 := by
  unfold Der.encodeBits
  rw [encodeLength_eq_lenOctets _ h]
  simp [Asn1.enc, tlv]

theorem encodeBitstring_zero (s : Bytes) (h : s.length + 1 < 256 ^ 127) :
    Der.encodeBitstring s (.some 0) = .ok (Der.encodeBits s 0) :=
  Der.encodeBitstring_some_eq s 0 (by omega) (by simp [Der.bitsPadOK]) h

theorem intContent_eq_intBody (v : Nat) : intContent v = Der.intBody v := by
  unfold intContent Der.intBody Der.hexBytes
  by_cases h0 : v = 0
  · subst h0; rw [Der.beMin_zero]; rfl
  · rw [if_neg h0]
    cases hb : beMin v with
    | nil => exact absurd hb (Der.beMin_ne_nil v (Nat.pos_of_ne_zero h0))
    | cons b t =>
      simp only
      by_cases hle : b ≤ 0x7f
      · rw [if_pos hle, if_neg (by rw [UInt8.le_iff_toNat_le] at hle; exact Nat.not_le.mpr (Nat.lt_succ_of_le hle))]
      · rw [if_neg hle, if_pos (by rw [UInt8.le_iff_toNat_le] at hle; exact Nat.lt_of_not_le hle)]

theorem enc_int (v : Nat) (h : (Der.intBody v).length < 256 ^ 127) : (Asn1.int v).enc = Der.encodeInteger v := by
  unfold Der.encodeInteger
  rw [encodeLength_eq_lenOctets _ h, ← intContent_eq_intBody]
  rfl

theorem intBody_one_lt : (Der.intBody 1).length < 256 ^ 127 := Der.intBody_length_lt 1 (by decide)

theorem tlv_length (t : UInt8) (c : Bytes) : (tlv t c).length = 1 + (lenOctets c.length).length + c.length := by
  simp [tlv]; omega

theorem le_tlv (t : UInt8) (c : Bytes) : c.length ≤ (tlv t c).length := by
  rw [tlv_length]; omega

theorem lt_of_seq {items : List Asn1} {B : Nat} (h : (Asn1.seq items).enc.length < B) : (Asn1.encList items).length < B :=
  Nat.lt_of_le_of_lt (le_tlv _ _) h

theorem lt_of_octets {s : Bytes} {B : Nat} (h : (Asn1.octets s).enc.length < B) : s.length < B :=
  Nat.lt_of_le_of_lt (le_tlv _ _) h

theorem lt_of_ctx {n : Nat} {t : Asn1} {B : Nat} (h : (Asn1.ctx n t).enc.length < B) : t.enc.length < B :=
  Nat.lt_of_le_of_lt (le_tlv _ _) h

theorem lt_of_bits {u : Nat} {s : Bytes} {B : Nat} (h : (Asn1.bits u s).enc.length < B) : s.length + 1 < B :=
  Nat.lt_of_le_of_lt (le_tlv _ (UInt8.ofNat u :: s)) h

theorem lt_of_cons {a : Asn1} {rest : List Asn1} {B : Nat} (h : (Asn1.encList (a :: rest)).length < B) :
    a.enc.length < B ∧ (Asn1.encList rest).length < B := by
  rw [encList_cons, List.length_append] at h
  omega

theorem lenOctets_length_le (n : Nat) (h : n < 65536) : (lenOctets n).length ≤ 3 := by
  unfold lenOctets
  split
  · simp
  · have := Der.beMin_length_le n 2 (by omega)
    simp; omega

theorem tlv_le (t : UInt8) (c : Bytes) (n : Nat) (h : c.length ≤ n) (hn : n < 65536) : (tlv t c).length ≤ n + 4 := by
  have := lenOctets_length_le c.length (by omega)
  rw [tlv_length]; omega

theorem table_encodedOid : ∀ c ∈ Gen.curveTable, Curve.encodedOid c = Except.ok (Asn1.enc (.oid c.oid)) := by
  decide +kernel

theorem table_oids_nodup : (Gen.curveTable.map (·.oid)).Nodup := by decide +kernel

theorem find?_key_of_nodup {α κ : Type} [DecidableEq κ] (f : α → κ) :
    ∀ (l : List α), (l.map f).Nodup → ∀ c ∈ l, l.find? (fun x => f x = f c) = some c
  | [], _, _, h => nomatch h
  | a :: l, hnd, c, hc => by
    rw [List.map_cons, List.nodup_cons] at hnd
    rcases List.mem_cons.mp hc with rfl | hcl
    · rw [List.find?_cons_of_pos (by simp)]
    · have hne : f a ≠ f c := fun h => hnd.1 (h ▸ List.mem_map_of_mem hcl)
      rw [List.find?_cons_of_neg (by simpa using hne)]
      exact find?_key_of_nodup f l hnd.2 c hcl

theorem table_findCurve (c : Curve) (hc : c ∈ Gen.curveTable) : findCurve c.oid = .ok c := by
  unfold findCurve findCurveIn
  rw [find?_key_of_nodup (·.oid) _ table_oids_nodup c hc]

theorem table_oid_length : ∀ c ∈ Gen.curveTable, (Asn1.enc (.oid c.oid)).length ≤ 16 := by decide +kernel

theorem table_sanity : ∀ c ∈ Gen.curveTable, c.p % 2 = 1 ∧ c.n ≠ 0 ∧ c.gx < c.p ∧ c.gy < c.p ∧ 0 < c.h ∧ 1 < c.n := by
  decide +kernel

theorem table_p_pos (c : Curve) (hc : c ∈ Gen.curveTable) : 0 < c.p := by
  have := (table_sanity c hc).1
  omega

/-- the coordinate length is never 1, so the compressed form is never shadowed by the raw form -/
theorem table_orderlen : ∀ c ∈ Gen.curveTable,
    Util.orderlen c.p ≠ 1 ∧ Util.orderlen c.p ≤ 66 ∧ Util.orderlen c.n ≤ 66 := by decide +kernel

theorem table_orderlen_le (c : Curve) (hc : c ∈ Gen.curveTable) : Util.orderlen c.p ≤ 66 ∧ Util.orderlen c.n ≤ 66 :=
  (table_orderlen c hc).2

theorem oid_ecPublicKey_spec : Gen.oid_ecPublicKey = id_ecPublicKey := by decide
theorem encoded_oid_ecPublicKey_spec : Gen.encoded_oid_ecPublicKey = Asn1.enc (.oid id_ecPublicKey) := by decide +kernel
theorem encodeOid_ecPublicKey_spec : encodeOidList Gen.oid_ecPublicKey = .ok (Asn1.enc (.oid id_ecPublicKey)) := by
  decide +kernel
theorem idPk_length : (Asn1.enc (.oid id_ecPublicKey)).length = 9 := by decide +kernel
theorem int_one_length : (Asn1.enc (.int 1)).length = 3 := by decide +kernel

theorem encBytes_length_le (k : VK) (enc : PointEnc) (hl : Util.orderlen k.curve.p ≤ 66) :
    (encBytes k enc).length ≤ 133 := by
  have := encBytes_length k enc
  cases enc <;> simp only at this <;> omega

/-- each bound is the sum of the bounds of the parts, plus 4 for tag and length octets (`tlv_le`) -/
theorem table_sizes (c : Curve) (hc : c ∈ Gen.curveTable) (d pt : Bytes) (hd : d.length ≤ 66) (hpt : pt.length ≤ 133) :
    (spki c.oid pt).enc.length ≤ 171 ∧ (ecPrivateKey d c.oid pt).enc.length ≤ 239 ∧
      (oneAsymmetricKey d c.oid pt).enc.length ≤ 279 := by
  have ho := table_oid_length _ hc
  have hpk := idPk_length
  have hi := int_one_length
  have hbits : (Asn1.bits 0 pt).enc.length ≤ 138 := tlv_le _ _ 134 (by simp only [List.length_cons]; omega) (by decide)
  have halg : (Asn1.seq [.oid id_ecPublicKey, .oid c.oid]).enc.length ≤ 29 :=
    tlv_le _ _ 25 (by simp only [Asn1.encList, List.length_append, List.length_nil]; omega) (by decide)
  have hoct : (Asn1.octets d).enc.length ≤ 70 := tlv_le _ _ 66 hd (by decide)
  have hc0 : (Asn1.ctx 0 (.oid c.oid)).enc.length ≤ 20 := tlv_le _ _ 16 ho (by decide)
  have hc1 : (Asn1.ctx 1 (.bits 0 pt)).enc.length ≤ 142 := tlv_le _ _ 138 hbits (by decide)
  have hec : (ecPrivateKey d c.oid pt).enc.length ≤ 239 :=
    tlv_le _ _ 235 (by simp only [Asn1.encList, List.length_append, List.length_nil]; omega) (by decide)
  have hwrap : (Asn1.octets (ecPrivateKey d c.oid pt).enc).enc.length ≤ 243 := tlv_le _ _ 239 hec (by decide)
  exact ⟨tlv_le _ _ 167 (by simp only [Asn1.encList, List.length_append, List.length_nil]; omega) (by decide), hec,
    tlv_le _ _ 275 (by simp only [Asn1.encList, List.length_append, List.length_nil]; omega) (by decide)⟩

theorem vk_toDer_spki (k : VK) (hc : k.curve ∈ Gen.curveTable) (hx : k.x < k.curve.p) (hy : k.y < k.curve.p)
    (enc : PointEnc) (henc : enc ≠ .raw) :
    k.toDer enc = .ok (spki k.curve.oid (encBytes k enc)).enc := by
  have hsize := (table_sizes k.curve hc [] _ (Nat.zero_le _) (encBytes_length_le k enc (table_orderlen_le _ hc).1)).1
  have h : (spki k.curve.oid (encBytes k enc)).enc.length < 256 ^ 127 := lt_pow127_of_lt_65536 _ (by omega)
  have h1 := lt_of_seq h
  obtain ⟨h2, h3⟩ := lt_of_cons h1
  have hpt := lt_of_bits (lt_of_cons h3).1
  unfold VK.toDer
  rw [if_neg henc, toString_eq k hx hy enc, table_encodedOid _ hc]
  simp only [bind, Except.bind]
  rw [encodeBitstring_zero _ hpt]
  simp only
  rw [encoded_oid_ecPublicKey_spec]
  refine congrArg Except.ok (encodeSequence_enc [.seq [.oid id_ecPublicKey, .oid k.curve.oid], .bits 0 (encBytes k enc)] _ ?_ h1)
  rw [encodeSequence_enc [.oid id_ecPublicKey, .oid k.curve.oid] _ rfl (lt_of_seq h2), ← enc_bits _ hpt]
  rfl

theorem sk_ecPrivateKeyDer_spec (k : SK) (hc : k.curve ∈ Gen.curveTable) (hd : k.d < k.curve.n)
    (hvc : k.vk.curve = k.curve) (hx : k.vk.x < k.curve.p) (hy : k.vk.y < k.curve.p) (enc : PointEnc)
    (h : (ecPrivateKey (beFixed (Util.orderlen k.curve.n) k.d) k.curve.oid (encBytes k.vk enc)).enc.length < 256 ^ 127) :
    k.ecPrivateKeyDer enc =
      .ok (ecPrivateKey (beFixed (Util.orderlen k.curve.n) k.d) k.curve.oid (encBytes k.vk enc)).enc := by
  have hbody := lt_of_seq h
  obtain ⟨_, t1⟩ := lt_of_cons hbody
  obtain ⟨hoct, t2⟩ := lt_of_cons t1
  obtain ⟨hc0, t3⟩ := lt_of_cons t2
  have hc1 := (lt_of_cons t3).1
  have hpt := lt_of_bits (lt_of_ctx hc1)
  unfold SK.ecPrivateKeyDer
  rw [toString_eq k.vk (hvc ▸ hx) (hvc ▸ hy) enc, sk_toString_eq k hd, table_encodedOid _ hc]
  simp only [bind, Except.bind]
  rw [encodeBitstring_zero _ hpt]
  simp only
  rw [← enc_int 1 intBody_one_lt, ← enc_octets _ (lt_of_octets hoct), ← enc_bits _ hpt,
    ← enc_ctx 0 (.oid k.curve.oid) (lt_of_ctx hc0), ← enc_ctx 1 (.bits 0 (encBytes k.vk enc)) (lt_of_ctx hc1),
    encodeSequence_enc [.int 1, .octets (beFixed (Util.orderlen k.curve.n) k.d), .ctx 0 (.oid k.curve.oid),
      .ctx 1 (.bits 0 (encBytes k.vk enc))] _ rfl hbody]
  rfl

theorem sk_sizes (k : SK) (hc : k.curve ∈ Gen.curveTable) (hvc : k.vk.curve = k.curve) (enc : PointEnc) :
    (ecPrivateKey (beFixed (Util.orderlen k.curve.n) k.d) k.curve.oid (encBytes k.vk enc)).enc.length ≤ 239 ∧
      (oneAsymmetricKey (beFixed (Util.orderlen k.curve.n) k.d) k.curve.oid (encBytes k.vk enc)).enc.length ≤ 279 :=
  (table_sizes k.curve hc _ _ (by rw [beFixed_length]; exact (table_orderlen_le _ hc).2)
    (encBytes_length_le k.vk enc (by rw [hvc]; exact (table_orderlen_le _ hc).1))).2

end KeysP
