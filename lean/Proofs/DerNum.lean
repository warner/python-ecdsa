import Proofs.DerDigits
/-!
# Proofs.DerNum — base-128 sub-identifiers (`encode_number` / `read_number`): big-endian base-128 digit
strings with a continuation bit on all but the last byte and no leading `0x80` are in bijection with ℕ.
Both the encoder and the reader are characterised by such strings `pre ++ [d]`; the round trips follow.
-/
namespace Der

theorem u8_or80_digit {k : Nat} (h : k < 128) :
    UInt8.ofNat (0x80 ||| k) &&& 0x7f = UInt8.ofNat k ∧ (k ≠ 0 → UInt8.ofNat (0x80 ||| k) ≠ 0x80) := by
  refine ⟨UInt8.toNat_inj.mp (by rw [(u8_or80 h).2, u8_ofNat_toNat k (by omega)]), fun hk hc => ?_⟩
  have := congrArg UInt8.toNat hc
  rw [or80_eq k h, u8_ofNat_toNat _ (by omega)] at this
  exact hk (Nat.add_left_cancel this)

/-- a padded digit string starts with `0x80`: any other first byte with the continuation bit is a non-zero digit -/
theorem u8_low_ne_zero {b : UInt8} (h : b &&& 0x80 ≠ 0) (hb : b ≠ 0x80) : (b &&& 0x7f).toNat ≠ 0 := by
  intro h0
  have hlt := UInt8.toNat_lt b
  have hge : ¬ b.toNat < 128 := mt (u8_top b).mpr h
  rw [u8_low7] at h0
  exact hb (UInt8.toNat_inj.mp (show b.toNat = 128 by omega))

theorem shl7 (a : Nat) : a <<< 7 = a * 128 := Nat.shiftLeft_eq a 7
theorem shr7 (a : Nat) : a >>> 7 = a / 128 := Nat.shiftRight_eq_div_pow a 7
theorem and7f (a : Nat) : a &&& 0x7F = a % 128 := Nat.and_two_pow_sub_one_eq_mod a 7

/-- the accumulator of `read_number` after the bytes `s`, starting from `acc` -/
def b128Fold (acc : Nat) (s : Bytes) : Nat := s.foldl (fun a d => a * 128 + (d &&& 0x7F).toNat) acc

def b128Val (s : Bytes) : Nat := b128Fold 0 s

def AllCont (s : Bytes) : Prop := ∀ d ∈ s, d &&& 0x80 ≠ 0

/-- no leading `0x80` (a padded sub-identifier) -/
abbrev NoLead80 (s : Bytes) : Prop := NoLead 0x80 s

theorem b128Fold_nil (a : Nat) : b128Fold a [] = a := rfl
theorem b128Fold_cons (a : Nat) (d : UInt8) (t : Bytes) :
    b128Fold a (d :: t) = b128Fold (a * 128 + (d &&& 0x7F).toNat) t := rfl
theorem b128Fold_snoc (a : Nat) (s : Bytes) (d : UInt8) :
    b128Fold a (s ++ [d]) = b128Fold a s * 128 + (d &&& 0x7F).toNat := by
  simp [b128Fold, List.foldl_append]

theorem b128Fold_ge (a : Nat) (s : Bytes) : a ≤ b128Fold a s := by
  induction s generalizing a with
  | nil => exact Nat.le_refl _
  | cons d t ih => rw [b128Fold_cons]; have := ih (a * 128 + (d &&& 0x7F).toNat); omega

theorem b128Val_nil : b128Val [] = 0 := rfl
theorem b128Val_snoc (s : Bytes) (d : UInt8) : b128Val (s ++ [d]) = b128Val s * 128 + (d &&& 0x7F).toNat :=
  b128Fold_snoc 0 s d

theorem allCont_cons {c : UInt8} {t : Bytes} (h : AllCont (c :: t)) : c &&& 0x80 ≠ 0 ∧ AllCont t :=
  ⟨h c (List.mem_cons_self ..), fun d hd => h d (List.mem_cons_of_mem _ hd)⟩

theorem allCont_init (init : Bytes) (last : UInt8) (h : AllCont (init ++ [last])) :
    AllCont init ∧ last &&& 0x80 ≠ 0 :=
  ⟨fun d hd => h d (by simp [hd]), h last (by simp)⟩

theorem noLead80_append {pre : Bytes} {d : UInt8} (hn : NoLead80 pre) (hd : d &&& 0x80 = 0) (rest : Bytes) :
    NoLead80 (pre ++ d :: rest) := by
  cases pre with
  | nil => exact noLead_cons (fun h80 => by subst h80; exact absurd hd (by decide))
  | cons c t => exact noLead_append hn (List.cons_ne_nil c t) _

theorem b128Digits_zero : b128Digits 0 = [] := by rw [b128Digits]

theorem b128Digits_pos (n : Nat) (h : 0 < n) :
    b128Digits n = b128Digits (n / 128) ++ [UInt8.ofNat (0x80 ||| n % 128)] := by
  cases n with
  | zero => omega
  | succ n => rw [b128Digits, shr7, and7f, Nat.or_comm]

theorem b128Digits_ne_nil (n : Nat) (h : 0 < n) : b128Digits n ≠ [] := by
  rw [b128Digits_pos n h]; simp

theorem allCont_b128Digits (n : Nat) : AllCont (b128Digits n) := by
  induction n using b128Digits.induct with
  | case1 => intro d hd; simp [b128Digits_zero] at hd
  | case2 n ih =>
    rw [shr7] at ih
    rw [b128Digits_pos (n+1) (by omega)]
    intro d hd
    simp only [List.mem_append, List.mem_singleton] at hd
    rcases hd with hd | hd
    · exact ih d hd
    · subst hd; exact (u8_or80 (k := (n+1) % 128) (by omega)).1

theorem b128Val_b128Digits (n : Nat) : b128Val (b128Digits n) = n := by
  induction n using b128Digits.induct with
  | case1 => simp [b128Digits_zero, b128Val_nil]
  | case2 n ih =>
    rw [shr7] at ih
    rw [b128Digits_pos (n+1) (by omega), b128Val_snoc, ih, (u8_or80 (k := (n+1) % 128) (by omega)).2]
    omega

theorem noLead80_b128Digits (n : Nat) : NoLead80 (b128Digits n) := by
  induction n using b128Digits.induct with
  | case1 => intro d t h; simp [b128Digits_zero] at h
  | case2 n ih =>
    rw [shr7] at ih
    rw [b128Digits_pos (n+1) (by omega)]
    by_cases hq : (n + 1) / 128 = 0
    · rw [hq, b128Digits_zero]
      exact noLead_cons ((u8_or80_digit (k := (n+1) % 128) (by omega)).2 (by omega))
    · exact noLead_append ih (b128Digits_ne_nil _ (by omega)) _

/-- uniqueness: continuation-bit digits without a leading `0x80` are the encoder's digits of their value -/
theorem b128Digits_b128Val (pre : Bytes) (hc : AllCont pre) (hn : NoLead80 pre) :
    b128Digits (b128Val pre) = pre := by
  generalize hm : b128Val pre = m
  induction m using b128Digits.induct generalizing pre with
  | case1 =>
    cases pre with
    | nil => exact b128Digits_zero
    | cons d t =>
      exfalso
      have h1 := u8_low_ne_zero (allCont_cons hc).1 (hn d t rfl)
      have h2 := b128Fold_ge (0 * 128 + (d &&& 0x7F).toNat) t
      have : b128Val (d :: t) = b128Fold (0 * 128 + (d &&& 0x7F).toNat) t := rfl
      omega
  | case2 n ih =>
    rw [shr7] at ih
    have hs : pre ≠ [] := by intro h0; subst h0; simp [b128Val_nil] at hm
    obtain ⟨init, last, rfl⟩ := snoc_cases pre hs
    rw [b128Val_snoc] at hm
    have hl := u8_low_lt last
    obtain ⟨hci, hcl⟩ := allCont_init init last hc
    rw [b128Digits_pos (n+1) (by omega)]
    have h1 : b128Val init = (n+1) / 128 := by omega
    have h2 : (last &&& 0x7F).toNat = (n+1) % 128 := by omega
    rw [ih init hci (noLead_init init last hn) h1, ← h2, u8_or80_low hcl]

/-! ## `encode_number` writes exactly the strings `pre ++ [d]` -/

theorem encodeNumber_eq (n : Nat) :
    encodeNumber n = b128Digits (n / 128) ++ [UInt8.ofNat (n % 128)] := by
  by_cases h : n = 0
  · subst h; simp [encodeNumber, b128Digits_zero]
  · unfold encodeNumber
    rw [b128Digits_pos n (by omega)]
    have hne : (b128Digits (n / 128) ++ [UInt8.ofNat (0x80 ||| n % 128)]).isEmpty = false := by simp
    have hb := (u8_or80_digit (k := n % 128) (by omega)).1
    simp only [hne, Bool.false_eq_true, if_false, List.reverse_append, List.reverse_cons, List.reverse_nil,
      List.nil_append, List.singleton_append, List.reverse_reverse, hb]

theorem encodeNumber_ne_nil (n : Nat) : encodeNumber n ≠ [] := by rw [encodeNumber_eq]; simp

theorem encodeNumber_length_pos (n : Nat) : 0 < (encodeNumber n).length :=
  List.length_pos_iff.mpr (encodeNumber_ne_nil n)

theorem encodeNumber_split (n : Nat) :
    ∃ pre d, encodeNumber n = pre ++ [d] ∧ AllCont pre ∧ NoLead80 pre ∧ d &&& 0x80 = 0
      ∧ b128Val pre * 128 + (d &&& 0x7F).toNat = n := by
  have h1 := u8_top_ofNat (k := n % 128) (by omega)
  refine ⟨_, _, encodeNumber_eq n, allCont_b128Digits _, noLead80_b128Digits _, h1, ?_⟩
  rw [b128Val_b128Digits, u8_low_eq h1, u8_ofNat_toNat _ (by omega)]; omega

theorem encodeNumber_digits {pre : Bytes} {d : UInt8} (hc : AllCont pre) (hn : NoLead80 pre) (hd : d &&& 0x80 = 0) :
    encodeNumber (b128Val pre * 128 + (d &&& 0x7F).toNat) = pre ++ [d] := by
  have hlow := u8_low_lt d
  rw [encodeNumber_eq, show (b128Val pre * 128 + (d &&& 0x7F).toNat) / 128 = b128Val pre by omega,
    show (b128Val pre * 128 + (d &&& 0x7F).toNat) % 128 = (d &&& 0x7F).toNat by omega,
    b128Digits_b128Val pre hc hn, u8_low_eq hd, UInt8.ofNat_toNat]

/-! ## `read_number` reads exactly the strings `pre ++ d :: rest` -/

theorem readNumberLoop_digits (pre : Bytes) (d : UInt8) (rest : Bytes) (acc k : Nat) (hc : AllCont pre) (hd : d &&& 0x80 = 0) :
    readNumberLoop (pre ++ d :: rest) acc k = .ok (b128Fold acc pre * 128 + (d &&& 0x7F).toNat, k + pre.length + 1) := by
  induction pre generalizing acc k with
  | nil => simp [readNumberLoop, hd, shl7, b128Fold_nil]
  | cons c t ih =>
    obtain ⟨hcc, hct⟩ := allCont_cons hc
    simp only [List.cons_append, readNumberLoop, shl7]
    rw [if_neg hcc, ih _ _ hct, b128Fold_cons]
    simp only [List.length_cons]; congr 2; omega

theorem readNumberLoop_ok {s : Bytes} {acc k n ll : Nat} (h : readNumberLoop s acc k = .ok (n, ll)) :
    ∃ pre d rest, s = pre ++ d :: rest ∧ AllCont pre ∧ d &&& 0x80 = 0 ∧ ll = k + pre.length + 1
      ∧ n = b128Fold acc pre * 128 + (d &&& 0x7F).toNat := by
  induction s generalizing acc k with
  | nil => simp [readNumberLoop] at h
  | cons c t ih =>
    simp only [readNumberLoop, shl7] at h
    split at h
    · rename_i hc
      cases h
      have hnil : AllCont [] := fun _ hd => nomatch hd
      exact ⟨[], c, t, rfl, hnil, hc, rfl, rfl⟩
    · rename_i hc
      obtain ⟨pre, d, rest, hs, hp, hd, hll, hn⟩ := ih h
      refine ⟨c :: pre, d, rest, by rw [hs]; rfl, ?_, hd, ?_, ?_⟩
      · intro x hx
        rcases List.mem_cons.mp hx with hx | hx
        · subst hx; exact hc
        · exact hp x hx
      · simp only [List.length_cons]; omega
      · rw [b128Fold_cons]; exact hn

theorem readNumberLoop_err {s : Bytes} {acc k : Nat} {e : PyErr} (h : readNumberLoop s acc k = .error e) : e = .unexpectedDER := by
  induction s generalizing acc k with
  | nil => cases h; rfl
  | cons c t ih =>
    simp only [readNumberLoop] at h
    split at h
    · cases h
    · exact ih h

theorem readNumberLoop_allCont (s : Bytes) (acc k : Nat) (h : AllCont s) :
    readNumberLoop s acc k = .error .unexpectedDER := by
  induction s generalizing acc k with
  | nil => rfl
  | cons c t ih =>
    obtain ⟨hc, ht⟩ := allCont_cons h
    rw [readNumberLoop, if_neg hc]
    exact ih _ _ ht

theorem readNumber_cons (b0 : UInt8) (t : Bytes) :
    readNumber (b0 :: t) = if b0 = 0x80 then .error .unexpectedDER else readNumberLoop (b0 :: t) 0 0 := rfl

theorem readNumber_digits {pre : Bytes} {d : UInt8} (hc : AllCont pre) (hn : NoLead80 pre) (hd : d &&& 0x80 = 0)
    (rest : Bytes) :
    readNumber (pre ++ d :: rest) = .ok (b128Val pre * 128 + (d &&& 0x7F).toNat, pre.length + 1) := by
  have hrun := readNumberLoop_digits pre d rest 0 0 hc hd
  rw [Nat.zero_add] at hrun
  have h80 := noLead80_append hn hd rest
  cases pre with
  | nil => rw [List.nil_append, readNumber_cons, if_neg (h80 d rest rfl)]; exact hrun
  | cons c t => rw [List.cons_append, readNumber_cons, if_neg (h80 c _ rfl)]; exact hrun

theorem readNumber_split {s : Bytes} {n ll : Nat} (h : readNumber s = .ok (n, ll)) :
    ∃ pre d rest, s = pre ++ d :: rest ∧ AllCont pre ∧ NoLead80 pre ∧ d &&& 0x80 = 0
      ∧ n = b128Val pre * 128 + (d &&& 0x7F).toNat ∧ ll = pre.length + 1 := by
  match s, h with
  | [], h => cases h
  | b0 :: s', h =>
    rw [readNumber_cons] at h
    split at h
    · cases h
    · rename_i hb0
      obtain ⟨pre, d, rest, hs, hp, hd, hll, hn⟩ := readNumberLoop_ok h
      refine ⟨pre, d, rest, hs, hp, ?_, hd, hn, by omega⟩
      intro c t hc
      subst hc
      cases hs
      exact hb0

theorem readNumber_ok {s : Bytes} {n ll : Nat} (h : readNumber s = .ok (n, ll)) :
    ∃ rest, s = encodeNumber n ++ rest ∧ ll = (encodeNumber n).length := by
  obtain ⟨pre, d, rest, rfl, hc, hn, hd, rfl, rfl⟩ := readNumber_split h
  rw [encodeNumber_digits hc hn hd]
  exact ⟨rest, by simp, by simp⟩

theorem readNumber_encode (n : Nat) (rest : Bytes) :
    readNumber (encodeNumber n ++ rest) = .ok (n, (encodeNumber n).length) := by
  obtain ⟨pre, d, he, hc, hn, hd, hv⟩ := encodeNumber_split n
  rw [he, List.append_assoc, List.singleton_append, readNumber_digits hc hn hd, hv]
  simp

/-- `read_number` fails only with `UnexpectedDER` (also on the empty string, since fix 23101b2) -/
theorem readNumber_err {s : Bytes} {e : PyErr} (h : readNumber s = .error e) : e = .unexpectedDER := by
  match s, h with
  | [], h => cases h; rfl
  | b0 :: s', h =>
    rw [readNumber_cons] at h
    split at h
    · cases h; rfl
    · exact readNumberLoop_err h

end Der
