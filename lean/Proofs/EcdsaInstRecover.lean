import Proofs.EcdsaInstCurve
import Proofs.EcdsaRecoverBase
/-!
# Proofs.EcdsaInstRecover — `RecoverOpsCorrect` for the model of the real point classes (any cofactor)
-/
namespace Ecdsa.OnCurve
open Curve Jac GroupInterface WeierstrassCurve

variable {p : ℕ} [hp : Fact p.Prime] {a b : ℤ}

/-- `Matches` + **cofactor 1**: every reduced pair accepted by `contains_point` is a (nonsingular) point of ⟨G⟩ —
the SEC 2 / FIPS fact #E(𝔽_p) = n for the curves with h = 1 (DESIGN §4: a hypothesis, not an axiom) -/
structure MatchesRec (c : Affine.Crv) (C : Ctx p a b) : Prop extends Matches c C where
  allInH : ∀ x y : ℤ, 0 ≤ x → x < p → 0 ≤ y → y < p → Curve.containsPoint (crvOf c) x y = true →
    ∃ hns : (shortW (a : ZMod p) (b : ZMod p)).toAffine.Nonsingular (x : ZMod p) (y : ZMod p),
      Affine.Point.some _ _ hns ∈ C.H

theorem containsPoint_iff_onC (c : Affine.Crv) (hpos : 0 < c.p) (x y : ℤ) :
    Curve.containsPoint (crvOf c) x y = true ↔ OnC c.p c.a c.b x y := by
  unfold Curve.containsPoint OnC crvOf
  simp only [beq_iff_eq]
  rw [pmod_eq_emod hpos]
  have : y * y - ((x * x + c.a) * x + c.b) = y * y - (x ^ 3 + c.a * x + c.b) := by ring
  rw [this]

theorem Matches.onCurve {c : Affine.Crv} {C : Ctx p a b} (M : Matches c C) : OnCurve p a b (crvOf c) := ⟨M.cp, M.ca, M.cb⟩

theorem equation_of_containsPoint {c : CurveFp} (hc : OnCurve p a b c) {x y : ℤ} (h : Curve.containsPoint c x y = true) :
    (shortW (a : ZMod p) (b : ZMod p)).toAffine.Equation (x : ZMod p) (y : ZMod p) := by
  rw [Affine.equation_iff]
  simp only [shortW, Jacobian.toAffine]
  simp only [Curve.containsPoint, pmod, hc.1, hc.2.1, hc.2.2, beq_iff_eq, fmod_eq_zero_iff] at h
  push_cast at h
  linear_combination h

/-- **no cofactor assumption**: a reduced pair accepted by `contains_point` whose abscissa is the abscissa of a multiple of
`G` is that multiple or its opposite, hence a (nonsingular) point of ⟨G⟩ -/
theorem lift_point (c : Affine.Crv) (C : Ctx p a b) (M : Matches c C) (x y : ℤ)
    (hc : Curve.containsPoint (crvOf c) x y = true) (hk : ∃ k : ℤ, xcOf (k • C.G) = some x) :
    ∃ hns : (shortW (a : ZMod p) (b : ZMod p)).toAffine.Nonsingular (x : ZMod p) (y : ZMod p),
      Affine.Point.some _ _ hns ∈ C.H := by
  obtain ⟨k, hk⟩ := hk
  have hmem : k • C.G ∈ C.H := C.smul_mem k
  have heq := equation_of_containsPoint M.onCurve hc
  cases hR : k • C.G with
  | zero => rw [hR] at hk; cases hk
  | some x' y' h' =>
    rw [hR] at hk hmem
    obtain rfl : (x : ZMod p) = x' := by
      have : ((ZMod.val x' : ℕ) : ℤ) = x := by injection hk
      rw [← this]; simp
    rcases Affine.Y_eq_of_X_eq heq h'.left rfl with hy | hy
    · subst hy; exact ⟨h', hmem⟩
    · have hns : (shortW (a : ZMod p) (b : ZMod p)).toAffine.Nonsingular (x : ZMod p) (y : ZMod p) := by
        rw [hy]; exact (Affine.nonsingular_neg ..).mpr h'
      refine ⟨hns, ?_⟩
      have : Affine.Point.some _ _ hns = -(Affine.Point.some _ _ h') := by
        rw [Affine.Point.neg_some]; congr 1
      rw [this]; exact C.H.neg_mem hmem

theorem mkPoint_rep (c : Affine.Crv) (C : Ctx p a b) (M : Matches c C) {x y : ℤ} (hx : 0 ≤ x ∧ x < p) (hy : 0 ≤ y ∧ y < p)
    (hns : (shortW (a : ZMod p) (b : ZMod p)).toAffine.Nonsingular (x : ZMod p) (y : ZMod p))
    (hm : Affine.Point.some _ _ hns ∈ C.H) :
    Valid C ((ops c).mkPoint x y) ∧ den C ((ops c).mkPoint x y) = Affine.Point.some _ _ hns := by
  have hpt : PtRep p a b C.H (.jac ⟨crvOf c, x, y, 1, some c.n, false⟩) (Affine.Point.some _ _ hns) :=
    pjRep_of_coords C.n2t (crvOf c) M.onCurve x y hx hy hns hm (some c.n) false
  exact ⟨⟨Or.inl (by show some c.n = some C.n; rw [M.cn]), _, hpt⟩, den_eq hpt⟩

theorem recoverOpsCorrect (c : Affine.Crv) (C : Ctx p a b) (M : Matches c C) :
    RecoverOpsCorrect (ops c) C.G (den C) (xcOf (p := p) (a := a) (b := b)) (Valid C) where
  toPointOpsCorrect := pointOpsCorrect c C M
  containsPoint_iff x y := containsPoint_iff_onC c (by rw [M.cp]; exact_mod_cast hp.out.pos) x y
  mkPoint_valid x y hx0 hx1 hy0 hy1 hc hk := by
    have hP : (ops c).p = p := M.cp
    obtain ⟨hns, hm⟩ := lift_point c C M x y hc hk
    obtain ⟨hv, hd⟩ := mkPoint_rep c C M ⟨hx0, by omega⟩ ⟨hy0, by omega⟩ hns hm
    refine ⟨hv, hd ▸ Affine.Point.some_ne_zero _, ?_⟩
    rw [hd]
    exact congrArg some (val_cast_of_inRange hx0 (by omega))
  mkPoint_neg x y y' hx0 hx1 hy0 hy1 hz0 hz1 hc hk hs := by
    have hP : (ops c).p = p := M.cp
    obtain ⟨hns, hm⟩ := lift_point c C M x y hc hk
    -- `y' ≡ −y`, so `(x, y')` is the opposite point
    have hneg : (shortW (a : ZMod p) (b : ZMod p)).toAffine.negY (x : ZMod p) (y : ZMod p) = (y' : ZMod p) := by
      have : ((y + y' : ℤ) : ZMod p) = 0 := by
        rw [ZMod.intCast_zmod_eq_zero_iff_dvd, ← hP]; exact Int.dvd_of_emod_eq_zero hs
      push_cast at this
      simp [Affine.negY, shortW, eq_neg_of_add_eq_zero_right this]
    obtain ⟨hns', heq⟩ : ∃ hns' : (shortW (a : ZMod p) (b : ZMod p)).toAffine.Nonsingular (x : ZMod p) (y' : ZMod p),
        Affine.Point.some _ _ hns' = -(Affine.Point.some _ _ hns) := by
      rw [← hneg]; exact ⟨_, (Affine.Point.neg_some _).symm⟩
    rw [(mkPoint_rep c C M ⟨hx0, by omega⟩ ⟨hy0, by omega⟩ hns hm).2,
      (mkPoint_rep c C M ⟨hx0, by omega⟩ ⟨hz0, by omega⟩ hns' (heq ▸ C.H.neg_mem hm)).2, heq]
  xc_inj R R' hR hx := by
    cases R with
    | zero => exact absurd rfl hR
    | some x y h =>
      cases R' with
      | zero => cases hx
      | some x' y' h' =>
        obtain rfl : x = x' := by
          have : (ZMod.val x : ℤ) = (ZMod.val x' : ℤ) := by injection hx
          exact ZMod.val_injective p (by exact_mod_cast this)
        rcases Affine.Y_eq_of_X_eq h'.left h.left rfl with hy | hy
        · left; subst hy; rfl
        · right
          rw [Affine.Point.neg_some]
          subst hy; rfl
  xc_curve R x hx := by
    cases R with
    | zero => cases hx
    | some x' y' h =>
      injection hx with hx
      -- the representatives `val x'`, `val y'` are accepted by `contains_point`
      have h' : (shortW (a : ZMod p) (b : ZMod p)).toAffine.Nonsingular
          (((ZMod.val x' : ℕ) : ℤ) : ZMod p) (((ZMod.val y' : ℕ) : ℤ) : ZMod p) := by simpa using h
      exact ⟨_, hx ▸ (containsPoint_iff_onC c (by rw [M.cp]; exact_mod_cast hp.out.pos) _ _).mp
        (containsPoint_of M.onCurve h')⟩
  on_curve A hA hne x y hx hy := by
    obtain ⟨x', y', ex, ey, -, -, -, -, -, hns, -⟩ := coords_of_rep c (valid_rep hA) hne
    obtain rfl : x' = x := Except.ok.inj (ex.symm.trans hx)
    obtain rfl : y' = y := Except.ok.inj (ey.symm.trans hy)
    exact containsPoint_of M.onCurve hns

end Ecdsa.OnCurve
