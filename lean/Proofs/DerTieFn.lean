import Proofs.DerTie
/-!
# Proofs.DerTieFn — every function of `Model/Der.lean` restated WHOLE with the tests and integer expressions that
`gen_der.py` extracts from the current `src/ecdsa/der.py` (`Generated/DerGuards.lean`) in the places of its own, and
proved equal to the model function itself.

`Proofs/DerTie.lean` proves "that generated test = this test of the model" on copies of the tests; here the left-hand
side is the model FUNCTION (`readLength`, `removeInteger`, `bitsTail`, …), so a transcription error in `Model/Der.lean`
(a test dropped, in the wrong place, on the wrong variable, with the wrong constant) breaks a theorem, not only a change of
the source.  What stays hand-written on the right-hand sides is the plumbing that is not integer arithmetic: the empty-
string and tag-literal tests, `idx` (= `str_idx_as_int`), `beVal` (= `int(hexlify(·), 16)`), `hexBytes` (= `"%x"` +
`unhexlify`), slicing as `drop`/`take` (with the generated bounds), `int2byte`.
-/
namespace C11.Tie
open Gen.Der Der

/-- Python `string[a:b]` for `0 ≤ a ≤ b` -/
def slice (s : Bytes) (a b : Nat) : Bytes := (s.drop a).take (b - a)

theorem slice_eq (s : Bytes) (llen length : Nat) : slice s (1 + llen) (1 + llen + length) = (s.drop (1 + llen)).take length := by
  unfold slice; congr 1; omega

/-! The two slices each reader takes, with the generated bounds (which are `1 + llen` and `1 + llen + length`
by definition). -/

theorem remove_integer_slices (s : Bytes) (llen length : Nat) :
    slice s (remove_integer_e0 llen).toNat (remove_integer_e1 llen length).toNat = (s.drop (1 + llen)).take length
    ∧ s.drop (remove_integer_e2 llen length).toNat = s.drop (1 + llen + length) :=
  ⟨slice_eq s llen length, rfl⟩

theorem remove_octet_string_slices (s : Bytes) (llen length : Nat) :
    slice s (remove_octet_string_e0 llen).toNat (remove_octet_string_e1 llen length).toNat = (s.drop (1 + llen)).take length
    ∧ s.drop (remove_octet_string_e2 llen length).toNat = s.drop (1 + llen + length) :=
  ⟨slice_eq s llen length, rfl⟩

theorem remove_object_slices (s : Bytes) (llen length : Nat) :
    slice s (remove_object_e0 llen).toNat (remove_object_e1 llen length).toNat = (s.drop (1 + llen)).take length
    ∧ s.drop (remove_object_e2 llen length).toNat = s.drop (1 + llen + length) :=
  ⟨slice_eq s llen length, rfl⟩

theorem remove_bitstring_slices (s : Bytes) (llen length : Nat) :
    slice s (remove_bitstring_e0 llen).toNat (remove_bitstring_e1 llen length).toNat = (s.drop (1 + llen)).take length
    ∧ s.drop (remove_bitstring_e2 llen length).toNat = s.drop (1 + llen + length) :=
  ⟨slice_eq s llen length, rfl⟩

/-! ### generated tests that are the model's by definition -/

theorem ev_ei_assert0 (r : Int) : encode_integer_assert0 r = decide (r ≥ 0) := rfl
theorem ev_ei_e0 (n : Nat) : (encode_integer_e0 n).toNat = n + 1 := rfl
theorem ev_rb_c0 (k : Int) (un : Nat) : remove_bitstring_c0 k un = decide (k ≠ (un : Int)) := rfl
theorem ev_el_assert0 (l : Int) : encode_length_assert0 l = decide (l ≥ 0) := rfl

theorem fn_readLength (s : Bytes) :
    readLength s = match s with
      | [] => .error .unexpectedDER
      | num :: rest =>
        if read_length_if1 num.toNat then .ok ((read_length_ret0 num.toNat).toNat, 1)
        else
          let llen := (read_length_let1 num.toNat).toNat
          if read_length_if2 llen then .error .unexpectedDER
          else if read_length_if3 llen ((rest.length + 1 : Nat) : Int) then .error .unexpectedDER
          else (idx s 1).bind fun msb =>
            if read_length_if4 msb.toNat llen then .error .unexpectedDER
            else .ok (beVal (slice s 1 (read_length_ret3 llen).toNat), (read_length_ret3 llen).toNat) := by
  cases s with
  | nil => rfl
  | cons num rest =>
    have hs : ∀ llen, slice (num :: rest) 1 (1 + llen) = rest.take llen := by
      intro llen; unfold slice; simp
    simp only [(read_length_bytes _).1, (read_length_bytes _).2.1, (read_length_bytes _).2.2, (read_length_nat _ 0).1, (read_length_nat _ _).2.1, (read_length_nat _ 0).2.2, read_length_minimal, decide_eq_true_eq, hs]
    rfl

/-- the part shared by `remove_octet_string`, `remove_sequence`, `remove_constructed` after the identifier test:
`read_length(string[1:])`, the buffer test (generated `…_if2`), the two slices with the generated bounds -/
theorem fn_tlvBody (s : Bytes) :
    tlvBody s = (readLength (s.drop 1)).bind fun (length, llen) =>
      if remove_octet_string_if2 length s.length llen then .error .unexpectedDER
      else .ok (slice s (remove_octet_string_e0 llen).toNat (remove_octet_string_e1 llen length).toNat,
                s.drop (remove_octet_string_e2 llen length).toNat) := by
  unfold tlvBody
  simp only [← (tooLong_eq _ _ _).2.1, (remove_octet_string_slices _ _ _).1, (remove_octet_string_slices _ _ _).2]
  rfl

/-- the same text in the other two readers (their generated tests and bounds are the same expressions) -/
theorem fn_tlv_same (length lens llen : Nat) :
    remove_sequence_if2 length lens llen = remove_octet_string_if2 length lens llen
    ∧ remove_constructed_if2 length lens llen = remove_octet_string_if2 length lens llen
    ∧ remove_sequence_e0 llen = remove_octet_string_e0 llen ∧ remove_constructed_e0 llen = remove_octet_string_e0 llen
    ∧ remove_sequence_let2 llen length = remove_octet_string_e1 llen length
    ∧ remove_constructed_e1 llen length = remove_octet_string_e1 llen length
    ∧ remove_constructed_e2 llen length = remove_octet_string_e2 llen length := ⟨rfl, rfl, rfl, rfl, rfl, rfl, rfl⟩

theorem fn_removeOctetString (s : Bytes) :
    removeOctetString s = match s with
      | [] => .error .unexpectedDER
      | t :: _ => if t ≠ 0x04 then .error .unexpectedDER else tlvBody s := rfl

theorem fn_removeSequence (s : Bytes) :
    removeSequence s = match s with
      | [] => .error .unexpectedDER
      | t :: _ => if t ≠ 0x30 then .error .unexpectedDER else tlvBody s := rfl

theorem fn_removeConstructed (s : Bytes) :
    removeConstructed s = match s with
      | [] => .error .unexpectedDER
      | s0 :: _ =>
        if remove_constructed_if1 s0.toNat then .error .unexpectedDER
        else (tlvBody s).bind fun (body, rest) => .ok ((remove_constructed_let1 s0.toNat).toNat, body, rest) := by
  cases s with
  | nil => rfl
  | cons s0 t =>
    simp only [(constructed_bytes _).1, (constructed_bytes _).2, decide_eq_true_eq]
    rfl

theorem fn_removeInteger (s : Bytes) :
    removeInteger s = match s with
      | [] => .error .unexpectedDER
      | t :: _ =>
        if t ≠ 0x02 then .error .unexpectedDER
        else (readLength (s.drop 1)).bind fun (length, llen) =>
          if remove_integer_if2 length s.length llen then .error .unexpectedDER
          else if remove_integer_if3 length then .error .unexpectedDER
          else
            let numberbytes := slice s (remove_integer_e0 llen).toNat (remove_integer_e1 llen length).toNat
            let rest := s.drop (remove_integer_e2 llen length).toNat
            (idx numberbytes 0).bind fun msb =>
              if remove_integer_if4 msb.toNat then .error .unexpectedDER
              else if remove_integer_if5 length msb.toNat then
                (idx numberbytes 1).bind fun smsb =>
                  if remove_integer_if6 smsb.toNat then .error .unexpectedDER
                  else .ok (beVal numberbytes, rest)
              else .ok (beVal numberbytes, rest) := by
  cases s with
  | nil => rfl
  | cons t s' =>
    simp only [← (tooLong_eq _ _ _).1, (remove_integer_slices _ _ _).1, (remove_integer_slices _ _ _).2, (remove_integer_guards _ 0).1, (integer_bytes _).2.1,
      (remove_integer_guards _ _).2, (integer_bytes _).2.2, decide_eq_true_eq]
    rfl

/-- one round of the `while True:` loop of `read_number` (the `llen >= len(string)` test is the empty-list case) -/
theorem fn_readNumberLoop (d : UInt8) (rest : Bytes) (number llen : Nat) :
    readNumberLoop (d :: rest) number llen =
      (let number := (read_number_let4 (read_number_let2 number) d.toNat).toNat
       if read_number_if3 d.toNat then .ok (number, (read_number_let5 llen).toNat)
       else readNumberLoop rest number (read_number_let5 llen).toNat)
    ∧ readNumberLoop [] number llen = .error .unexpectedDER := by
  refine ⟨?_, rfl⟩
  simp only [(read_number_step _ 0 _).1, (number_bytes _).2, (read_number_step 0 _ 0).2, decide_eq_true_eq]
  rfl

theorem fn_readNumber (s : Bytes) :
    readNumber s = if s.isEmpty then .error .unexpectedDER
      else (idx s 0).bind fun b0 => if read_number_if1 b0.toNat then .error .unexpectedDER else readNumberLoop s 0 0 := by
  simp only [(number_bytes _).1, decide_eq_true_eq]
  rfl

theorem fn_removeObject (s : Bytes) :
    removeObject s = match s with
      | [] => .error .unexpectedDER
      | t :: _ =>
        if t ≠ 0x06 then .error .unexpectedDER
        else (readLength (s.drop 1)).bind fun (length, llen) =>
          let body := slice s (remove_object_e0 llen).toNat (remove_object_e1 llen length).toNat
          let rest := s.drop (remove_object_e2 llen length).toNat
          if body.isEmpty then .error .unexpectedDER
          else if remove_object_if3 body.length length then .error .unexpectedDER
          else (readNumbers body.length body).bind fun numbers =>
            match numbers with
            | [] => .error .indexError
            | n0 :: tail =>
              let first := if remove_object_if4 n0 then (remove_object_let8 n0).toNat else 2
              let second := (remove_object_let10 n0 first).toNat
              .ok (first :: second :: tail, rest) := by
  cases s with
  | nil => rfl
  | cons t s' =>
    simp only [(remove_object_slices _ _ _).1, (remove_object_slices _ _ _).2, oid_length_test,
      (oid_arcs _).1, (oid_arcs _).2.1, (oid_arcs _).2.2, decide_eq_true_eq]
    rfl

set_option linter.unusedVariables false in
theorem fn_padCheck (s : Bytes) (unused : Nat) (hu : unused ≤ 7) (err : PyErr) :
    padCheck s unused err =
      (if remove_bitstring_if8 unused then
        match s.getLast? with
        | none => .error err
        | some last => if remove_bitstring_if10 last.toNat unused then .error err else .ok ()
       else .ok ())
    ∧ padCheck s unused err =
      (if encode_bitstring_if3 unused then
        match s.getLast? with
        | none => .error err
        | some last => if encode_bitstring_if5 last.toNat unused then .error err else .ok ()
       else .ok ()) := by
  -- `hu` is not used: the generated tests agree with `padBits` for every `unused`
  unfold padCheck
  constructor
  · simp only [(unused_range 0 _).2.2.1, (pad_bits _ _).2, decide_eq_true_eq]; rfl
  · simp only [(unused_range 0 _).2.2.2, (pad_bits _ _).1, decide_eq_true_eq]; rfl

theorem fn_bitsTail (body rest : Bytes) (expect : Unused) :
    bitsTail body rest expect =
      match expect with
      | .legacy => .ok (body, none, rest)
      | e => (idx body 0).bind fun unusedB =>
          let unused := unusedB.toNat
          if remove_bitstring_if6 unused then .error .unexpectedDER
          else if (match e with | .some k => remove_bitstring_c0 k unused | _ => false) then .error .unexpectedDER
          else
            let body := body.drop 1
            (padCheck body unused .unexpectedDER).bind fun _ =>
              match e with
              | .none => .ok (body, some unused, rest)
              | _ => .ok (body, none, rest) := by
  cases expect with
  | legacy => rfl
  | none => simp only [(unused_range 0 _).2.1, decide_eq_true_eq]; rfl
  | some k => simp only [bitsTail, (unused_range 0 _).2.1, ev_rb_c0, decide_eq_true_eq]; rfl

theorem fn_removeBitstring (s : Bytes) (expect : Unused) :
    removeBitstring s expect = match s with
      | [] => .error .unexpectedDER
      | t :: _ =>
        if t ≠ 0x03 then .error .unexpectedDER
        else (readLength (s.drop 1)).bind fun (length, llen) =>
          if remove_bitstring_if3 length then .error .unexpectedDER
          else if remove_bitstring_if4 length s.length llen then .error .unexpectedDER
          else bitsTail (slice s (remove_bitstring_e0 llen).toNat (remove_bitstring_e1 llen length).toNat)
                 (s.drop (remove_bitstring_e2 llen length).toNat) expect := by
  cases s with
  | nil => rfl
  | cons t s' =>
    simp only [← (tooLong_eq _ _ _).2.2.2.2, (remove_bitstring_slices _ _ _).1, (remove_bitstring_slices _ _ _).2,
      (bitstring_length _ 0 0).1, decide_eq_true_eq]
    rfl

theorem fn_encodeLength (l : Int) :
    encodeLengthInt l = (if ¬ encode_length_assert0 l then .error .assertionError else encodeLengthPy l.toNat)
    ∧ encodeLengthPy l.toNat =
      (if encode_length_if0 l.toNat then (int2byte l.toNat).bind fun b => .ok [b]
       else
         let s := hexBytes l.toNat
         (int2byte (encode_length_e0 s.length)).bind fun b => .ok (b :: s)) := by
  constructor
  · unfold encodeLengthInt
    simp only [ev_el_assert0, decide_eq_true_eq, ge_iff_le, Int.not_le]
  · simp only [(encode_length_guards _ 0).2.1, (encode_length_guards 0 _).2.2, decide_eq_true_eq]
    rfl

theorem fn_encodeInteger (r : Int) :
    encodeIntegerPy r =
      if ¬ encode_integer_assert0 r then .error .assertionError
      else
        let s := hexBytes r.toNat
        (idx s 0).bind fun num =>
          if encode_integer_if1 num.toNat then (encodeLengthPy s.length).bind fun l => .ok ([0x02] ++ l ++ s)
          else (encodeLengthPy (encode_integer_e0 s.length).toNat).bind fun l => .ok ([0x02] ++ l ++ [0x00] ++ s) := by
  simp only [ev_ei_assert0, (integer_bytes _).1, ev_ei_e0, decide_eq_true_eq]
  rfl

theorem fn_encodeConstructed (tag : Int) (value : Bytes) :
    encodeConstructedPy tag value =
      (int2byte (encode_constructed_e0 tag)).bind fun t =>
        (encodeLengthPy value.length).bind fun l => .ok ([t] ++ l ++ value) := rfl

/-- one round of `while n:` in `encode_number`: the digit pushed in front and the new `n` -/
theorem fn_b128Digits (n : Nat) :
    b128Digits n = if encode_number_while0 n then
        b128Digits (encode_number_let1 n).toNat ++ [UInt8.ofNat (encode_number_e0 n).toNat]
      else [] := by
  simp only [(encode_number_step _).2.2, (encode_number_step _).2.1, (encode_number_step _).1, decide_eq_true_eq]
  cases n with
  | zero => rw [b128Digits]; rfl
  | succ n => rw [b128Digits]; simp

theorem fn_encodeOid (first second : Int) (pieces : List Nat) :
    encodeOidPy first second pieces =
      (if encode_oid_assert0 first second then encodeOid first.toNat second.toNat pieces else .error .assertionError)
    ∧ ∀ (a b : Nat), oidBody a b pieces
        = encodeNumber (encode_oid_e0 a b).toNat ++ (pieces.map encodeNumber).flatten := by
  constructor
  · simp only [(encode_oid_guards _ _ 0 0).1, decide_eq_true_eq]; rfl
  · intro a b; simp only [(encode_oid_guards 0 0 _ _).2.2]; rfl

theorem fn_encodeBitstring (s : Bytes) (u : Int) :
    encodeBitstring s (.some u) =
      (if encode_bitstring_if2 u then .error .valueError
       else (padCheck s u.toNat .valueError).bind fun _ =>
         (int2byte u).bind fun eu =>
           (encodeLengthPy (encode_bitstring_e0 s.length 1).toNat).bind fun l => .ok ([0x03] ++ l ++ [eu] ++ s))
    ∧ encodeBitstring s .legacy =
        ((encodeLengthPy (encode_bitstring_e0 s.length 0).toNat).bind fun l => .ok ([0x03] ++ l ++ s))
    ∧ encodeBitstring s .none = encodeBitstring s .legacy := by
  refine ⟨?_, ?_, rfl⟩
  · have h : (encode_bitstring_e0 s.length 1).toNat = s.length + 1 := (bitstring_length 0 s.length 1).2
    simp only [(unused_range _ 0).1, decide_eq_true_eq]
    rw [h]
    rfl
  · have h : (encode_bitstring_e0 s.length 0).toNat = s.length := (bitstring_length 0 s.length 0).2
    rw [h]; rfl

end C11.Tie
