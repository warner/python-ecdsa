import Proofs.RWSafe
/-! # Proofs.RWLive — deadlock freedom of the generated programs at the counting level

Paper argument, mirrored by the stages of `rinv_progress`: a holder of a light-switch mutex is never blocked except at
the two conditional acquires; whoever blocks those is inside or about to release; once nobody holds `RM` / `WM` the
remaining waiters (`a0`, `a1`, `a2`, `a8`, `b0`, `b4`, `b6`) face free mutexes. -/
namespace RW

def guard (ins : Instr) (sh : Shared) : Prop :=
  match ins with
  | .acq m => sh.mtx m = 0
  | .rel m => sh.mtx m ≠ 0
  | .inc _ => True
  | .dec _ => True
  | .ifeq c k (.acq m) => sh.ctr c = k → sh.mtx m = 0
  | .ifeq c k (.rel m) => sh.ctr c = k → sh.mtx m ≠ 0

theorem exec_ok_iff_guard (ins : Instr) (sh : Shared) : (∃ sh', exec ins sh = .ok sh') ↔ guard ins sh := by
  cases ins with
  | acq m => simp only [exec, doAct, guard]; split <;> simp_all
  | rel m => simp only [exec, doAct, guard]; split <;> simp_all
  | inc c => simp [exec, guard]
  | dec c => simp [exec, guard]
  | ifeq c k a =>
    cases a <;> simp only [exec, doAct, guard] <;> split <;> (try split) <;> simp_all

def Enabled (P : Progs) (s : CS) (r : Role) (k : Nat) : Prop := ∃ nxt s', cstep P ⟨r, k, nxt⟩ s = .ok s'

theorem cstep_ok_of_guard {P : Progs} {s : CS} {r k ins} (hc : s.cnt r k ≠ 0) (hins : (P.round r)[k]? = some ins)
    (hg : guard ins s.sh) (nxt : Option Role) : ∃ s', cstep P ⟨r, k, nxt⟩ s = .ok s' := by
  obtain ⟨sh', hex⟩ := (exec_ok_iff_guard ins s.sh).mpr hg
  exact ⟨⟨sh', move s.cnt (r, k) (dest P r k nxt)⟩, by simp [cstep, hc, hins, hex]⟩

theorem enabled_iff (P : Progs) (s : CS) (r : Role) (k : Nat) :
    Enabled P s r k ↔ s.cnt r k ≠ 0 ∧ ∃ ins, (P.round r)[k]? = some ins ∧ guard ins s.sh := by
  constructor
  · rintro ⟨nxt, s', h⟩
    obtain ⟨hc, ins, sh', hins, hex, _⟩ := cstep_ok' h
    exact ⟨hc, ins, hins, (exec_ok_iff_guard ins s.sh).mp ⟨sh', hex⟩⟩
  · rintro ⟨hc, ins, hins, hg⟩
    exact ⟨none, cstep_ok_of_guard hc hins hg none⟩

/-- `¬ Enabled GP s r k` for a literal program point, as arithmetic (no proof calls it) -/
macro "rw_dis " f:ident : tactic => `(tactic| (
  rw [enabled_iff] at $f:ident
  simp only [GP, Gen.RW.progs, Progs.round, Progs.acq, Progs.rel, Gen.RW.reader_acquire, Gen.RW.reader_release,
    Gen.RW.writer_acquire, Gen.RW.writer_release, List.cons_append, List.nil_append, List.getElem?_cons_succ,
    List.getElem?_cons_zero, Option.some.injEq, exists_eq_left', guard, Shared.mtx, Shared.ctr, and_true] at $f:ident))

def isAcq : Instr → Bool
  | .acq _ | .ifeq _ _ (.acq _) => true
  | _ => false

def acqPts : List Pt :=
  [(.reader, 0), (.reader, 1), (.reader, 2), (.reader, 4), (.reader, 8), (.writer, 0), (.writer, 2), (.writer, 4), (.writer, 6)]

theorem GP_acq : ∀ {r : Role} {k : Nat} {ins : Instr}, (GP.round r)[k]? = some ins → isAcq ins = true → (r, k) ∈ acqPts :=
  @GP_forall _ (by decide +kernel)

/-- only an acquire can block -/
theorem guard_of_ne_err {ins : Instr} {sh : Shared} (hna : isAcq ins = false) (he : exec ins sh ≠ .err) :
    guard ins sh := by
  rw [Ne, exec_err] at he
  rcases ins with _ | m | _ | _ | ⟨c, k0, _ | m⟩ <;> simp_all [guard, isAcq]

theorem empty_of_guard {s : CS} {r : Role} {k : Nat} {ins : Instr} (f : ¬ Enabled GP s r k)
    (hins : (GP.round r)[k]? = some ins) (hg : s.cnt r k ≠ 0 → guard ins s.sh) : s.cnt r k = 0 :=
  Classical.byContradiction fun hc => f ((enabled_iff GP s r k).mpr ⟨hc, ins, hins, hg hc⟩)

theorem rinv_progress (s : CS) (h : RInv s)
    (hex : ∃ r k, s.cnt r k ≠ 0 ∧ k < (GP.round r).length) : ∃ r k, Enabled GP s r k := by
  apply Classical.byContradiction
  intro hno
  have f : ∀ r k, ¬ Enabled GP s r k := fun r k he => hno ⟨r, k, he⟩
  -- 1. nobody is at an instruction that is not an acquire: under the invariant it does not raise, so it can execute
  have z : ∀ r k ins, (GP.round r)[k]? = some ins → isAcq ins = false → s.cnt r k = 0 := fun r k ins hins hna =>
    empty_of_guard (f r k) hins fun hc => guard_of_ne_err hna (exec_ne_err h hc hins)
  simp only [RInv, z .reader 3 _ rfl rfl, z .reader 5 _ rfl rfl, z .reader 6 _ rfl rfl, z .reader 7 _ rfl rfl,
    z .reader 9 _ rfl rfl, z .reader 10 _ rfl rfl, z .reader 11 _ rfl rfl, z .writer 1 _ rfl rfl, z .writer 3 _ rfl rfl,
    z .writer 5 _ rfl rfl, z .writer 7 _ rfl rfl, z .writer 8 _ rfl rfl, z .writer 9 _ rfl rfl,
    Nat.add_zero, Nat.zero_add] at h
  obtain ⟨hRQ, hRM, hWM, hrc, hwc, hNR, hNW, bRQ, bRM, bWM, bNR, bNW⟩ := h
  -- 2. conditional acquire of NW: alone under RM (`hRM`, `bRM`), `rc = 1` counts nobody inside (`hrc`), so NW has no
  -- group (`hNW`)
  have za4 : s.cnt .reader 4 = 0 := empty_of_guard (f _ _) rfl fun hc h1 => by
    have h1 : s.sh.rc = 1 := h1
    show s.sh.NW = 0
    omega
  have fRM : s.sh.RM = 0 := hRM.trans za4
  have za2 : s.cnt .reader 2 = 0 := empty_of_guard (f _ _) rfl fun _ => fRM
  have za8 : s.cnt .reader 8 = 0 := empty_of_guard (f _ _) rfl fun _ => fRM
  -- 3. conditional acquire of NR: alone under WM (`hWM`, `bWM`), `wc = 1` counts no other writer (`hwc`), no reader
  -- holds NR (`hNR`)
  have zb2 : s.cnt .writer 2 = 0 := empty_of_guard (f _ _) rfl fun hc h1 => by
    have h1 : s.sh.wc = 1 := h1
    show s.sh.NR = 0
    omega
  have fWM : s.sh.WM = 0 := hWM.trans zb2
  have zb0 : s.cnt .writer 0 = 0 := empty_of_guard (f _ _) rfl fun _ => fWM
  have zb6 : s.cnt .writer 6 = 0 := empty_of_guard (f _ _) rfl fun _ => fWM
  -- 4. NW, NR, RQ have neither holder nor group left
  have fNW : s.sh.NW = 0 := by omega
  have zb4 : s.cnt .writer 4 = 0 := empty_of_guard (f _ _) rfl fun _ => fNW
  have fNR : s.sh.NR = 0 := by omega
  have za1 : s.cnt .reader 1 = 0 := empty_of_guard (f _ _) rfl fun _ => fNR
  have fRQ : s.sh.RQ = 0 := by omega
  have za0 : s.cnt .reader 0 = 0 := empty_of_guard (f _ _) rfl fun _ => fRQ
  have hz : ∀ p ∈ acqPts, s.cnt p.1 p.2 = 0 := by
    simp only [acqPts, List.forall_mem_cons, List.not_mem_nil, false_imp_iff, implies_true, and_true]
    exact ⟨za0, za1, za2, za4, za8, zb0, zb2, zb4, zb6⟩
  obtain ⟨r, k, hc, hk⟩ := hex
  have hins := List.getElem?_eq_getElem hk
  cases ha : isAcq (GP.round r)[k] with
  | false => exact hc (z r k _ hins ha)
  | true => exact hc (hz _ (GP_acq hins ha))

end RW
