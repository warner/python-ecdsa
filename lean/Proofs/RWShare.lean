import Proofs.RWTerm
/-! # Proofs.RWShare — readers share: with readers inside and no writer around, a further reader runs through
`reader_acquire` without waiting and without anybody leaving -/
namespace RW

/-- `none`: one of the instructions blocks or raises -/
def execAll : List Instr → Shared → Option Shared
  | [], sh => some sh
  | i :: rest, sh =>
    match exec i sh with
    | .ok sh' => execAll rest sh'
    | _ => none

theorem solo_run {P : Progs} (i : Nat) : ∀ (n : Nat) (c : Cfg) (pc : Nat) (r : Role) (rest : List Role) (sh' : Shared),
    c.thr[i]? = some ⟨r :: rest, pc⟩ → pc < (P.round r).length → pc + n ≤ (P.round r).length →
    execAll (((P.round r).drop pc).take n) c.sh = some sh' →
    ∃ c', runSched P c (List.replicate n i) = .ok c' ∧ c'.sh = sh' ∧
      c'.thr = c.thr.set i (if pc + n < (P.round r).length then ⟨r :: rest, pc + n⟩ else ⟨rest, 0⟩)
  | 0, c, pc, r, rest, sh', ht, hpc, hlen, hex => by
    cases hex
    refine ⟨c, rfl, rfl, ?_⟩
    obtain ⟨hlt, hget⟩ := List.getElem?_eq_some_iff.mp ht
    rw [Nat.add_zero, if_pos hpc, ← hget, List.set_getElem_self]
  | n + 1, c, pc, r, rest, sh', ht, hpc, hlen, hex => by
    rw [List.drop_eq_getElem_cons hpc, List.take_succ_cons] at hex
    simp only [execAll] at hex
    split at hex
    · rename_i sh1 hex1
      have hstep : tstep P c i = .ok ⟨sh1, c.thr.set i (advance P ⟨r :: rest, pc⟩)⟩ := by
        simp only [tstep, ht, List.getElem?_eq_getElem hpc, hex1]
      have hlt : i < c.thr.length := (List.getElem?_eq_some_iff.mp ht).1
      simp only [advance] at hstep
      by_cases h1 : pc + 1 < (P.round r).length
      · rw [if_pos h1] at hstep
        obtain ⟨c', hrun, hsh, hthr⟩ := solo_run i n ⟨sh1, c.thr.set i ⟨r :: rest, pc + 1⟩⟩ (pc + 1) r rest sh'
          (by simp [hlt]) h1 (by omega) hex
        refine ⟨c', runSched_cons_ok.mpr ⟨_, hstep, hrun⟩, hsh, ?_⟩
        simp only [hthr, List.set_set, Nat.add_right_comm pc 1 n]
        rfl
      · -- the last instruction of the round
        obtain rfl : n = 0 := by omega
        rw [if_neg h1] at hstep
        exact ⟨_, runSched_cons_ok.mpr ⟨_, hstep, rfl⟩, by cases hex; rfl, by rw [if_neg h1]⟩
    · cases hex

/-- all other threads are between rounds / finished, or inside as readers -/
def OthersQuietOrReading (c : Cfg) (i : Nat) : Prop :=
  ∀ j t, j ≠ i → c.thr[j]? = some t → t.idle = true ∨ t.insideAs GP .reader = true

theorem cnt_zero_of_quiet {c : Cfg} {i : Nat} {rest : List Role} (hi : c.thr[i]? = some ⟨.reader :: rest, 0⟩)
    (hq : OthersQuietOrReading c i) (r : Role) (k : Nat) (hk : k ≠ 0) (hrk : (r, k) ≠ (.reader, 8)) :
    cntAt c.thr r k = 0 := by
  refine cntAt_eq_zero fun t ht hpt => ?_
  obtain ⟨j, hj⟩ := List.getElem?_of_mem ht
  by_cases hji : j = i
  · subst hji
    cases hi.symm.trans hj
    cases hpt
    exact hk rfl
  · rcases hq j t hji hj with h1 | h1
    · exact hk (pt_of_idle h1 hpt)
    · rw [insideAs_reader, hpt] at h1
      exact hrk (Option.some.inj h1)

/-- `hNW`: `NW` is free or held by the readers -/
theorem racq_runs (sh : Shared) (hRQ : sh.RQ = 0) (hNR : sh.NR = 0) (hRM : sh.RM = 0) (hNW : sh.rc = 0 → sh.NW = 0) :
    ∃ sh', execAll (((GP.round .reader).drop 0).take 8) sh = some sh' := by
  obtain ⟨RQ, NR, NW, RM, WM, rc, wc⟩ := sh
  simp only at hRQ hNR hRM hNW
  subst hRQ hNR hRM
  rw [GP_rounds.1]
  by_cases h0 : rc = 0
  · subst h0
    rw [hNW rfl]
    exact ⟨⟨0, 0, 1, 0, WM, 1, wc⟩, rfl⟩
  · have h1 : ¬ (rc + 1 = 1) := by omega
    exact ⟨⟨0, 0, NW, 0, WM, rc + 1, wc⟩, by
      simp [execAll, exec, doAct, Shared.mtx, Shared.setM, Shared.ctr, Shared.setC, h1]⟩

end RW
