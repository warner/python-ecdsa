import Proofs.JacRep
import Proofs.InvMod
import Model.Curve
/-!
# Proofs.GroupObj — the object layer of `PointJacobi` (`+`, `double`, `-`, `==`, `x()`, `y()`, `scale`, `to_affine`)

`PJRep p a b H P g`: the `PointJacobi` value `P` lies on the curve (p, a, b), its stored coordinates are in [0, p) ("as
the library produces them") and properly represent `g ∈ H`; the library never keeps an identity in a `PointJacobi` (it
returns INFINITY).  `PtRep` extends this to INFINITY and legacy affine points.
-/
namespace Jac
open WeierstrassCurve WeierstrassCurve.Jacobian Curve

variable {p : ℕ} [hp : Fact p.Prime]

omit hp in
@[simp] theorem ok_bind {ε α β : Type} (x : α) (f : α → Except ε β) : (Except.ok x >>= f) = f x := rfl
omit hp in
@[simp] theorem error_bind {ε α β : Type} (e : ε) (f : α → Except ε β) :
    ((Except.error e : Except ε α) >>= f) = Except.error e := rfl

def OnCurve (p : ℕ) (a b : ℤ) (c : CurveFp) : Prop := c.p = p ∧ c.a = a ∧ c.b = b

variable {a b : ℤ} {H : AddSubgroup (Grp (a : ZMod p) (b : ZMod p))}

def PJRep (p : ℕ) [Fact p.Prime] (a b : ℤ) (H : AddSubgroup (Grp (a : ZMod p) (b : ZMod p)))
    (P : PJ) (g : Grp (a : ZMod p) (b : ZMod p)) : Prop :=
  OnCurve p a b P.curve ∧ InRange3 p (P.x, P.y, P.z) ∧
    Good (a : ZMod p) (b : ZMod p) H (cast3 p (P.x, P.y, P.z)) g

def AffRep (p : ℕ) [Fact p.Prime] (a b : ℤ) (H : AddSubgroup (Grp (a : ZMod p) (b : ZMod p)))
    (A : AffPt) (g : Grp (a : ZMod p) (b : ZMod p)) : Prop :=
  OnCurve p a b A.curve ∧ InRange p A.x ∧ InRange p A.y ∧ g ∈ H ∧
    ∃ h : (shortW (a : ZMod p) (b : ZMod p)).toAffine.Nonsingular (A.x : ZMod p) (A.y : ZMod p),
      Affine.Point.some _ _ h = g

def PtRep (p : ℕ) [Fact p.Prime] (a b : ℤ) (H : AddSubgroup (Grp (a : ZMod p) (b : ZMod p))) :
    Pt → Grp (a : ZMod p) (b : ZMod p) → Prop
  | .infinity, g => g = 0
  | .jac P, g => PJRep p a b H P g
  | .aff A, g => AffRep p a b H A g

omit hp in
/-- the result of a `PointJacobi` operation is `INFINITY` or a `PointJacobi`, never a legacy `Point` -/
theorem coordsOut_not_aff (c : CurveFp) (o : Option ℤ) (t : ℤ × ℤ × ℤ) (A : AffPt) : coordsOut c o t ≠ .aff A := by
  unfold coordsOut; split <;> simp

omit hp in
theorem truthy_some_eq {n m : ℤ} (h : truthy (some n) = some m) : m = n := by
  simp only [truthy] at h
  split_ifs at h
  exact (Option.some.inj h).symm

namespace OnCurve
omit hp in
theorem p_eq {c : CurveFp} (h : OnCurve p a b c) : c.p = p := h.1
omit hp in
theorem a_eq {c : CurveFp} (h : OnCurve p a b c) : c.a = a := h.2.1
end OnCurve

namespace PJRep
theorem onCurve {P : PJ} {g} (h : PJRep p a b H P g) : OnCurve p a b P.curve := h.1
theorem inRange {P : PJ} {g} (h : PJRep p a b H P g) : InRange3 p (P.x, P.y, P.z) := h.2.1
theorem good {P : PJ} {g} (h : PJRep p a b H P g) :
    Good (a : ZMod p) (b : ZMod p) H (cast3 p (P.x, P.y, P.z)) g := h.2.2
end PJRep

namespace AffRep
theorem onCurve {A : AffPt} {g} (h : AffRep p a b H A g) : OnCurve p a b A.curve := h.1
theorem mem {A : AffPt} {g} (h : AffRep p a b H A g) : g ∈ H := h.2.2.2.1
end AffRep

theorem PJRep.irep {P : PJ} {g} (h : PJRep p a b H P g) : IRep p a b H (P.x, P.y, P.z) g :=
  ⟨h.inRange.y.zt, h.inRange.z.zt, h.good.rep⟩

theorem PJRep.zf_ne {P : PJ} {g} (h : PJRep p a b H P g) : (P.z : ZMod p) ≠ 0 := h.good.z_ne

theorem PJRep.y_ne {P : PJ} {g} (h : PJRep p a b H P g) : P.y ≠ 0 :=
  fun h0 => h.good.y_ne (by rw [cast3_mk, h0]; exact Int.cast_zero)

theorem PJRep.z_ne {P : PJ} {g} (h : PJRep p a b H P g) : P.z ≠ 0 :=
  fun h0 => h.zf_ne (by rw [h0]; exact Int.cast_zero)

theorem PJRep.mem {P : PJ} {g} (h : PJRep p a b H P g) : g ∈ H := h.good.1

theorem PtRep.mem {R : Pt} {g} (h : PtRep p a b H R g) : g ∈ H := by
  cases R with
  | infinity => simp only [PtRep] at h; rw [h]; exact H.zero_mem
  | jac P => exact PJRep.mem h
  | aff A => exact AffRep.mem h

theorem good_ne_zero {P : Fin 3 → ZMod p} {g} (h : Good (a : ZMod p) (b : ZMod p) H P g) : g ≠ 0 := by
  obtain ⟨_, _, hz, hn, rfl⟩ := h
  rw [Point.toAffine_of_Z_ne_zero hn hz]; exact Affine.Point.some_ne_zero _

/-- under N2T an affine point of H has y ≠ 0, so (x, y, 1) is a proper representation -/
theorem good_of_mem (hH : NoOrder2 H) {x y : ℤ}
    {hn : (shortW (a : ZMod p) (b : ZMod p)).toAffine.Nonsingular (x : ZMod p) (y : ZMod p)}
    (hm : Affine.Point.some _ _ hn ∈ H) :
    Good (a : ZMod p) (b : ZMod p) H (cast3 p (x, y, 1)) (Affine.Point.some _ _ hn) := by
  have hns : (shortW (a : ZMod p) (b : ZMod p)).Nonsingular ![(x : ZMod p), (y : ZMod p), 1] :=
    (nonsingular_some ..).mpr hn
  have hy : (y : ZMod p) ≠ 0 := by
    intro hy
    have h2 := toAffine_order_two hns (by simp) (by simpa using hy)
    rw [Point.toAffine_some hns] at h2
    exact h2.2 (hH _ hm h2.1)
  simpa using good_of_affine hn hm hy

theorem AffRep.good (hH : NoOrder2 H) {A : AffPt} {g} (h : AffRep p a b H A g) :
    Good (a : ZMod p) (b : ZMod p) H (cast3 p (A.x, A.y, 1)) g := by
  obtain ⟨_, _, _, hm, hn, rfl⟩ := h
  exact good_of_mem hH hm

theorem AffRep.y_ne (hH : NoOrder2 H) {A : AffPt} {g} (h : AffRep p a b H A g) : A.y ≠ 0 := by
  intro h0; have := (h.good hH).y_ne; simp [cast3, h0] at this

theorem AffRep.pj (hH : NoOrder2 H) {A : AffPt} {g} (h : AffRep p a b H A g) (gen : Bool) :
    PJRep p a b H (pjFromAffine A gen) g :=
  ⟨h.onCurve, ⟨h.2.1, h.2.2.1, inRange_one⟩, h.good hH⟩

theorem coordsOut_rep {c : CurveFp} (hc : OnCurve p a b c) (o : Option ℤ) {t : ℤ × ℤ × ℤ} {g}
    (h : IRep p a b H t g) (hr : InRange3 p t) : PtRep p a b H (coordsOut c o t) g := by
  unfold coordsOut
  split_ifs with h0
  · simp only [Bool.or_eq_true, beq_iff_eq] at h0
    exact h.eq_zero h0
  · simp only [Bool.or_eq_true, beq_iff_eq, not_or] at h0
    exact ⟨hc, hr, h.good h0.1 h0.2⟩

omit hp in
theorem OnCurve.eqv {c d : CurveFp} (hc : OnCurve p a b c) (hd : OnCurve p a b d) : c.eqv d = true := by
  simp [CurveFp.eqv, hc.1, hc.2.1, hc.2.2, hd.1, hd.2.1, hd.2.2]

theorem pjEqInf_false {P : PJ} {g} (h : PJRep p a b H P g) : pjEqInf P = false := by
  simp [pjEqInf, h.y_ne, h.z_ne]

theorem pjAddCore_correct (hp2 : p ≠ 2) (hH : NoOrder2 H) {P Q : PJ} {g h}
    (hP : PJRep p a b H P g) (hQ : PJRep p a b H Q h) :
    ∃ R, pjAddCore P Q = .ok R ∧ PtRep p a b H R (g + h) := by
  unfold pjAddCore
  rw [hP.onCurve.eqv hQ.onCurve]
  simp only [Bool.not_true, Bool.false_eq_true, if_false]
  refine ⟨_, rfl, ?_⟩
  rw [hP.onCurve.p_eq, hP.onCurve.a_eq]
  exact coordsOut_rep hP.1 _ (k_add_correct hp2 hH hP.irep hQ.irep)
    (k_add_inRange _ _ hP.inRange hQ.inRange.x hQ.inRange.z)

theorem pjAdd_correct (hp2 : p ≠ 2) (hH : NoOrder2 H) {P : PJ} {other : Pt} {g h}
    (hP : PJRep p a b H P g) (hQ : PtRep p a b H other h) :
    ∃ R, pjAdd P other = .ok R ∧ PtRep p a b H R (g + h) := by
  unfold pjAdd
  simp only [pjEq, pjEqInf_false hP, Bool.false_eq_true, if_false]
  cases other with
  | infinity =>
    simp only [PtRep] at hQ
    exact ⟨_, rfl, by rw [hQ, add_zero]; exact hP⟩
  | jac Q =>
    simp only [pjEqInf_false hQ, Bool.false_eq_true, if_false]
    exact pjAddCore_correct hp2 hH hP hQ
  | aff A => exact pjAddCore_correct hp2 hH hP (AffRep.pj hH hQ false)

theorem pjDouble_of_irep (hH : NoOrder2 H) {P : PJ} {g} (hc : OnCurve p a b P.curve)
    (hi : IRep p a b H (P.x, P.y, P.z) g) : PtRep p a b H (pjDouble P) (g + g) := by
  unfold pjDouble
  split_ifs with h0
  · rw [hi.eq_zero (Or.inl (beq_iff_eq.mp h0)), add_zero]; rfl
  · rw [hc.p_eq, hc.a_eq]
    exact coordsOut_rep hc _ (k_double_correct hH hi) (k_double_inRange _ _ _ _)

theorem pjDouble_correct (hH : NoOrder2 H) {P : PJ} {g} (hP : PJRep p a b H P g) :
    PtRep p a b H (pjDouble P) (g + g) :=
  pjDouble_of_irep hH hP.onCurve hP.irep

theorem pjNeg_correct {P : PJ} {g} (hP : PJRep p a b H P g) : PJRep p a b H (pjNeg P) (-g) := by
  refine ⟨hP.onCurve, ⟨hP.inRange.x, ?_, hP.inRange.z⟩, ?_⟩
  · simp only [pjNeg, pmod, hP.onCurve.p_eq]; exact inRange_fmod _
  · have := good_neg hP.good
    simp only [pjNeg, pmod, hP.onCurve.p_eq]
    convert this using 2
    simp [cast3]

theorem coordsEq_iff (x1 y1 z1 x2 y2 z2 : ℤ) :
    coordsEq p x1 y1 z1 x2 y2 z2 = true ↔
      ((x1 : ZMod p) * z2 ^ 2 = x2 * z1 ^ 2 ∧ (y1 : ZMod p) * z2 ^ 3 = y2 * z1 ^ 3) := by
  simp only [coordsEq, pmod, Bool.and_eq_true, beq_iff_eq, fmod_eq_zero_iff]
  push_cast
  simp only [sub_eq_zero, pow_two, pow_three, mul_assoc]

omit hp in
theorem eqCoords_of_ne {q x1 y1 z1 x2 y2 z2 : ℤ} (h1 : y1 ≠ 0) (h2 : z1 ≠ 0) (h3 : y2 ≠ 0) (h4 : z2 ≠ 0) :
    eqCoords q x1 y1 z1 x2 y2 z2 = coordsEq q x1 y1 z1 x2 y2 z2 := by
  simp [eqCoords, h1, h2, h3, h4]

theorem pjEq_jac_iff {P Q : PJ} {g h} (hP : PJRep p a b H P g) (hQ : PJRep p a b H Q h) :
    pjEq P (.jac Q) = true ↔ g = h := by
  simp only [pjEq, hP.onCurve.eqv hQ.onCurve, Bool.not_true, Bool.false_eq_true, if_false, hP.onCurve.p_eq,
    eqCoords_of_ne hP.y_ne hP.z_ne hQ.y_ne hQ.z_ne, coordsEq_iff]
  rw [← good_equiv_iff hP.good hQ.good, equiv_iff_cross hP.zf_ne hQ.zf_ne]
  rfl

/-- **`PointJacobi.__eq__`** (a legacy point is compared as its `from_affine` object) -/
theorem pjEq_iff (hH : NoOrder2 H) {P : PJ} {other : Pt} {g h}
    (hP : PJRep p a b H P g) (hQ : PtRep p a b H other h) : pjEq P other = true ↔ g = h := by
  cases other with
  | infinity =>
    simp only [PtRep] at hQ
    simp only [pjEq, pjEqInf_false hP, Bool.false_eq_true, false_iff, hQ]
    exact good_ne_zero hP.good
  | jac Q => exact pjEq_jac_iff hP hQ
  | aff A =>
    rw [show pjEq P (.aff A) = pjEq P (.jac (pjFromAffine A)) from rfl]
    exact pjEq_jac_iff hP (AffRep.pj hH hQ false)

omit hp in
theorem some_congr {W : WeierstrassCurve.Affine (ZMod p)} {x y x' y' : ZMod p} (ex : x = x') (ey : y = y')
    (h : W.Nonsingular x y) : ∃ h' : W.Nonsingular x' y', Affine.Point.some x y h = Affine.Point.some x' y' h' := by
  subst ex; subst ey; exact ⟨h, rfl⟩

theorem good_coords {P : Fin 3 → ZMod p} {g} (h : Good (a : ZMod p) (b : ZMod p) H P g) :
    ∃ hn : (shortW (a : ZMod p) (b : ZMod p)).toAffine.Nonsingular (P 0 / P 2 ^ 2) (P 1 / P 2 ^ 3),
      g = Affine.Point.some _ _ hn := by
  obtain ⟨_, _, hz, hn, rfl⟩ := h
  exact ⟨_, Point.toAffine_of_Z_ne_zero hn hz⟩

theorem pjXY_correct {P : PJ} {g} (hP : PJRep p a b H P g) :
    ∃ x y, pjX P = .ok x ∧ pjY P = .ok y ∧ InRange p x ∧ InRange p y ∧
      ∃ hn : (shortW (a : ZMod p) (b : ZMod p)).toAffine.Nonsingular (x : ZMod p) (y : ZMod p),
        g = Affine.Point.some _ _ hn := by
  obtain ⟨hn0, hg⟩ := good_coords hP.good
  simp only [cast3_mk, Matrix.cons_val_zero, Matrix.cons_val_one, Matrix.cons_val_two, Matrix.head_cons,
    Matrix.tail_cons] at hn0 hg
  by_cases hz : P.z = 1
  · refine ⟨P.x, P.y, by simp [pjX, hz], by simp [pjY, hz], hP.inRange.x, hP.inRange.y, ?_⟩
    obtain ⟨h', e⟩ := some_congr (x' := (P.x : ZMod p)) (y' := (P.y : ZMod p)) (by simp [hz]) (by simp [hz]) hn0
    exact ⟨h', hg.trans e⟩
  · have hzf := hP.zf_ne
    obtain ⟨zi, hzi, _, _, hc⟩ := InvMod.inverseMod_prime_cast p P.z hzf
    refine ⟨pmod (P.x * zi ^ 2) p, pmod (P.y * zi ^ 3) p, ?_, ?_, inRange_fmod _, inRange_fmod _, ?_⟩
    · simp only [pjX, hz, if_false, hP.onCurve.p_eq, hzi]; rfl
    · simp only [pjY, hz, if_false, hP.onCurve.p_eq, hzi]; rfl
    · obtain ⟨h', e⟩ := some_congr (x' := ((pmod (P.x * zi ^ 2) p : ℤ) : ZMod p))
        (y' := ((pmod (P.y * zi ^ 3) p : ℤ) : ZMod p))
        (by simp only [pmod]; push_cast; rw [hc, inv_pow, div_eq_mul_inv])
        (by simp only [pmod]; push_cast; rw [hc, inv_pow, div_eq_mul_inv]) hn0
      exact ⟨h', hg.trans e⟩

theorem pjScale_correct {P : PJ} {g} (hP : PJRep p a b H P g) :
    ∃ S, pjScale P = .ok S ∧ PJRep p a b H S g ∧ S.z = 1 ∧ S.curve = P.curve ∧ S.order = P.order ∧
      S.generator = P.generator := by
  by_cases hz : P.z = 1
  · exact ⟨P, by simp [pjScale, hz], hP, hz, rfl, rfl, rfl⟩
  · have hzf := hP.zf_ne
    obtain ⟨zi, hzi, _, _, hc⟩ := InvMod.inverseMod_prime_cast p P.z hzf
    refine ⟨⟨P.curve, pmod (P.x * pmod (zi * zi) p) p, pmod (P.y * pmod (zi * zi) p * zi) p, 1, P.order,
      P.generator⟩, by simp only [pjScale, hz, if_false, hP.onCurve.p_eq, hzi]; rfl, ⟨hP.onCurve, ?_, ?_⟩, rfl, rfl, rfl, rfl⟩
    · exact ⟨inRange_fmod _, inRange_fmod _, inRange_one⟩
    · have := good_smul hP.good (inv_ne_zero hzf)
      convert this using 2
      simp only [pmod, cast3_mk, Matrix.cons_val_zero, Matrix.cons_val_one, Matrix.cons_val_two,
        Matrix.head_cons, Matrix.tail_cons]
      push_cast
      rw [hc]
      congr 1
      · ring
      · congr 1
        · ring
        · rw [inv_mul_cancel₀ hzf]

theorem containsPoint_of {c : CurveFp} (hc : OnCurve p a b c) {x y : ℤ}
    (h : (shortW (a : ZMod p) (b : ZMod p)).toAffine.Nonsingular (x : ZMod p) (y : ZMod p)) :
    containsPoint c x y = true := by
  have e := (Affine.equation_iff _ _).mp h.left
  simp only [shortW, Jacobian.toAffine, zero_mul, add_zero] at e
  simp only [containsPoint, pmod, hc.1, hc.2.1, hc.2.2, beq_iff_eq, fmod_eq_zero_iff]
  push_cast
  linear_combination e

theorem pjToAffine_correct {P : PJ} {g} (hP : PJRep p a b H P g) :
    ∃ A, pjToAffine P = .ok (.aff A) ∧ AffRep p a b H A g ∧ A.order = P.order := by
  obtain ⟨S, hS, rS, zS, cS, oS, _⟩ := pjScale_correct hP
  obtain ⟨hn0, hg⟩ := good_coords rS.good
  simp only [cast3_mk, Matrix.cons_val_zero, Matrix.cons_val_one, Matrix.cons_val_two, Matrix.head_cons,
    Matrix.tail_cons, zS, Int.cast_one, one_pow, div_one] at hn0 hg
  refine ⟨⟨S.curve, S.x, S.y, S.order⟩, ?_, ⟨rS.onCurve, rS.inRange.x, rS.inRange.y, rS.mem, hn0, hg.symm⟩, oS⟩
  have h0 : (P.y == 0 || P.z == 0) = false := by simp [hP.y_ne, hP.z_ne]
  simp only [pjToAffine, h0, Bool.false_eq_true, if_false, hS, ok_bind, mkPoint, containsPoint_of rS.onCurve hn0,
    if_true]

end Jac
