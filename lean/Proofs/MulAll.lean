import Proofs.MulAdd
import Proofs.MulTable
import Proofs.LegacyMul
/-!
# Proofs.MulAll — `P * k` (both paths) and `P.mul_add(a, Q, b)` for fresh objects, all integers

`MulOK P g`: the stored object `P` denotes `g`, its declared order (if any) annihilates `g`, and a generator point
declares a positive order (otherwise `_maybe_precompute` raises AssertionError / builds a one-entry table).
`MulOK0`: the same with identity-valued `PointJacobi` objects admitted (Y = 0 or Z = 0); such an object must not carry the
generator flag: `_maybe_precompute` raises AttributeError on it (`INFINITY.scale()`), in the code and in the model.
-/
namespace Jac
open WeierstrassCurve WeierstrassCurve.Jacobian Curve

variable {p : ℕ} [hp : Fact p.Prime] {a b : ℤ} {H : AddSubgroup (Grp (a : ZMod p) (b : ZMod p))}

def MulOK (p : ℕ) [Fact p.Prime] (a b : ℤ) (H : AddSubgroup (Grp (a : ZMod p) (b : ZMod p)))
    (P : PJ) (g : Grp (a : ZMod p) (b : ZMod p)) : Prop :=
  PJRep p a b H P g ∧ (∀ n, truthy P.order = some n → n • g = 0) ∧
    (P.generator = true → ∃ o, truthy P.order = some o ∧ 0 < o)

namespace MulOK
theorem rep {P : PJ} {g} (h : MulOK p a b H P g) : PJRep p a b H P g := h.1
theorem annihilates {P : PJ} {g} (h : MulOK p a b H P g) :
    ∀ n, truthy P.order = some n → n • g = 0 := h.2.1
end MulOK

theorem pjMulWith_zero_one {pre : List (ℤ × ℤ)} {P : PJ} {g} (hP : PJRep p a b H P g) (k : ℤ)
    (hk : k = 0 ∨ k = 1) : ∃ R, pjMulWith pre P k = .ok R ∧ PtRep p a b H R (k • g) := by
  unfold pjMulWith
  rcases hk with rfl | rfl
  · exact ⟨.infinity, by simp, by simp [PtRep]⟩
  · exact ⟨.jac P, by simp [hP.y_ne], by simpa [PtRep] using hP⟩

theorem pjMul_correct (hp2 : p ≠ 2) (hH : NoOrder2 H) {P : PJ} {g} (hP : MulOK p a b H P g) (k : ℤ) :
    ∃ R, pjMul P k = .ok R ∧ PtRep p a b H R (k • g) := by
  unfold pjMul
  obtain ⟨rP, ho, hg⟩ := hP
  cases hgen : P.generator with
  | false => exact pjMul_naf_correct hp2 hH rP hgen ho k
  | true =>
    by_cases hk : k = 0 ∨ k = 1
    · exact pjMulWith_zero_one rP k hk
    · obtain ⟨o, hto, hpos⟩ := hg hgen
      simp only [not_or] at hk
      exact pjMul_generator_correct hp2 hH rP hto hpos (ho o hto) hgen k hk.1 hk.2

theorem mulEnv_fresh (hp2 : p ≠ 2) (hH : NoOrder2 H) {P : PJ} {g} (hP : MulOK p a b H P g) :
    (Reading.strict hp2 hH).MulEnv [] P g := by
  obtain ⟨rP, ho, hg⟩ := hP
  cases hgen : P.generator with
  | false =>
    refine ⟨[], by simp [maybePrecompute, hgen], ?_⟩
    intro S rS oS gS k
    exact pjMul_naf_correct hp2 hH rS (gS.trans hgen) (fun n hn => ho n (oS ▸ hn)) k
  | true =>
    obtain ⟨o, hto, hpos⟩ := hg hgen
    obtain ⟨table, et, hT, hlen⟩ := precomputeTable_correct hH rP hto hpos
    refine ⟨table, by simp [maybePrecompute, hgen, et], ?_⟩
    intro S rS oS gS k
    by_cases hk : k = 0 ∨ k = 1
    · exact pjMulWith_zero_one rS k hk
    · simp only [not_or] at hk
      exact pjMulWith_table_correct hp2 hH rS (oS ▸ hto) hpos (ho o hto) hT hlen k hk.1 hk.2

def PtMulOK (p : ℕ) [Fact p.Prime] (a b : ℤ) (H : AddSubgroup (Grp (a : ZMod p) (b : ZMod p))) :
    Pt → Grp (a : ZMod p) (b : ZMod p) → Prop
  | .infinity, h => h = 0
  | .jac Q, h => MulOK p a b H Q h
  | .aff A, h => AffRep p a b H A h ∧ ∀ n, truthy A.order = some n → n • h = 0

theorem PtMulOK.rep {other : Pt} {h} (hO : PtMulOK p a b H other h) : PtRep p a b H other h := by
  cases other with
  | infinity => exact hO
  | jac Q => exact hO.1
  | aff A => exact hO.1

theorem ptMul_correct (hp2 : p ≠ 2) (hH : NoOrder2 H) {other : Pt} {h} (hO : PtMulOK p a b H other h)
    (k : ℤ) : ∃ R, ptMulWith [] other k = .ok R ∧ PtRep p a b H R (k • h) := by
  cases other with
  | infinity =>
    have : h = 0 := hO
    exact ⟨.infinity, rfl, by simp [PtRep, this]⟩
  | jac Q => exact pjMul_correct hp2 hH hO k
  | aff A => exact affMul_correct hp2 hH hO.1 hO.2 k

theorem pjMulAdd_correct (hp2 : p ≠ 2) (hH : NoOrder2 H) {P : PJ} {other : Pt} {g h}
    (hP : MulOK p a b H P g) (hO : PtMulOK p a b H other h)
    (ho : ∀ n, truthy P.order = some n → n • h = 0) (sm om : ℤ) :
    ∃ R, pjMulAdd P sm other om = .ok R ∧ PtRep p a b H R (sm • g + om • h) := by
  unfold pjMulAdd
  refine (Reading.strict hp2 hH).pjMulAddWith_correct hP.rep hO.rep (fun n hn => ⟨hP.annihilates n hn, ho n hn⟩)
    (fun k => pjMul_correct hp2 hH hP k) (fun k => ptMul_correct hp2 hH hO k) (mulEnv_fresh hp2 hH hP)
    ?_ sm om
  intro Q rQ hQ
  rcases hQ with rfl | ⟨A, rfl, rfl⟩
  · exact mulEnv_fresh hp2 hH hO
  · exact mulEnv_fresh hp2 hH ⟨rQ, hO.2, by simp [pjFromAffine]⟩

def MulOK0 (p : ℕ) [Fact p.Prime] (a b : ℤ) (H : AddSubgroup (Grp (a : ZMod p) (b : ZMod p)))
    (P : PJ) (g : Grp (a : ZMod p) (b : ZMod p)) : Prop :=
  PJRep0 p a b H P g ∧ (∀ n, truthy P.order = some n → n • g = 0) ∧
    (P.generator = true → g ≠ 0 ∧ ∃ o, truthy P.order = some o ∧ 0 < o)

theorem MulOK.ok0 {P : PJ} {g} (h : MulOK p a b H P g) : MulOK0 p a b H P g :=
  ⟨h.rep.rep0, h.annihilates, fun hg => ⟨good_ne_zero h.rep.good, h.2.2 hg⟩⟩

namespace MulOK0
theorem rep {P : PJ} {g} (h : MulOK0 p a b H P g) : PJRep0 p a b H P g := h.1
theorem annihilates {P : PJ} {g} (h : MulOK0 p a b H P g) :
    ∀ n, truthy P.order = some n → n • g = 0 := h.2.1
end MulOK0

theorem MulOK0.ok_of_generator {P : PJ} {g} (h : MulOK0 p a b H P g) (hgen : P.generator = true) :
    g ≠ 0 ∧ MulOK p a b H P g :=
  ⟨(h.2.2 hgen).1, h.rep.good_of_ne (h.2.2 hgen).1, h.annihilates, fun _ => (h.2.2 hgen).2⟩

theorem pjMul_correct0 (hp2 : p ≠ 2) (hH : NoOrder2 H) {P : PJ} {g} (hP : MulOK0 p a b H P g) (k : ℤ) :
    ∃ R, pjMul P k = .ok R ∧ PtRep0 p a b H R (k • g) := by
  cases hgen : P.generator with
  | false => exact (Reading.loose hp2 hH).pjMul_naf hP.rep hgen hP.annihilates k
  | true =>
    obtain ⟨R, e, hR⟩ := pjMul_correct hp2 hH (hP.ok_of_generator hgen).2 k
    exact ⟨R, e, hR.rep0⟩

theorem mulEnv_fresh0 (hp2 : p ≠ 2) (hH : NoOrder2 H) {P : PJ} {g} (hP : MulOK0 p a b H P g) :
    (Reading.loose hp2 hH).MulEnv [] P g := by
  cases hgen : P.generator with
  | false =>
    refine ⟨[], by simp [maybePrecompute, hgen], ?_⟩
    intro S rS oS gS k
    exact (Reading.loose hp2 hH).pjMul_naf rS (gS.trans hgen) (fun n hn => hP.annihilates n (oS ▸ hn)) k
  | true =>
    obtain ⟨hne, hok⟩ := hP.ok_of_generator hgen
    obtain ⟨t, et, hm⟩ := mulEnv_fresh hp2 hH hok
    refine ⟨t, et, ?_⟩
    intro S rS oS gS k
    obtain ⟨R, e, hR⟩ := hm S (rS.good_of_ne hne) oS gS k
    exact ⟨R, e, hR.rep0⟩

def PtMulOK0 (p : ℕ) [Fact p.Prime] (a b : ℤ) (H : AddSubgroup (Grp (a : ZMod p) (b : ZMod p))) :
    Pt → Grp (a : ZMod p) (b : ZMod p) → Prop
  | .infinity, h => h = 0
  | .jac Q, h => MulOK0 p a b H Q h
  | .aff A, h => AffRep p a b H A h ∧ ∀ n, truthy A.order = some n → n • h = 0

theorem PtMulOK0.rep {other : Pt} {h} (hO : PtMulOK0 p a b H other h) : PtRep0 p a b H other h := by
  cases other with
  | infinity => exact hO
  | jac Q => exact hO.1
  | aff A => exact hO.1

theorem ptMul_correct0 (hp2 : p ≠ 2) (hH : NoOrder2 H) {other : Pt} {h} (hO : PtMulOK0 p a b H other h)
    (k : ℤ) : ∃ R, ptMulWith [] other k = .ok R ∧ PtRep0 p a b H R (k • h) := by
  cases other with
  | infinity =>
    have : h = 0 := hO
    exact ⟨.infinity, rfl, by simp [PtRep0, this]⟩
  | jac Q => exact pjMul_correct0 hp2 hH hO k
  | aff A =>
    obtain ⟨R, e, hR⟩ := affMul_correct hp2 hH hO.1 hO.2 k
    exact ⟨R, e, hR.rep0⟩

theorem pjMulAdd_correct0 (hp2 : p ≠ 2) (hH : NoOrder2 H) {P : PJ} {other : Pt} {g h}
    (hP : MulOK0 p a b H P g) (hO : PtMulOK0 p a b H other h)
    (ho : ∀ n, truthy P.order = some n → n • h = 0) (sm om : ℤ) :
    ∃ R, pjMulAdd P sm other om = .ok R ∧ PtRep0 p a b H R (sm • g + om • h) := by
  unfold pjMulAdd
  refine (Reading.loose hp2 hH).pjMulAddWith_correct hP.rep hO.rep (fun n hn => ⟨hP.annihilates n hn, ho n hn⟩)
    (fun k => pjMul_correct0 hp2 hH hP k) (fun k => ptMul_correct0 hp2 hH hO k) (mulEnv_fresh0 hp2 hH hP)
    ?_ sm om
  intro Q rQ hQ
  rcases hQ with rfl | ⟨A, rfl, rfl⟩
  · exact mulEnv_fresh0 hp2 hH hO
  · exact mulEnv_fresh0 hp2 hH ⟨rQ, hO.2, by simp [pjFromAffine]⟩

end Jac
