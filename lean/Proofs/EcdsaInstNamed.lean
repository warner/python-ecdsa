import Proofs.EcdsaInstCard
import Proofs.NamedCurves
import Generated.Curves
/-!
# Proofs.EcdsaInstNamed — the 16 named cofactor-1 curves satisfy `OnCurve.MatchesRec` under **p prime, n prime,
#E(𝔽_p) = n**; everything else is computed by the kernel on the rows of `Generated/Curves.lean`
(`Named.all_rows_checked`).  SECP112r2 has h = 4 and is not in this list.
-/
namespace Ecdsa.OnCurve
open Curve Jac GroupInterface WeierstrassCurve

/-- the curve description the driver receives for a row of the curve table (generator: `PointJacobi`) -/
def crvOfRow (row : Gen.CurveRow) : Affine.Crv := ⟨row.p, row.a, row.b, row.gx, row.gy, row.n, row.h, true⟩

/-- the 16 named curves with cofactor 1, in the order of the generated table (which has SECP112r2 in between) -/
theorem named_sublist : [Gen.curve_NIST192p, Gen.curve_NIST224p, Gen.curve_NIST256p, Gen.curve_NIST384p,
    Gen.curve_NIST521p, Gen.curve_SECP256k1, Gen.curve_BRAINPOOLP160r1, Gen.curve_BRAINPOOLP192r1,
    Gen.curve_BRAINPOOLP224r1, Gen.curve_BRAINPOOLP256r1, Gen.curve_BRAINPOOLP320r1, Gen.curve_BRAINPOOLP384r1,
    Gen.curve_BRAINPOOLP512r1, Gen.curve_SECP112r1, Gen.curve_SECP128r1, Gen.curve_SECP160r1].Sublist Gen.curveTable := by
  simp [Gen.curveTable]

theorem matchesRec_of_row (row : Gen.CurveRow) [hp : Fact row.p.Prime] (hnp : row.n.Prime)
    (hcard : Nat.card (Grp ((row.a : ℤ) : ZMod row.p) ((row.b : ℤ) : ZMod row.p)) = row.n)
    (hmem : row ∈ Gen.curveTable) :
    ∃ C : Ctx row.p row.a row.b, MatchesRec (crvOfRow row) C ∧ C.n = row.n :=
  ⟨_, Named.matchesRec_row (Named.checked_of_mem hmem) hnp hcard, rfl⟩

end Ecdsa.OnCurve
