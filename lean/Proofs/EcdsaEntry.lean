import Proofs.EcdsaRoundTrip
/-!
# Proofs.EcdsaEntry — sign → verify through the entry points of `keys.py`
-/
namespace Ecdsa

variable {P : Type} {𝔾 : Type} [AddCommGroup 𝔾]
variable {ops : PointOps P} {G : 𝔾} {den : P → 𝔾} {xc : 𝔾 → Option ℤ} {valid : P → Prop}

/-- What sign→verify needs of an encoder/decoder pair at order `n`: whatever the encoder emits for `(r, s)` with
`0 ≤ r < n`, `1 ≤ s < n`, the decoder reads back `r` and either `s` (plain encoders: C12) or `n − s`
(the low-S encoders may reflect: C13). -/
def Codec {β σ : Type} (enc : ℤ → ℤ → ℤ → Res β) (wrap : β → σ) (dec : σ → ℕ → Res (ℕ × ℕ)) (n : ℤ) : Prop :=
  ∀ r s sig, 0 ≤ r → r < n → 1 ≤ s → s < n → enc r s n = .ok sig →
    ∃ s' : ℕ, dec (wrap sig) n.toNat = .ok (r.toNat, s') ∧ ((s' : ℤ) = s ∨ (s' : ℤ) = n - s)

/-- the `assert 1 <= k < order` of `sign_number`, for an explicit or a drawn nonce -/
theorem signNumber_eq_ok (ops : PointOps P) (d e : ℤ) (k : Option ℤ) (rand : ℤ → Res ℤ) (r s : ℤ)
    (hsig : signNumber ops d e k rand = .ok (r, s)) :
    ∃ k', 1 ≤ k' ∧ k' < ops.order ∧ sign ops d e k' = .ok (r, s) := by
  have key (k' : ℤ) (h : (if (!Gen.Ecdsa.sign_number_k_ok k' ops.order) = true then .error .assertionError
      else sign ops d e k') = Except.ok (r, s)) : ∃ k', 1 ≤ k' ∧ k' < ops.order ∧ sign ops d e k' = .ok (r, s) := by
    split at h
    · cases h
    · rename_i hok
      simp only [Gen.Ecdsa.sign_number_k_ok, Bool.not_eq_true, Bool.not_eq_false', Bool.and_eq_true,
        decide_eq_true_eq] at hok
      exact ⟨k', hok.1, hok.2, h⟩
  unfold signNumber at hsig
  cases k with
  | some k0 => exact key k0 hsig
  | none => obtain ⟨k0, -, h⟩ := Res.bind_ok hsig; exact key k0 h

theorem signNumber_verifies (C : PointOpsCorrect ops G den xc valid) (d e : ℤ) (k : Option ℤ) (rand : ℤ → Res ℤ)
    (r s : ℤ) (hsig : signNumber ops d e k rand = .ok (r, s)) (Q : P) (hQ : valid Q) (hQd : den Q = d • G) :
    verifies ops Q e r s = .ok true ∧ (1 ≤ r ∧ r < ops.order) ∧ (1 ≤ s ∧ s < ops.order) := by
  obtain ⟨k', h1, h2, hs⟩ := signNumber_eq_ok ops d e k rand r s hsig
  have hnd := not_dvd_of_range h1 h2
  obtain ⟨-, -, -, hr, hs', -⟩ := sign_eq_ok C hnd hs
  exact ⟨sign_verifies C d e k' r s hnd hs Q hQ hQd, hr, hs'⟩

theorem signDigest_eq_ok {β : Type} {ops : PointOps P} {d : ℤ} {dg : Bytes} {k : Option ℤ} {rand : ℤ → Res ℤ}
    {enc : ℤ → ℤ → ℤ → Res β} {allow : Bool} {sig : β} (h : signDigest ops d dg k rand enc allow = .ok sig) :
    ∃ e r s, truncateAndConvertDigest dg (baselen ops) ops.order allow = .ok e ∧
      signNumber ops d e k rand = .ok (r, s) ∧ enc r s ops.order = .ok sig := by
  unfold signDigest at h
  obtain ⟨e, he, h⟩ := Res.bind_ok h
  obtain ⟨⟨r, s⟩, hrs, h⟩ := Res.bind_ok h
  exact ⟨e, r, s, he, hrs, h⟩

theorem verifyDigest_of_verifies {σ : Type} {ops : PointOps P} {Q : P} {dec : σ → ℕ → Res (ℕ × ℕ)} {sig : σ} {dg : Bytes}
    {allow : Bool} {e : ℤ} {r s : ℕ} (ht : truncateAndConvertDigest dg (baselen ops) ops.order allow = .ok e)
    (hd : dec sig ops.order.toNat = .ok (r, s)) (hv : verifies ops Q e r s = .ok true) :
    verifyDigest ops Q dec sig dg allow = .ok true := by
  unfold verifyDigest
  simp only [ht, hd, mapDecodeError, bind, Except.bind, hv]
  rfl

section
open Classical
theorem verifyDigest_eq_fips {σ : Type} (C : PointOpsCorrect ops G den xc valid) (Q : P) (hQ : valid Q)
    {dec : σ → ℕ → Res (ℕ × ℕ)} {sig : σ} {dg : Bytes} {allow : Bool} {e : ℤ} {r s : ℕ}
    (ht : truncateAndConvertDigest dg (baselen ops) ops.order allow = .ok e)
    (hd : dec sig ops.order.toNat = .ok (r, s)) :
    verifyDigest ops Q dec sig dg allow =
      if Fips ops.order G (den Q) xc e r s then .ok true else .error .badSignature := by
  unfold verifyDigest
  simp only [ht, hd, mapDecodeError, bind, Except.bind, verifies_spec C Q hQ]
  by_cases hf : Fips ops.order G (den Q) xc e r s
  · simp only [hf, decide_true, if_true]
  · simp only [hf, decide_false, if_false, Bool.false_eq_true]
end

/-- sign_digest → verify_digest: any nonce source, any codec pair, equal truncation flags -/
theorem signDigest_verifies {β σ : Type} (C : PointOpsCorrect ops G den xc valid) (d : ℤ) (Q : P) (hQ : valid Q)
    (hQd : den Q = d • G) (dg : Bytes) (k : Option ℤ) (rand : ℤ → Res ℤ)
    (enc : ℤ → ℤ → ℤ → Res β) (wrap : β → σ) (dec : σ → ℕ → Res (ℕ × ℕ)) (hcodec : Codec enc wrap dec ops.order)
    (allow : Bool) (sig : β) (hsig : signDigest ops d dg k rand enc allow = .ok sig) :
    verifyDigest ops Q dec (wrap sig) dg allow = .ok true := by
  obtain ⟨e, r, s, ht, hs, henc⟩ := signDigest_eq_ok hsig
  obtain ⟨hv, hr, hs1⟩ := signNumber_verifies C d e k rand r s hs Q hQ hQd
  obtain ⟨s', hdec, hs'⟩ := hcodec r s sig (by omega) hr.2 hs1.1 hs1.2 henc
  refine verifyDigest_of_verifies ht hdec ?_
  rw [Int.toNat_of_nonneg (by omega)]
  -- a low-S encoder may have reflected `s`: the key lies in ⟨G⟩, so `n − s` verifies as well
  rcases hs' with h | h <;> rw [h]
  · exact hv
  · rw [verifies_neg_s_core C Q hQ (by rw [hQd]; exact zsmul_zsmul_eq_zero C.nG d)]; exact hv

/-- the RFC 6979 loop calls `sign_digest` with `sigencode=simple_r_s` and encodes afterwards -/
theorem signDigest_eq_simple {β : Type} (ops : PointOps P) (d : ℤ) (dg : Bytes) (k : Option ℤ) (rand : ℤ → Res ℤ)
    (enc : ℤ → ℤ → ℤ → Res β) (allow : Bool) :
    signDigest ops d dg k rand enc allow =
      signDigest ops d dg k rand (fun r s o => .ok (r, s, o)) allow >>= fun t => enc t.1 t.2.1 t.2.2 := by
  unfold signDigest
  simp only [bind, Except.bind]
  cases truncateAndConvertDigest dg (baselen ops) ops.order allow with
  | error err => rfl
  | ok e => simp only; cases signNumber ops d e k rand <;> rfl

/-- sign_digest_deterministic → verify_digest: after any number of `RSZeroError` retries, for any `generate_k` -/
theorem signDigestDeterministic_verifies {β σ : Type} (C : PointOpsCorrect ops G den xc valid) (d : ℤ) (Q : P)
    (hQ : valid Q) (hQd : den Q = d • G) (dg : Bytes) (genK : ℕ → Res ℤ)
    (enc : ℤ → ℤ → ℤ → Res β) (wrap : β → σ) (dec : σ → ℕ → Res (ℕ × ℕ)) (hcodec : Codec enc wrap dec ops.order)
    (allow : Bool) (fuel retry : ℕ) (sig : β)
    (hsig : signDigestDeterministic ops d dg genK enc allow fuel retry = some (.ok sig)) :
    verifyDigest ops Q dec (wrap sig) dg allow = .ok true := by
  induction fuel generalizing retry with
  | zero => cases hsig
  | succ fuel ih =>
    unfold signDigestDeterministic at hsig
    split at hsig
    · cases hsig
    · rename_i k _
      split at hsig
      · rename_i hs
        refine signDigest_verifies C d Q hQ hQd dg (some k) (fun _ => .error .other) enc wrap dec hcodec allow sig ?_
        rw [signDigest_eq_simple, hs]
        exact Option.some.inj hsig
      · exact ih _ hsig
      · cases hsig

end Ecdsa
