import Proofs.NTFact
import Mathlib.FieldTheory.Finite.Basic
import Mathlib.GroupTheory.OrderOfElement
/-!
# Proofs.PrimeCert — Pocklington / Pratt primality certificates checked by the kernel

`N` is certified from a partial factorisation `N − 1 = F·R`, `R ≤ F + 1`, `F` a product of primes: for each prime `q ∣ F` a
witness `a` with `a^(N−1) ≡ 1` and `gcd(a^((N−1)/q) − 1, N) = 1` (Pocklington's theorem; with `R = 1` this is a Pratt / Lucas
certificate).  A chain of such entries is evaluated by `decide +kernel`.
-/
namespace PrimeCert

/-- `b ^ e % m`, reading `e` in base `w` from the most significant digit; structural in `fuel`, which may be any bound of `e`
(only as many steps are unfolded as `e` has digits).  Spelt with `Nat.mul`, `Nat.mod`, … themselves because kernel evaluation
unfolds the instance chain of a notation at every step. -/
def powModAux (w m b : ℕ) : ℕ → ℕ → ℕ
  | 0, _ => Nat.mod 1 m
  | fuel + 1, e =>
    cond (Nat.beq e 0) (Nat.mod 1 m)
      (Nat.mod (Nat.mul (Nat.mod (Nat.pow (powModAux w m b fuel (Nat.div e w)) w) m) (Nat.pow b (Nat.mod e w))) m)

theorem powModAux_eq {w : ℕ} (hw : 2 ≤ w) (m b : ℕ) : ∀ fuel e, e ≤ fuel → powModAux w m b fuel e = b ^ e % m
  | 0, e, h => by
    obtain rfl : e = 0 := by omega
    rfl
  | fuel + 1, 0, _ => rfl
  | fuel + 1, e + 1, h => by
    have ih := powModAux_eq hw m b fuel ((e + 1) / w) (Nat.le_of_lt_succ ((Nat.div_lt_self e.succ_pos hw).trans_le h))
    show powModAux w m b fuel ((e + 1) / w) ^ w % m * b ^ ((e + 1) % w) % m = _
    -- `b ^ e = (b ^ (e / w)) ^ w * b ^ (e % w)`
    rw [ih, ← Nat.pow_mod, Nat.mod_mul_mod, ← pow_mul, ← pow_add, mul_comm, Nat.div_add_mod]

def powMod (b e m : ℕ) : ℕ := powModAux 256 m b e e

theorem powMod_eq (b e m : ℕ) : powMod b e m = b ^ e % m := powModAux_eq (by decide) m b e e le_rfl

/-- An entry lists the prime factors of `F` with multiplicity: those below 37² as they are (`NTProofs.tdPrime` checks them),
the others as positions among the entries AFTER this one, whose subjects are computed first; and the cofactor `R`.  Nothing
else is written down: the subject is computed as `F·R + 1`, so `F ∣ N − 1` holds by construction, and the witnesses are found
by search. -/
structure Entry where
  smalls : List Nat
  refs : List Nat
  R : Nat

def Entry.primes (E : Entry) (ts : List Nat) : List Nat := E.smalls ++ E.refs.filterMap (ts[·]?)

def Entry.subject (E : Entry) (ts : List Nat) : Nat := (E.primes ts).prod * E.R + 1

/-- `x = a^((N−1)/q) mod N` is computed once: `a^(N−1) = x^q` -/
def witnessed (N q : Nat) : Bool :=
  [2, 3, 5, 7, 11, 13, 17, 19].any fun a =>
    let x := powMod a ((N - 1) / q) N
    powMod x q N == 1 && Nat.gcd (x - 1) N == 1

/-- `chk` on every element, once per run of equal elements -/
def allChecked (chk : Nat → Bool) : List Nat → Bool
  | [] => true
  | [q] => chk q
  | q :: q' :: l => (q == q' || chk q) && allChecked chk (q' :: l)

/-- `1369 = 37²`: below it, trial division by the primes below 37 (`tdPrime`) decides primality -/
def entryOK (E : Entry) (ts : List Nat) : Bool :=
  let N := E.subject ts
  decide (1 ≤ E.R) && decide (E.R ≤ (E.primes ts).prod + 1) &&
  allChecked (fun q => decide (q < 1369) && NTProofs.tdPrime q && witnessed N q) E.smalls &&
  allChecked (witnessed N) (E.refs.filterMap (ts[·]?))

def subjects : List Entry → Option (List Nat)
  | [] => some []
  | E :: rest => (subjects rest).bind fun ts => if entryOK E ts then some (E.subject ts :: ts) else none

def certifies (l : List Entry) (ns : List Nat) : Bool := (subjects l).any fun ts => ns.all ts.contains

/-- Pocklington's criterion for one prime power: a prime divisor `r` of `N` is ≡ 1 modulo `q^e`, because in `ZMod r` the
element `a^((N−1)/q^e)` has order exactly `q^e` -/
theorem pocklington_prime_pow {N q e a x : ℕ} (hq : q.Prime) (he : 1 ≤ e) (hdiv : q ^ e ∣ N - 1) (hx : x = a ^ ((N - 1) / q) % N)
    (h1 : x ^ q % N = 1) (h2 : Nat.gcd (x - 1) N = 1) {r : ℕ} (hr : r.Prime) (hrN : r ∣ N) : q ^ e ∣ r - 1 := by
  have := Fact.mk hr
  have cast_mod (t : ℕ) : ((t % N : ℕ) : ZMod r) = t :=
    (ZMod.natCast_eq_natCast_iff _ _ _).mpr ((Nat.mod_modEq t N).of_dvd hrN)
  have hxa : (x : ZMod r) = (a : ZMod r) ^ ((N - 1) / q) := by rw [hx, cast_mod, Nat.cast_pow]
  have hx1 : (x : ZMod r) ^ q = 1 := by rw [← Nat.cast_pow, ← cast_mod, h1, Nat.cast_one]
  have hx2 : (x : ZMod r) ≠ 1 := by
    intro h
    have hpos : 1 ≤ x := by
      rcases Nat.eq_zero_or_pos x with rfl | hpos
      · rw [zero_pow hq.ne_zero, Nat.zero_mod] at h1; cases h1
      · exact hpos
    have : ((x - 1 : ℕ) : ZMod r) = 0 := by rw [Nat.cast_sub hpos, h, Nat.cast_one, sub_self]
    have hg := Nat.dvd_gcd ((ZMod.natCast_eq_zero_iff _ _).mp this) hrN
    rw [h2] at hg
    exact hr.one_lt.ne' (Nat.dvd_one.mp hg)
  obtain ⟨m, hm⟩ := hdiv
  obtain ⟨e', rfl⟩ : ∃ e', e = e' + 1 := ⟨e - 1, by omega⟩
  have hdivq : (N - 1) / q = m * q ^ e' := by
    rw [hm, pow_succ, mul_right_comm, Nat.mul_div_cancel _ hq.pos, mul_comm]
  have hy1 : ((a : ZMod r) ^ m) ^ q ^ (e' + 1) = 1 := by
    rw [pow_succ, pow_mul, ← pow_mul (a : ZMod r), ← hdivq, ← hxa, hx1]
  have hy2 : ¬ ((a : ZMod r) ^ m) ^ q ^ e' = 1 := by rwa [← pow_mul, ← hdivq, ← hxa]
  have := Fact.mk hq
  rw [← orderOf_eq_prime_pow hy2 hy1]
  refine ZMod.orderOf_dvd_card_sub_one fun h0 => ?_
  rw [h0, zero_pow (pow_ne_zero _ hq.ne_zero)] at hy1
  exact zero_ne_one hy1

theorem allChecked_spec {chk : ℕ → Bool} : ∀ {l : List ℕ}, allChecked chk l = true → ∀ q ∈ l, chk q = true
  | [q], h, q', hq' => by rwa [List.mem_singleton.mp hq']
  | q :: q' :: l, h, x, hx => by
    simp only [allChecked, Bool.and_eq_true, Bool.or_eq_true, beq_iff_eq] at h
    have ih := allChecked_spec h.2
    rcases List.mem_cons.mp hx with rfl | hmem
    · rcases h.1 with rfl | h'
      · exact ih x (List.mem_cons_self ..)
      · exact h'
    · exact ih x hmem

/-- Pocklington's theorem: every prime factor `r` of `N = F·R + 1` satisfies `F ∣ r − 1`, and `N ≤ F·(F + 1) + 1 < (F + 1)²` -/
theorem prime_of_witnessed {qs : List ℕ} {R : ℕ} (hq : ∀ q ∈ qs, q.Prime) (h1 : 1 ≤ R) (hR : R ≤ qs.prod + 1)
    (hw : ∀ q ∈ qs, witnessed (qs.prod * R + 1) q = true) : (qs.prod * R + 1).Prime := by
  set F := qs.prod
  have hF : 1 ≤ F := Nat.pos_of_ne_zero (List.prod_ne_zero fun h0 => Nat.not_prime_zero (hq 0 h0))
  have hFd {r : ℕ} (hr : r.Prime) (hrN : r ∣ F * R + 1) : F ∣ r - 1 := by
    refine (Nat.dvd_iff_prime_pow_dvd_dvd _ _).mpr fun p k hp hpk => ?_
    rcases Nat.eq_zero_or_pos k with rfl | hk
    · simp
    -- `p` is one of the listed primes, so it has a witness
    obtain ⟨q, hqs, hpq⟩ := (Prime.dvd_prod_iff hp.prime).mp ((dvd_pow_self p hk.ne').trans hpk)
    obtain rfl := (Nat.prime_dvd_prime_iff_eq hp (hq q hqs)).mp hpq
    have hwp := hw p hqs
    simp only [witnessed, List.any_eq_true, Bool.and_eq_true, beq_iff_eq, powMod_eq] at hwp
    obtain ⟨a, -, hx1, hx2⟩ := hwp
    exact pocklington_prime_pow hp hk (by rw [Nat.add_sub_cancel]; exact hpk.mul_right R) rfl hx1 hx2 hr hrN
  have hlt : F * R + 1 < (F + 1) * (F + 1) :=
    calc F * R + 1 ≤ F * (F + 1) + 1 := Nat.succ_le_succ (Nat.mul_le_mul_left F hR)
      _ < (F + 1) * (F + 1) := by rw [Nat.succ_mul]; omega
  have := NTProofs.prime_of_lt_sq (n := (F * R + 1 : ℕ)) (d := (F + 1 : ℕ))
    (by have := Nat.mul_le_mul hF h1; omega) (Int.natCast_nonneg _)
    (fun r hr hrN => by
      have := Nat.le_of_dvd (Nat.sub_pos_of_lt hr.one_lt) (hFd hr (Int.natCast_dvd_natCast.mp hrN))
      have := hr.two_le
      omega)
    (by exact_mod_cast hlt)
  rwa [Int.toNat_natCast] at this

theorem entry_prime {E : Entry} {ts : List ℕ} (hts : ∀ n ∈ ts, n.Prime) (h : entryOK E ts = true) : (E.subject ts).Prime := by
  simp only [entryOK, Bool.and_eq_true, decide_eq_true_eq] at h
  obtain ⟨⟨⟨h1, hR⟩, hs⟩, hb⟩ := h
  have hs := allChecked_spec hs
  have hb := allChecked_spec hb
  simp only [Bool.and_eq_true, decide_eq_true_eq] at hs
  refine prime_of_witnessed (fun q hq => ?_) h1 hR fun q hq => ?_
  · rcases List.mem_append.mp hq with hq | hq
    · exact (NTProofs.tdPrime_iff q (hs q hq).1.1).mp (hs q hq).1.2
    · obtain ⟨i, -, hi⟩ := List.mem_filterMap.mp hq
      exact hts q (List.mem_of_getElem? hi)
  · rcases List.mem_append.mp hq with hq | hq
    · exact (hs q hq).2
    · exact hb q hq

theorem subjects_prime : ∀ {l : List Entry} {ts : List ℕ}, subjects l = some ts → ∀ n ∈ ts, n.Prime
  | [], _, h, n, hn => by cases h; cases hn
  | E :: rest, ts, h, n, hn => by
    simp only [subjects, Option.bind_eq_some_iff] at h
    obtain ⟨ts', hrest, h⟩ := h
    split at h
    · cases h
      rcases List.mem_cons.mp hn with rfl | hmem
      · exact entry_prime (subjects_prime hrest) ‹_›
      · exact subjects_prime hrest n hmem
    · cases h

theorem prime_of_certifies {l : List Entry} {ns : List ℕ} (h : certifies l ns = true) : ∀ n ∈ ns, n.Prime := by
  simp only [certifies, Option.any_eq_true, List.all_eq_true, List.contains_iff_mem] at h
  obtain ⟨ts, hts, hns⟩ := h
  exact fun n hn => subjects_prime hts n (hns n hn)

/-- non-vacuity: 2^61 − 1 from the partial factorisation 2·3²·5²·7·11·13·31·41·61·151·331 of 2^61 − 2 (Pocklington: the
factor 1321 is not needed) -/
example : (2305843009213693951 : ℕ).Prime :=
  prime_of_certifies (l := [⟨[2, 3, 3, 5, 5, 7, 11, 13, 31, 41, 61, 151, 331], [], 1321⟩]) (ns := [2305843009213693951])
    (by decide +kernel) _ (List.mem_singleton_self _)

end PrimeCert
