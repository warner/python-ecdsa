import Model.Rand
import Model.Rfc6979
import Proofs.UtilNum
/-!
# Proofs.Bits — bit strings (most significant bit first) as the specification vocabulary of C04 and C17

The bit string of a byte string denotes its big-endian value; "the leftmost m bits as an integer" is a division by a
power of two.
-/
namespace Bits
open Rand

/-- the low `w` bits of `v`, most significant first -/
def natBits : Nat → Nat → List Bool
  | 0, _ => []
  | w+1, v => natBits w (v / 2) ++ [decide (v % 2 = 1)]

def bitsOfBytes (s : Bytes) : List Bool := s.flatMap fun b => natBits 8 b.toNat

@[simp] theorem natBits_length (w v : Nat) : (natBits w v).length = w := by
  induction w generalizing v with
  | zero => rfl
  | succ w ih => simp [natBits, ih]

theorem bitsVal_foldl (l : List Bool) (acc : Nat) :
    l.foldl (fun a b => 2 * a + b.toNat) acc = acc * 2 ^ l.length + bitsVal l := by
  induction l generalizing acc with
  | nil => simp [bitsVal]
  | cons b t ih =>
    simp only [List.foldl_cons, List.length_cons, bitsVal]
    rw [ih, ih (2 * 0 + b.toNat)]
    rw [Nat.pow_succ]
    have : (2 * acc + b.toNat) * 2 ^ t.length = acc * (2 ^ t.length * 2) + (2 * 0 + b.toNat) * 2 ^ t.length := by
      rw [Nat.add_mul, Nat.add_mul]; simp only [Nat.mul_zero, Nat.zero_mul, Nat.zero_add]
      rw [Nat.mul_comm 2 acc, Nat.mul_assoc, Nat.mul_comm 2]
    omega

@[simp] theorem bitsVal_nil : bitsVal [] = 0 := rfl

theorem bitsVal_append (a b : List Bool) : bitsVal (a ++ b) = bitsVal a * 2 ^ b.length + bitsVal b := by
  unfold bitsVal
  rw [List.foldl_append, bitsVal_foldl]
  rfl

theorem bitsVal_singleton (b : Bool) : bitsVal [b] = b.toNat := by simp [bitsVal]

theorem bitsVal_cons (b : Bool) (t : List Bool) : bitsVal (b :: t) = b.toNat * 2 ^ t.length + bitsVal t := by
  have := bitsVal_append [b] t
  rwa [bitsVal_singleton] at this

theorem bitsVal_lt (l : List Bool) : bitsVal l < 2 ^ l.length := by
  induction l with
  | nil => simp
  | cons b t ih =>
    rw [bitsVal_cons, List.length_cons, Nat.pow_succ]
    have : b.toNat ≤ 1 := by cases b <;> simp
    have : b.toNat * 2 ^ t.length ≤ 1 * 2 ^ t.length := Nat.mul_le_mul_right _ this
    omega

theorem bitsVal_natBits (w v : Nat) : bitsVal (natBits w v) = v % 2 ^ w := by
  induction w generalizing v with
  | zero => rw [Nat.pow_zero, Nat.mod_one]; rfl
  | succ w ih =>
    have hb : (decide (v % 2 = 1)).toNat = v % 2 := by
      rcases Nat.mod_two_eq_zero_or_one v with h | h <;> rw [h] <;> rfl
    rw [natBits, bitsVal_append, ih, bitsVal_singleton, hb, Nat.pow_succ, Nat.mul_comm (2 ^ w) 2, Nat.mod_mul]
    simp only [List.length_singleton, Nat.pow_one]
    omega

theorem natBits_zero (w : Nat) : natBits w 0 = List.replicate w false := by
  induction w with
  | zero => rfl
  | succ w ih => simp [natBits, ih, List.replicate_succ']

theorem bitsVal_take (l : List Bool) (m : Nat) : bitsVal (l.take m) = bitsVal l / 2 ^ (l.length - m) := by
  have h := bitsVal_append (l.take m) (l.drop m)
  rw [List.take_append_drop] at h
  have hlt := bitsVal_lt (l.drop m)
  rw [List.length_drop] at h hlt
  rw [h, Nat.mul_comm, Nat.mul_add_div (Nat.two_pow_pos _), Nat.div_eq_of_lt hlt, Nat.add_zero]

@[simp] theorem beVal_nil : beVal [] = 0 := rfl

@[simp] theorem bitsOfBytes_length (s : Bytes) : (bitsOfBytes s).length = 8 * s.length := by
  induction s with
  | nil => rfl
  | cons b t ih => simp [bitsOfBytes, List.flatMap_cons] at ih ⊢; omega

theorem bitsOfBytes_cons (b : UInt8) (t : Bytes) : bitsOfBytes (b :: t) = natBits 8 b.toNat ++ bitsOfBytes t := by
  simp [bitsOfBytes, List.flatMap_cons]

theorem bitsVal_bitsOfBytes (s : Bytes) : bitsVal (bitsOfBytes s) = beVal s := by
  induction s with
  | nil => rfl
  | cons b t ih =>
    rw [bitsOfBytes_cons, bitsVal_append, ih, beVal_cons, bitsVal_natBits, bitsOfBytes_length, pow256_two]
    have : b.toNat < 256 := b.toNat_lt
    rw [Nat.mod_eq_of_lt (by simpa using this)]

end Bits
