import Model.NumberTheory
import Proofs.NTMR
/-! `is_prime` (C16): shape of the two branches, completeness on primes, soundness as strong probable prime, exactness below a
bound on strong pseudoprimes -/
namespace NTProofs
open NT Gen.NT

theorem lastSmall_eq : lastSmall = .ok 1229 := by
  unfold lastSmall; rw [smallprimes_getLast]

theorem mr_gcd_const_eq : mr_gcd_const = 2310 := by decide

theorem gcd2_const (N : Nat) : gcd2 N mr_gcd_const = (Nat.gcd N 2310 : Nat) := by
  rw [mr_gcd_const_eq]; simp [gcd2, Int.gcd]

theorem isPrime_small (lg : Int → Int) (n : Int) (hn : n ≤ 1229) : isPrime lg n = .ok (smallprimes.contains n) := by
  simp only [isPrime, lastSmall_eq, bind, Except.bind, hn, ↓reduceIte]

theorem odd_of_gcd {N : Nat} (hg : Nat.gcd N 2310 = 1) : N % 2 = 1 := by
  rcases Nat.mod_two_eq_zero_or_one N with h0 | h1
  · have := Nat.dvd_gcd (Nat.dvd_of_mod_eq_zero h0) (show 2 ∣ 2310 by decide)
    rw [hg] at this; omega
  · exact h1

theorem isPrime_big (lg : Int → Int) (N : Nat) (h : 1229 < N) :
    ∃ k r : Nat, N - 1 = 2 ^ k * r ∧ r % 2 = 1 ∧
      isPrime lg N = if Nat.gcd N 2310 ≠ 1 then .ok false
                     else mrBases N k r (mrRounds (mr_n_bits (lg N))).toNat 0 := by
  obtain ⟨k, r, hs, hr, hodd, hpos⟩ := splitTwos_spec ((N : Int).natAbs + 1) 0 ((N : Int) - 1) (by omega) (by omega)
  obtain ⟨R, rfl⟩ : ∃ R : Nat, r = R := ⟨r.toNat, by omega⟩
  refine ⟨k, R, ?_, by omega, ?_⟩
  · have : ((N - 1 : Nat) : Int) = ((2 ^ k * R : Nat) : Int) := by push_cast; rw [← hr]; omega
    exact_mod_cast this
  · unfold isPrime
    rw [lastSmall_eq]
    simp only [bind, Except.bind]
    rw [if_neg (by omega), hs, gcd2_const]
    simp only [zero_add]
    by_cases hg : Nat.gcd N 2310 = 1
    · simp [hg]
    · have : ¬ ((Nat.gcd N 2310 : Nat) : Int) = 1 := by exact_mod_cast hg
      simp [hg, this]

theorem mrBases_ok (n s r : Int) : ∀ (cnt i : Nat), i + cnt ≤ 201 → ∃ b, mrBases n s r cnt i = .ok b := by
  intro cnt
  induction cnt with
  | zero => intro i _; exact ⟨true, rfl⟩
  | succ c ih =>
    intro i hi
    have hlt : i < smallprimes.length := by rw [smallprimes_length]; omega
    rw [mrBases, List.getElem?_eq_getElem hlt]
    dsimp only
    by_cases hb : mrBase n s r smallprimes[i] = true
    · rw [if_pos hb]; exact ih (i + 1) (by omega)
    · rw [if_neg hb]; exact ⟨false, rfl⟩

theorem mrBases_true_iff (n s r : Int) : ∀ (cnt i : Nat), i + cnt ≤ 201 →
    (mrBases n s r cnt i = .ok true ↔ ∀ j, j < cnt → ∀ a, smallprimes[i + j]? = some a → mrBase n s r a = true) := by
  intro cnt
  induction cnt with
  | zero => intro i _; simp [mrBases]
  | succ c ih =>
    intro i hi
    unfold mrBases
    have hlt : i < smallprimes.length := by rw [smallprimes_length]; omega
    rw [List.getElem?_eq_getElem hlt]
    dsimp only
    by_cases hb : mrBase n s r smallprimes[i] = true
    · rw [if_pos hb, ih (i + 1) (by omega)]
      constructor
      · intro h j hj a ha
        rcases Nat.eq_zero_or_pos j with rfl | hpos
        · rw [Nat.add_zero, List.getElem?_eq_getElem hlt] at ha
          cases ha; exact hb
        · have := h (j - 1) (by omega) a (by rw [← ha]; congr 1; omega)
          exact this
      · intro h j hj a ha
        exact h (j + 1) (by omega) a (by rw [← ha]; congr 1; omega)
    · rw [if_neg hb]
      constructor
      · intro h; cases h
      · intro h
        exact absurd (h 0 (by omega) _ (by rw [Nat.add_zero, List.getElem?_eq_getElem hlt])) hb

theorem rounds_toNat_le (x : Int) : (mrRounds x).toNat ≤ 40 := by
  have := (mrRounds_range x).2; omega

/-- a composite caught by the gcd pre-filter is composite indeed: a divisor of 2310 above 1155 is 2310 itself -/
theorem not_prime_of_gcd (N : Nat) (h : 1229 < N) (hg : Nat.gcd N 2310 ≠ 1) : ¬ N.Prime := by
  intro hp
  apply hg
  rw [← Nat.coprime_iff_gcd_eq_one, Nat.Prime.coprime_iff_not_dvd hp]
  rintro ⟨c, hc⟩
  have : c ≤ 1 := by
    by_contra hc2
    have := Nat.mul_le_mul_left N (show 2 ≤ c by omega)
    omega
  interval_cases c
  · omega
  · rw [Nat.mul_one] at hc; subst hc; revert hp; norm_num

theorem isPrime_complete (lg : Int → Int) (N : Nat) (hp : N.Prime) : isPrime lg N = .ok true := by
  by_cases hsmall : N ≤ 1229
  · rw [isPrime_small lg N (by omega)]
    congr 1
    rw [List.contains_iff_mem, mem_smallprimes]
    exact ⟨by omega, by simpa using hp, by omega⟩
  · have := Fact.mk hp
    obtain ⟨k, r, hk, hr, hP⟩ := isPrime_big lg N (by omega)
    rw [hP]
    have hg : Nat.gcd N 2310 = 1 := by
      by_contra hg; exact not_prime_of_gcd N (by omega) hg hp
    rw [if_neg (by simp [hg])]
    have hle := rounds_toNat_le (mr_n_bits (lg N))
    rw [mrBases_true_iff _ _ _ _ _ (by omega)]
    intro j hj a ha
    apply mrBase_complete k r hk
    have hmem : a ∈ smallprimes := List.mem_iff_getElem?.mpr ⟨_, ha⟩
    obtain ⟨h0, hpr, hle'⟩ := (mem_smallprimes a).mp hmem
    have h2 := hpr.two_le
    intro hz
    have := (ZMod.intCast_zmod_eq_zero_iff_dvd a N).mp hz
    have := Int.le_of_dvd (by omega) this
    omega

/-- **soundness as far as it goes**: `True` above the table means: coprime to 2·3·5·7·11 and a strong probable
prime to each of the first `t` entries of `smallprimes`, `t` the chosen round count -/
theorem isPrime_true_sprp (lg : Int → Int) (N : Nat) (h : 1229 < N) (ht : isPrime lg N = .ok true) :
    Nat.gcd N 2310 = 1 ∧ ∀ a ∈ smallprimes.take (mrRounds (mr_n_bits (lg N))).toNat, SPRP N a := by
  obtain ⟨k, r, hk, hr, hP⟩ := isPrime_big lg N h
  rw [hP] at ht
  by_cases hg : Nat.gcd N 2310 = 1
  · refine ⟨hg, ?_⟩
    rw [if_neg (by simp [hg])] at ht
    have hle := rounds_toNat_le (mr_n_bits (lg N))
    rw [mrBases_true_iff _ _ _ _ _ (by omega)] at ht
    intro a ha
    obtain ⟨j, hj, hja⟩ := List.mem_take_iff_getElem.mp ha
    have hj' : j < (mrRounds (mr_n_bits (lg N))).toNat := by omega
    have hb := ht j hj' a (by rw [Nat.zero_add, List.getElem?_eq_getElem (by omega), hja])
    have hk1 : 1 ≤ k := by
      rcases Nat.eq_zero_or_pos k with rfl | hpos
      · have := odd_of_gcd hg; omega
      · exact hpos
    exact ⟨k, r, hk, hr, mrBase_sound (by omega) k r hk1 a hb⟩
  · rw [if_pos hg] at ht; cases ht

theorem isPrime_total' (lg : Int → Int) (m : Int) : ∃ b, isPrime lg m = .ok b := by
  by_cases hm : 1229 < m
  · obtain ⟨N, rfl⟩ : ∃ N : Nat, m = N := ⟨m.toNat, by omega⟩
    obtain ⟨k, r, -, -, hP⟩ := isPrime_big lg N (by omega)
    rw [hP]
    split
    · exact ⟨false, rfl⟩
    · exact mrBases_ok _ _ _ _ _ (by have := rounds_toNat_le (mr_n_bits (lg N)); omega)
  · exact ⟨_, isPrime_small lg m (by omega)⟩

theorem isPrime_exact_small (lg : Int → Int) (n : Int) (hn : n ≤ 1229) :
    ∃ b, isPrime lg n = .ok b ∧ (b = true ↔ 0 ≤ n ∧ n.toNat.Prime) := by
  refine ⟨smallprimes.contains n, isPrime_small lg n hn, ?_⟩
  rw [List.contains_iff_mem, mem_smallprimes]
  exact ⟨fun ⟨a, b, _⟩ => ⟨a, b⟩, fun ⟨a, b⟩ => ⟨a, b, hn⟩⟩

/-- **exactness from a pseudoprime bound.**  If no composite `m < B` above the table that passes the gcd pre-filter is a
strong probable prime to all of the first `k` table primes (`ψ`), and at least `k` rounds are run, then `is_prime` is exact
below `B`: a prime is never rejected (`isPrime_complete`) and `True` makes `n` such a probable prime (`isPrime_true_sprp`).
`ψ` may assume `gcd m 2310 = 1`, so a check of `ψ` by enumeration can skip every multiple of 2, 3, 5, 7, 11. -/
theorem isPrime_exact_of_psi (lg : Int → Int) (B k : Nat)
    (ψ : ∀ m : Nat, 1229 < m → m < B → Nat.gcd m 2310 = 1 → (∀ a ∈ smallprimes.take k, SPRP m a) → m.Prime)
    (n : Int) (hn : n < B) (hk : 1229 < n → k ≤ (mrRounds (mr_n_bits (lg n))).toNat) :
    ∃ b, isPrime lg n = .ok b ∧ (b = true ↔ 0 ≤ n ∧ n.toNat.Prime) := by
  by_cases hs : n ≤ 1229
  · exact isPrime_exact_small lg n hs
  · obtain ⟨N, rfl⟩ : ∃ N : Nat, n = N := ⟨n.toNat, by omega⟩
    obtain ⟨b, hb⟩ := isPrime_total' lg N
    refine ⟨b, hb, ?_⟩
    simp only [Int.toNat_natCast, Int.natCast_nonneg, true_and]
    constructor
    · rintro rfl
      obtain ⟨hg, hsprp⟩ := isPrime_true_sprp lg N (by omega) hb
      exact ψ N (by omega) (by exact_mod_cast hn) hg
        fun a ha => hsprp a (List.take_subset_take_left _ (hk (by omega)) ha)
    · intro hp
      rw [isPrime_complete lg N hp] at hb
      cases hb; rfl

end NTProofs
