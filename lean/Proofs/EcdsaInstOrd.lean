import Model.EcdsaCurve
import Proofs.EcdsaGroup
/-!
# Proofs.EcdsaInstOrd — the `order` / `generator` fields of the results of point operations (structural facts about
`Model/Curve.lean`): a result is INFINITY, one of the operands, a fresh `PointJacobi` carrying the first operand's
`order` and `generator = False`, or (legacy operands only) a fresh legacy `Point` without order.
Needed to chain operations (the point-layer theorems speak of denotations only).
-/
namespace Ecdsa.OnCurve
open Curve

/-- no legacy `Point`; a `PointJacobi` has declared order `n`, or none and is not a generator -/
def OrdInv (n : Int) : Pt → Prop
  | .infinity => True
  | .jac J => J.order = some n ∨ (J.order = none ∧ J.generator = false)
  | .aff _ => False

/-- like `OrdInv`, with legacy points allowed -/
def OrdInvL (n : Int) : Pt → Prop
  | .infinity => True
  | .jac J => J.order = some n ∨ (J.order = none ∧ J.generator = false)
  | .aff A => A.order = some n ∨ A.order = none

/-- both invariants at once (`legacy`: legacy points are admitted), so that each operation is walked through once -/
def OrdInvG (legacy : Bool) (n : Int) : Pt → Prop
  | .infinity => True
  | .jac J => J.order = some n ∨ (J.order = none ∧ J.generator = false)
  | .aff A => legacy = true ∧ (A.order = some n ∨ A.order = none)

theorem ordInvG_false (n : Int) (A : Pt) : OrdInvG false n A ↔ OrdInv n A := by
  cases A <;> simp [OrdInvG, OrdInv]

theorem ordInvG_true (n : Int) (A : Pt) : OrdInvG true n A ↔ OrdInvL n A := by
  cases A <;> simp [OrdInvG, OrdInvL]

variable {f : Bool} {n : Int}

theorem OrdInvG.order_cases {J : PJ} (h : OrdInvG f n (.jac J)) : J.order = some n ∨ J.order = none :=
  h.imp_right And.left

theorem coordsOut_ord {o : Option Int} (ho : o = some n ∨ o = none) (c : CurveFp) (t : Int × Int × Int) :
    OrdInvG f n (coordsOut c o t) := by
  unfold coordsOut
  split
  · trivial
  · exact ho.imp_right fun h => ⟨h, rfl⟩

theorem pjScale_ord {P S : PJ} (hP : OrdInvG f n (.jac P)) (h : pjScale P = .ok S) : OrdInvG f n (.jac S) := by
  unfold pjScale at h
  rcases ite_eq_iff.mp h with ⟨-, h⟩ | ⟨-, h⟩
  · cases h; exact hP
  · obtain ⟨zInv, -, h⟩ := Res.bind_ok h
    cases h; exact hP

theorem pjMulWith_ord {pre : List (Int × Int)} {P : PJ} {k : Int} {R : Pt} (hP : OrdInvG f n (.jac P))
    (h : pjMulWith pre P k = .ok R) : OrdInvG f n R := by
  unfold pjMulWith at h
  rcases ite_eq_iff.mp h with ⟨-, h⟩ | ⟨-, h⟩
  · cases h; trivial
  rcases ite_eq_iff.mp h with ⟨-, h⟩ | ⟨-, h⟩
  · cases h; exact hP
  obtain ⟨table, -, h⟩ := Res.bind_ok h
  rcases ite_eq_iff.mp h with ⟨-, h⟩ | ⟨-, h⟩
  · cases h; exact coordsOut_ord hP.order_cases _ _
  obtain ⟨S, hS, h⟩ := Res.bind_ok h
  cases h
  exact coordsOut_ord (pjScale_ord hP hS).order_cases _ _

theorem pjAddCore_ord {P Q : PJ} {R : Pt} (hP : OrdInvG f n (.jac P)) (h : pjAddCore P Q = .ok R) : OrdInvG f n R := by
  unfold pjAddCore at h
  split at h
  · cases h
  · cases h; exact coordsOut_ord hP.order_cases _ _

theorem pjAdd_ord {P : PJ} {o R : Pt} (hP : OrdInvG f n (.jac P)) (ho : OrdInvG f n o) (h : pjAdd P o = .ok R) :
    OrdInvG f n R := by
  unfold pjAdd at h
  split at h
  · cases h; exact ho
  · cases o with
    | infinity => cases h; exact hP
    | jac Q =>
      simp only at h
      split at h
      · cases h; exact hP
      · exact pjAddCore_ord hP h
    | aff A => exact pjAddCore_ord hP h

theorem mkPoint_fields {c : CurveFp} {x y : Int} {o : Option Int} {A : AffPt} (h : mkPoint c x y o = .ok A) : A.order = o := by
  unfold mkPoint at h
  split at h
  · cases h; rfl
  · cases h

theorem affDouble_ord {P : AffPt} {R : Pt} (hf : f = true) (h : affDouble P = .ok R) : OrdInvG f n R := by
  unfold affDouble at h
  obtain ⟨inv, -, h⟩ := Res.bind_ok h
  obtain ⟨A, hA, h⟩ := Res.bind_ok h
  cases h
  exact ⟨hf, Or.inr (mkPoint_fields hA)⟩

theorem affAdd_ord {P : AffPt} {o R : Pt} (hP : OrdInvG f n (.aff P)) (ho : OrdInvG f n o) (h : affAdd P o = .ok R) :
    OrdInvG f n R := by
  cases o with
  | jac Q => exact pjAdd_ord ho hP h
  | infinity => cases h; exact hP
  | aff Q =>
    simp only [affAdd] at h
    rcases ite_eq_iff.mp h with ⟨-, h⟩ | ⟨-, h⟩
    · cases h
    rcases ite_eq_iff.mp h with ⟨-, h⟩ | ⟨-, h⟩
    · rcases ite_eq_iff.mp h with ⟨-, h⟩ | ⟨-, h⟩
      · cases h; trivial
      · exact affDouble_ord hP.1 h
    obtain ⟨inv, -, h⟩ := Res.bind_ok h
    obtain ⟨A, hA, h⟩ := Res.bind_ok h
    cases h
    exact ⟨hP.1, Or.inr (mkPoint_fields hA)⟩

theorem ptAdd_ord {A B R : Pt} (hA : OrdInvG f n A) (hB : OrdInvG f n B) (h : ptAdd A B = .ok R) : OrdInvG f n R := by
  cases A with
  | jac P => exact pjAdd_ord hA hB h
  | infinity =>
    cases B with
    | infinity => cases h; trivial
    | jac Q => exact pjAdd_ord (o := .infinity) hB trivial h
    | aff Q => cases h; exact hB
  | aff P => exact affAdd_ord hA hB h

theorem ptDouble_ord {A R : Pt} (hA : OrdInvG f n A) (h : ptDouble A = .ok R) : OrdInvG f n R := by
  cases A with
  | infinity => cases h; trivial
  | jac P =>
    cases h
    unfold pjDouble
    split
    · trivial
    · exact coordsOut_ord hA.order_cases _ _
  | aff P => exact affDouble_ord hA.1 h

theorem affMulLoop_ord (self negSelf : Pt) (e e3 i : Nat) (result R : Pt) (hs : OrdInvG f n self)
    (hn : OrdInvG f n negSelf) (hr : OrdInvG f n result) (h : affMulLoop self negSelf e e3 i result = .ok R) :
    OrdInvG f n R := by
  induction i using Nat.strongRecOn generalizing result with
  | _ i ih =>
    rw [affMulLoop] at h
    by_cases hi : i > 1
    swap
    · rw [dif_neg hi] at h; cases h; exact hr
    rw [dif_pos hi] at h
    -- one round: a doubling, then possibly an addition of `self`, then possibly one of `-self`
    have step (c : Bool) (r X : Pt) (hr : OrdInvG f n r) (hX : OrdInvG f n X) (k : Pt → Res Pt)
        (h : (if c = true then ptAdd r X >>= k else pure r >>= k) = .ok R) : ∃ r', OrdInvG f n r' ∧ k r' = .ok R := by
      rcases ite_eq_iff.mp h with ⟨-, h⟩ | ⟨-, h⟩
      · obtain ⟨r', h', h⟩ := Res.bind_ok h
        exact ⟨r', ptAdd_ord hr hX h', h⟩
      · exact ⟨r, hr, h⟩
    obtain ⟨r1, h1, h⟩ := Res.bind_ok h
    simp only at h
    obtain ⟨r2, o2, h⟩ := step _ r1 self (ptDouble_ord hr h1) hs _ h
    obtain ⟨r3, o3, h⟩ := step _ r2 negSelf o2 hn _ h
    exact ih (i / 2) (by omega) r3 o3 h

theorem affMulPos_ord {P : AffPt} {e : Int} {R : Pt} (hP : OrdInvG f n (.aff P)) (h : affMulPos P e = .ok R) :
    OrdInvG f n R := by
  unfold affMulPos at h
  obtain ⟨N, hN, h⟩ := Res.bind_ok h
  have hN' : OrdInvG f n (.aff N) := ⟨hP.1, by rw [mkPoint_fields hN]; exact hP.2⟩
  exact affMulLoop_ord _ _ _ _ _ _ _ hP hN' hP h

theorem affMul_ord {P : AffPt} {e : Int} {R : Pt} (hP : OrdInvG f n (.aff P)) (h : affMul P e = .ok R) :
    OrdInvG f n R := by
  -- `c`: the early-exit test `e == 0 or e % order == 0`
  have tail (c : Bool) (h : (if c = true then Except.ok Pt.infinity
      else if e < 0 then (affNeg P >>= fun N => affMulPos N (-e)) else affMulPos P e) = Except.ok R) : OrdInvG f n R := by
    rcases ite_eq_iff.mp h with ⟨-, h⟩ | ⟨-, h⟩
    · cases h; trivial
    rcases ite_eq_iff.mp h with ⟨-, h⟩ | ⟨-, h⟩
    · obtain ⟨N, hN, h⟩ := Res.bind_ok h
      exact affMulPos_ord ⟨hP.1, Or.inr (mkPoint_fields hN)⟩ h
    · exact affMulPos_ord hP h
  unfold affMul at h
  exact tail _ h

theorem ptMulWith_ord {pre : List (Int × Int)} {A R : Pt} {k : Int} (hA : OrdInvG f n A)
    (h : ptMulWith pre A k = .ok R) : OrdInvG f n R := by
  cases A with
  | infinity => cases h; trivial
  | jac P => exact pjMulWith_ord hA h
  | aff P => exact affMul_ord hA h

/-- `mul_add` (only a `PointJacobi` generator has it; legacy points excluded) -/
theorem pjMulAddWith_ord {preP preQ : List (Int × Int)} {P : PJ} {other R : Pt} {sm om : Int}
    (hP : OrdInvG false n (.jac P)) (hO : OrdInvG false n other) (h : pjMulAddWith preP preQ P sm other om = .ok R) :
    OrdInvG false n R := by
  unfold pjMulAddWith at h
  rcases ite_eq_iff.mp h with ⟨-, h⟩ | ⟨-, h⟩
  · exact pjMulWith_ord hP h
  rcases ite_eq_iff.mp h with ⟨-, h⟩ | ⟨-, h⟩
  · exact ptMulWith_ord hO h
  cases other with
  | infinity => exact pjMulWith_ord hP h
  | aff _ => exact Bool.noConfusion hO.1
  | jac Q =>
    obtain ⟨tP, -, h⟩ := Res.bind_ok h
    obtain ⟨tQ, -, h⟩ := Res.bind_ok h
    -- two multiplications and an addition, on the operands or on their scaled copies
    have two {SP SQ : PJ} {a b : Int} (h1 : OrdInvG false n (.jac SP)) (h2 : OrdInvG false n (.jac SQ))
        (h : (pjMulWith tP SP a >>= fun r1 => pjMulWith tQ SQ b >>= fun r2 => ptAdd r1 r2) = .ok R) :
        OrdInvG false n R := by
      obtain ⟨r1, e1, h⟩ := Res.bind_ok h
      obtain ⟨r2, e2, h⟩ := Res.bind_ok h
      exact ptAdd_ord (pjMulWith_ord h1 e1) (pjMulWith_ord h2 e2) h
    rcases ite_eq_iff.mp h with ⟨-, h⟩ | ⟨-, h⟩
    · exact two hP hO h
    obtain ⟨SP, hSP, h⟩ := Res.bind_ok h
    obtain ⟨SQ, hSQ, h⟩ := Res.bind_ok h
    -- `split`: the declared order is truthy and the scalars were reduced by it, or not; the rest is the same for both:
    -- the combined NAF loop, unless `pApB` is at infinity (then two multiplications and an addition again)
    split at h <;> simp only at h <;> rcases ite_eq_iff.mp h with ⟨-, h⟩ | ⟨-, h⟩
    · exact two (pjScale_ord hP hSP) (pjScale_ord hO hSQ) h
    · cases h; exact coordsOut_ord hP.order_cases _ _
    · exact two (pjScale_ord hP hSP) (pjScale_ord hO hSQ) h
    · cases h; exact coordsOut_ord hP.order_cases _ _

end Ecdsa.OnCurve
