import Proofs.DerLen
/-!
# Proofs.DerTlv — the common tag-length-value reader `tlvBody`, the shape `tlvRead` that all six `remove_*`
functions have (test the identifier octet, slice with `tlvBody`, check the content), and the OCTET STRING,
SEQUENCE and context-specific constructed codecs, which check nothing.
-/
namespace Der

theorem drop_hdr (t : UInt8) (E r : Bytes) : (t :: (E ++ r)).drop (1 + E.length) = r := by
  rw [Nat.add_comm, List.drop_succ_cons, List.drop_left]

theorem drop_hdr_add (t : UInt8) (E r : Bytes) (n : Nat) : (t :: (E ++ r)).drop (1 + E.length + n) = r.drop n := by
  rw [← List.drop_drop, drop_hdr]

theorem tooLong_iff (length : Nat) (s : Bytes) (llen : Nat) :
    tooLong length s llen = true ↔ (length : Int) > (s.length : Int) - 1 - (llen : Int) := by
  simp [tooLong]

theorem take_length_of_fits {length llen : Nat} {s : Bytes} (h : tooLong length s llen = false) :
    ((s.drop (1 + llen)).take length).length = length := by
  have := mt (tooLong_iff length s llen).mpr (by rw [h]; exact Bool.false_ne_true)
  rw [List.length_take, List.length_drop]; omega

theorem take_short_of_tooLong {length llen : Nat} {s : Bytes} (h : tooLong length s llen = true) :
    ((s.drop (1 + llen)).take length).isEmpty = true ∨ ((s.drop (1 + llen)).take length).length ≠ length := by
  by_cases h0 : length = 0
  · left; subst h0; rfl
  · right
    have := (tooLong_iff length s llen).mp h
    rw [List.length_take, List.length_drop]; omega

theorem tlvBody_ok {t : UInt8} {s body rest : Bytes} (h : tlvBody (t :: s) = .ok (body, rest)) :
    s = encodeLength body.length ++ body ++ rest ∧ body.length < 256 ^ 127 := by
  unfold tlvBody at h
  obtain ⟨⟨length, llen⟩, hr, h⟩ := Res.bind_ok h
  dsimp only at h
  split at h
  · cases h
  · rename_i hl
    have hbl := take_length_of_fits (Bool.eq_false_iff.mpr hl)
    simp only [Except.ok.injEq, Prod.mk.injEq] at h
    obtain ⟨hlt, rfl, r, hs⟩ := readLength_ok hr
    rw [List.drop_one, List.tail_cons] at hs
    subst hs
    rw [drop_hdr] at h hbl
    rw [drop_hdr_add] at h
    rw [← h.1, ← h.2, hbl, List.append_assoc, List.take_append_drop]
    exact ⟨rfl, hlt⟩

theorem tlvBody_err {s : Bytes} {e : PyErr} (h : tlvBody s = .error e) : e = .unexpectedDER := by
  unfold tlvBody at h
  simp only [bind, Except.bind] at h
  split at h
  · rename_i e' he; cases h; exact readLength_err he
  · split at h
    · cases h; rfl
    · cases h

theorem tlvBody_encode (t : UInt8) (body rest : Bytes) (h : body.length < 256 ^ 127) :
    tlvBody (t :: (encodeLength body.length ++ body ++ rest)) = .ok (body, rest) := by
  have hfit : tooLong body.length (t :: (encodeLength body.length ++ (body ++ rest))) (encodeLength body.length).length
      = false := by
    apply Bool.eq_false_iff.mpr
    intro hc
    rw [tooLong_iff] at hc
    simp only [List.length_cons, List.length_append] at hc
    omega
  unfold tlvBody
  rw [List.append_assoc, List.drop_one, List.tail_cons, readLength_encodeLength _ h]
  simp only [bind, Except.bind, hfit, Bool.false_eq_true, if_false]
  rw [drop_hdr, drop_hdr_add, List.take_left', List.drop_left']
  · rfl
  · rfl

/-- what a TLV looks like from the reader's side: the length field parses and `1 + k + l` bytes are present; the content
is the `l` bytes after the header and the remainder is everything after them -/
theorem tlv_present {tag : UInt8} {s body rest : Bytes} (hs : s = tag :: (encodeLength body.length ++ body ++ rest))
    (hl : body.length < 256 ^ 127) :
    ∃ l k, readLength (s.drop 1) = .ok (l, k) ∧ 1 + k + l ≤ s.length ∧ l = body.length
      ∧ body = (s.drop (1 + k)).take l ∧ rest = s.drop (1 + k + l) := by
  subst hs
  refine ⟨body.length, (encodeLength body.length).length, ?_, ?_, rfl, ?_, ?_⟩
  · rw [List.drop_one, List.tail_cons, List.append_assoc]; exact readLength_encodeLength _ hl _
  · simp only [List.length_cons, List.length_append]; omega
  · rw [List.append_assoc, drop_hdr, List.take_left']; rfl
  · rw [List.append_assoc, drop_hdr_add, List.drop_left']; rfl

theorem tlvBody_truncated {s : Bytes} {l k : Nat} (hr : readLength (s.drop 1) = .ok (l, k)) (hlong : 1 + k + l > s.length) :
    tlvBody s = .error .unexpectedDER := by
  have htl : tooLong l s k = true := by rw [tooLong_iff]; omega
  unfold tlvBody
  simp only [bind, Except.bind, hr, htl, if_true]

/-- the shape of every `remove_*`: refuse the empty string and a wrong identifier octet, slice content and remainder,
then apply the checks `k` of the type at hand to them -/
def tlvRead {α : Type} (tagOK : UInt8 → Prop) [DecidablePred tagOK] (k : UInt8 → Bytes → Bytes → Res α) :
    Bytes → Res α
  | [] => .error .unexpectedDER
  | t :: s =>
    if ¬ tagOK t then .error .unexpectedDER
    else do
      let (body, rest) ← tlvBody (t :: s)
      k t body rest

section
variable {α : Type} {tagOK : UInt8 → Prop} [DecidablePred tagOK] {k : UInt8 → Bytes → Bytes → Res α}

theorem tlvRead_cons (t : UInt8) (s : Bytes) :
    tlvRead tagOK k (t :: s)
      = if ¬ tagOK t then .error .unexpectedDER else tlvBody (t :: s) >>= fun br => k t br.1 br.2 := rfl

theorem tlvRead_encode {t : UInt8} (ht : tagOK t) (body rest : Bytes) (h : body.length < 256 ^ 127) :
    tlvRead tagOK k (t :: (encodeLength body.length ++ body ++ rest)) = k t body rest := by
  rw [tlvRead_cons, if_neg (not_not_intro ht), tlvBody_encode t body rest h]; rfl

theorem tlvRead_ok {s : Bytes} {v : α} (h : tlvRead tagOK k s = .ok v) :
    ∃ t body rest, tagOK t ∧ s = t :: (encodeLength body.length ++ body ++ rest) ∧ body.length < 256 ^ 127
      ∧ k t body rest = .ok v := by
  match s, h with
  | t :: s', h =>
    rw [tlvRead_cons] at h
    split at h
    · cases h
    · rename_i ht
      obtain ⟨br, hb, hk⟩ := Res.bind_ok h
      obtain ⟨hs, hl⟩ := tlvBody_ok (body := br.1) (rest := br.2) hb
      exact ⟨t, br.1, br.2, Decidable.of_not_not ht, congrArg (t :: ·) hs, hl, hk⟩

theorem tlvRead_err {s : Bytes} {e : PyErr} (h : tlvRead tagOK k s = .error e)
    (hk : ∀ t body rest, k t body rest = .error e → e = .unexpectedDER) : e = .unexpectedDER := by
  match s, h with
  | [], h => cases h; rfl
  | t :: s', h =>
    rw [tlvRead_cons] at h
    split at h
    · cases h; rfl
    · rcases Res.bind_error h with hb | ⟨br, _, hbr⟩
      · exact tlvBody_err hb
      · exact hk t br.1 br.2 hbr

theorem tlvRead_truncated {s : Bytes} {l k' : Nat} (hr : readLength (s.drop 1) = .ok (l, k'))
    (hlong : 1 + k' + l > s.length) : tlvRead tagOK k s = .error .unexpectedDER := by
  match s with
  | [] => rfl
  | t :: s' =>
    rw [tlvRead_cons, tlvBody_truncated hr hlong]
    split <;> rfl

end

theorem removeOctetString_eq (s : Bytes) :
    removeOctetString s = tlvRead (· = 0x04) (fun _ body rest => .ok (body, rest)) s := by
  cases s with
  | nil => rfl
  | cons t s' => rw [tlvRead_cons, Res.bind_pair_eta]; rfl

theorem encodeOctetString_append (body rest : Bytes) :
    encodeOctetString body ++ rest = 0x04 :: (encodeLength body.length ++ body ++ rest) := rfl

theorem removeOctetString_encode (body rest : Bytes) (h : body.length < 256 ^ 127) :
    removeOctetString (encodeOctetString body ++ rest) = .ok (body, rest) := by
  rw [encodeOctetString_append, removeOctetString_eq]; exact tlvRead_encode (by rfl) body rest h

theorem removeOctetString_ok {s body rest : Bytes} (h : removeOctetString s = .ok (body, rest)) :
    s = encodeOctetString body ++ rest ∧ body.length < 256 ^ 127 := by
  rw [removeOctetString_eq] at h
  obtain ⟨t, b, r, rfl, hs, hl, hk⟩ := tlvRead_ok h
  cases hk
  exact ⟨hs.trans (encodeOctetString_append body rest).symm, hl⟩

theorem removeOctetString_err {s : Bytes} {e : PyErr} (h : removeOctetString s = .error e) : e = .unexpectedDER := by
  rw [removeOctetString_eq] at h; exact tlvRead_err h (fun _ _ _ hk => nomatch hk)

theorem removeSequence_eq (s : Bytes) :
    removeSequence s = tlvRead (· = 0x30) (fun _ body rest => .ok (body, rest)) s := by
  cases s with
  | nil => rfl
  | cons t s' => rw [tlvRead_cons, Res.bind_pair_eta]; rfl

theorem encodeSequence_append (pieces : List Bytes) (rest : Bytes) :
    encodeSequence pieces ++ rest = 0x30 :: (encodeLength pieces.flatten.length ++ pieces.flatten ++ rest) := rfl

theorem removeSequence_encode (pieces : List Bytes) (rest : Bytes) (h : pieces.flatten.length < 256 ^ 127) :
    removeSequence (encodeSequence pieces ++ rest) = .ok (pieces.flatten, rest) := by
  rw [encodeSequence_append, removeSequence_eq]; exact tlvRead_encode (by rfl) _ rest h

theorem removeSequence_ok {s body rest : Bytes} (h : removeSequence s = .ok (body, rest)) :
    s = encodeSequence [body] ++ rest ∧ body.length < 256 ^ 127 := by
  rw [removeSequence_eq] at h
  obtain ⟨t, b, r, rfl, hs, hl, hk⟩ := tlvRead_ok h
  cases hk
  rw [encodeSequence_append, List.flatten_singleton]
  exact ⟨hs, hl⟩

theorem removeSequence_err {s : Bytes} {e : PyErr} (h : removeSequence s = .error e) : e = .unexpectedDER := by
  rw [removeSequence_eq] at h; exact tlvRead_err h (fun _ _ _ hk => nomatch hk)

/-! The identifier octets `101t tttt`: the mask `0xE0` selects `0xA0 … 0xBF`, the mask `0x1F` is `mod 32`. -/

theorem u8_ctx_iff : ∀ b : UInt8, b &&& 0xE0 = 0xA0 ↔ 0xA0 ≤ b.toNat ∧ b.toNat ≤ 0xBF := by
  apply forall_u8; decide +kernel

theorem u8_low5 (b : UInt8) : (b &&& 0x1F).toNat = b.toNat % 32 := by
  rw [UInt8.toNat_and]; exact Nat.and_two_pow_sub_one_eq_mod b.toNat 5

theorem u8_ctag (k : Nat) (h : k < 32) :
    (UInt8.ofNat (0xA0 + k)) &&& 0xE0 = 0xA0 ∧ ((UInt8.ofNat (0xA0 + k)) &&& 0x1F).toNat = k := by
  have ht : (UInt8.ofNat (0xA0 + k)).toNat = 0xA0 + k := u8_ofNat_toNat _ (by omega)
  exact ⟨(u8_ctx_iff _).mpr (by omega), by rw [u8_low5, ht]; omega⟩

theorem u8_ctag_inv (b : UInt8) (h : b &&& 0xE0 = 0xA0) :
    (b &&& 0x1F).toNat ≤ 0x1f ∧ UInt8.ofNat (0xA0 + (b &&& 0x1F).toNat) = b := by
  have := (u8_ctx_iff b).mp h
  rw [u8_low5]
  exact ⟨by omega, UInt8.toNat_inj.mp (by rw [u8_ofNat_toNat _ (by omega)]; omega)⟩

theorem removeConstructed_eq (s : Bytes) :
    removeConstructed s
      = tlvRead (fun t => t &&& 0xE0 = 0xA0) (fun t body rest => .ok ((t &&& 0x1F).toNat, body, rest)) s := by
  cases s <;> rfl

theorem encodeConstructed_append (tag : Nat) (body rest : Bytes) :
    encodeConstructed tag body ++ rest = UInt8.ofNat (0xA0 + tag) :: (encodeLength body.length ++ body ++ rest) := rfl

theorem removeConstructed_encode (tag : Nat) (body rest : Bytes) (ht : tag ≤ 0x1f) (h : body.length < 256 ^ 127) :
    removeConstructed (encodeConstructed tag body ++ rest) = .ok (tag, body, rest) := by
  obtain ⟨h1, h2⟩ := u8_ctag tag (by omega)
  rw [encodeConstructed_append, removeConstructed_eq]
  exact (tlvRead_encode (by exact h1) body rest h).trans (by simp only [h2])

theorem removeConstructed_ok {s body rest : Bytes} {tag : Nat} (h : removeConstructed s = .ok (tag, body, rest)) :
    s = encodeConstructed tag body ++ rest ∧ tag ≤ 0x1f ∧ body.length < 256 ^ 127 := by
  rw [removeConstructed_eq] at h
  obtain ⟨t, b, r, ht, hs, hl, hk⟩ := tlvRead_ok h
  cases hk
  obtain ⟨h3, h4⟩ := u8_ctag_inv t ht
  rw [encodeConstructed_append, h4]
  exact ⟨hs, h3, hl⟩

theorem removeConstructed_err {s : Bytes} {e : PyErr} (h : removeConstructed s = .error e) : e = .unexpectedDER := by
  rw [removeConstructed_eq] at h; exact tlvRead_err h (fun _ _ _ hk => nomatch hk)

end Der
