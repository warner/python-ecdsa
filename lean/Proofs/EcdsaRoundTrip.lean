import Proofs.EcdsaSign
import Proofs.EcdsaVerify
/-!
# Proofs.EcdsaRoundTrip — honest signatures verify; (r, n − s) verifies iff (r, s) does
-/
namespace Ecdsa

variable {P : Type} {𝔾 : Type} [AddCommGroup 𝔾]
variable {ops : PointOps P} {G : 𝔾} {den : P → 𝔾} {xc : 𝔾 → Option ℤ} {valid : P → Prop}

/-- `u₁ + u₂ d ≡ w(e + r d) ≡ k (mod n)` -/
theorem ecdsa_core {G : 𝔾} {n : ℤ} (hn : n • G = 0) (d k e r s w : ℤ)
    (hs : s * k ≡ e + r * d [ZMOD n]) (hw : w * s ≡ 1 [ZMOD n]) :
    ((e * w) % n) • G + ((r * w) % n) • (d • G) = k • G := by
  rw [← mul_zsmul, ← add_zsmul]
  apply zsmul_congr_mod hn
  calc e * w % n + r * w % n * d ≡ e * w + r * w * d [ZMOD n] :=
        (Int.mod_modEq _ _).add ((Int.mod_modEq _ _).mul_right d)
    _ = w * (e + r * d) := by ring
    _ ≡ w * (s * k) [ZMOD n] := hs.symm.mul_left w
    _ = (w * s) * k := by ring
    _ ≡ 1 * k [ZMOD n] := hw.mul_right k
    _ = k := one_mul k

/-- C01 core: what `Private_key.sign` returns verifies under any point object denoting `d • G` -/
theorem sign_verifies (C : PointOpsCorrect ops G den xc valid) (d e k r s : ℤ) (hk : ¬ ops.order ∣ k)
    (hsig : sign ops d e k = .ok (r, s)) (Q : P) (hQ : valid Q) (hQd : den Q = d • G) :
    verifies ops Q e r s = .ok true := by
  obtain ⟨x, hx, hxr, hr, hs, hsk⟩ := sign_eq_ok C hk hsig
  obtain ⟨-, -, -, hsinv⟩ := inverseMod_eq_invZ C.n_prime hs.1 hs.2
  have hR : ((e * invZ ops.order s) % ops.order) • G + ((r * invZ ops.order s) % ops.order) • den Q = k • G := by
    rw [hQd]; exact ecdsa_core C.nG d k e r s _ hsk hsinv
  exact (verifies_iff C Q hQ e r s).mpr
    ⟨hr.1, by omega, hs.1, by omega, by rw [hR]; exact C.smul_ne_zero hk, x, by rw [hR]; exact hx, hxr⟩

/-- `(n − s)⁻¹ = n − s⁻¹ (mod n)` for `1 ≤ s ≤ n − 1`, `n` prime -/
theorem invZ_neg {n s : ℤ} (hn : Nat.Prime n.toNat) (h1 : 1 ≤ s) (h2 : s < n) : invZ n (n - s) = n - invZ n s := by
  obtain ⟨-, w0, wn, hw⟩ := inverseMod_eq_invZ hn h1 h2
  have hw1 : invZ n s ≠ 0 := by
    intro h; rw [h, zero_mul] at hw
    have := Int.le_of_dvd one_pos hw.dvd
    omega
  apply invZ_unique (by omega) (by omega) (by omega)
  calc (n - s) * (n - invZ n s) ≡ invZ n s * s [ZMOD n] := Int.modEq_iff_dvd.mpr ⟨-(n - s - invZ n s), by ring⟩
    _ ≡ 1 [ZMOD n] := hw

theorem zsmul_mul_sub_emod {X : 𝔾} {n : ℤ} (hX : n • X = 0) (a w : ℤ) :
    ((a * (n - w)) % n) • X = -(((a * w) % n) • X) := by
  rw [← neg_zsmul]; apply zsmul_congr_mod hX
  calc a * (n - w) % n ≡ a * (n - w) [ZMOD n] := Int.mod_modEq _ _
    _ ≡ -(a * w) [ZMOD n] := Int.modEq_iff_dvd.mpr ⟨-a, by ring⟩
    _ ≡ -(a * w % n) [ZMOD n] := (Int.mod_modEq _ _).symm.neg

/-- C13, group half: for a key in the group generated by `G` the FIPS predicate is invariant under `s ↦ n − s` -/
theorem fips_neg_s (C : PointOpsCorrect ops G den xc valid) (Q : 𝔾) (hQn : ops.order • Q = 0) (e r s : ℤ) :
    Fips ops.order G Q xc e r (ops.order - s) ↔ Fips ops.order G Q xc e r s := by
  unfold Fips
  by_cases hs : 1 ≤ s ∧ s ≤ ops.order - 1
  · have hs' : 1 ≤ ops.order - s ∧ ops.order - s ≤ ops.order - 1 := by omega
    rw [invZ_neg C.n_prime hs.1 (by omega), zsmul_mul_sub_emod C.nG, zsmul_mul_sub_emod hQn, ← neg_add, C.xc_neg, neg_ne_zero]
    simp only [hs, hs', true_and]
  · constructor <;> exact fun h => absurd ⟨by omega, by omega⟩ hs

theorem verifies_neg_s_core (C : PointOpsCorrect ops G den xc valid) (Q : P) (hQ : valid Q)
    (hQn : ops.order • den Q = 0) (e r s : ℤ) :
    verifies ops Q e r (ops.order - s) = verifies ops Q e r s := by
  rw [verifies_spec C Q hQ, verifies_spec C Q hQ, decide_eq_decide.mpr (fips_neg_s C (den Q) hQn e r s)]

end Ecdsa
