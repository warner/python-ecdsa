import Model.NumberTheoryExtra
import Proofs.NTGcd
import Proofs.NTFact
import Mathlib.NumberTheory.ArithmeticFunction.Carmichael
import Mathlib.Data.Nat.Totient
/-! deprecated helpers (C16x), part 3: `carmichael*` against Mathlib's Carmichael function λ (the exponent of `(ZMod n)ˣ`),
`phi` against `Nat.totient` -/
namespace NTXProofs
open NT NTX NTProofs

theorem ppower_eq (p e : ℕ) (hp : p.Prime) (he : 1 ≤ e) :
    carmichaelOfPpower p e = .ok ((ArithmeticFunction.carmichael (p ^ e) : ℕ) : ℤ) := by
  have e1 : ((e : ℤ) - 1).toNat = e - 1 := by omega
  rw [carmichaelOfPpower]
  by_cases h2 : p = 2
  · subst h2
    by_cases hgt : 2 < e
    · rw [if_pos ⟨rfl, by omega⟩, ArithmeticFunction.carmichael_two_pow_of_ne_two (by omega),
        show ((e : ℤ) - 2).toNat = e - 2 by omega]
      push_cast; rfl
    · rw [if_neg (by omega), if_neg (by omega), ArithmeticFunction.carmichael_two_pow_of_le_two (by omega), e1]
      push_cast; rw [one_mul]
  · rw [if_neg (fun h => h2 (by exact_mod_cast h.1)), if_neg (by omega),
      ArithmeticFunction.carmichael_pow_of_prime_ne_two e hp h2, Nat.totient_prime_pow hp (by omega), e1]
    push_cast [Nat.cast_sub hp.one_le]; rw [mul_comm]

/-- a list of (prime, exponent ≥ 1) pairs with pairwise different primes, as `factorization` returns it -/
structure PF (fs : List (ℤ × ℤ)) : Prop where
  prime : ∀ f ∈ fs, f.1.toNat.Prime
  base : ∀ f ∈ fs, 2 ≤ f.1
  epos : ∀ f ∈ fs, 1 ≤ f.2
  distinct : (fs.map Prod.fst).Pairwise (· ≠ ·)

def natProd (fs : List (ℤ × ℤ)) : ℕ := (fs.map fun f => f.1.toNat ^ f.2.toNat).prod

theorem natProd_cons (f : ℤ × ℤ) (fs : List (ℤ × ℤ)) : natProd (f :: fs) = f.1.toNat ^ f.2.toNat * natProd fs := by
  rw [natProd, List.map_cons, List.prod_cons, natProd]

theorem PF.tail {f : ℤ × ℤ} {fs : List (ℤ × ℤ)} (h : PF (f :: fs)) : PF fs :=
  ⟨fun g hg => h.prime g (by simp [hg]), fun g hg => h.base g (by simp [hg]), fun g hg => h.epos g (by simp [hg]),
   (List.pairwise_cons.mp h.distinct).2⟩

theorem PF.coprime_head {f : ℤ × ℤ} {fs : List (ℤ × ℤ)} (h : PF (f :: fs)) :
    ∀ g ∈ fs, Nat.Coprime (f.1.toNat ^ f.2.toNat) (g.1.toNat ^ g.2.toNat) := by
  intro g hg
  have hne : f.1 ≠ g.1 := (List.pairwise_cons.mp h.distinct).1 g.1 (List.mem_map.mpr ⟨g, hg, rfl⟩)
  have hf := h.base f List.mem_cons_self
  have hg' := h.base g (List.mem_cons_of_mem _ hg)
  exact Nat.Coprime.pow _ _
    ((Nat.coprime_primes (h.prime f List.mem_cons_self) (h.prime g (List.mem_cons_of_mem _ hg))).mpr (by omega))

theorem PF.coprime_step {g : ℤ × ℤ} {r : List (ℤ × ℤ)} {A : ℕ} (h : PF (g :: r))
    (hco : ∀ g' ∈ g :: r, Nat.Coprime A (g'.1.toNat ^ g'.2.toNat)) :
    ∀ g' ∈ r, Nat.Coprime (A * g.1.toNat ^ g.2.toNat) (g'.1.toNat ^ g'.2.toNat) :=
  fun g' hg' => Nat.Coprime.mul_left (hco g' (List.mem_cons_of_mem _ hg')) (h.coprime_head g' hg')

theorem ppower_of_mem {fs : List (ℤ × ℤ)} (h : PF fs) {g : ℤ × ℤ} (hg : g ∈ fs) :
    carmichaelOfPpower g.1 g.2 = .ok ((ArithmeticFunction.carmichael (g.1.toNat ^ g.2.toNat) : ℕ) : ℤ) := by
  have hb := h.base g hg
  have he := h.epos g hg
  have := ppower_eq g.1.toNat g.2.toNat (h.prime g hg) (by omega)
  rwa [Int.toNat_of_nonneg (by omega), Int.toNat_of_nonneg (by omega)] at this

theorem foldl_carmichael : ∀ (rest : List (ℤ × ℤ)) (A : ℕ), PF rest →
    (∀ g ∈ rest, Nat.Coprime A (g.1.toNat ^ g.2.toNat)) →
    rest.foldlM carmStep ((ArithmeticFunction.carmichael A : ℕ) : ℤ) =
      .ok ((ArithmeticFunction.carmichael (A * natProd rest) : ℕ) : ℤ)
  | [], A, _, _ => by simp [natProd, pure, Except.pure]
  | g :: r, A, hpf, hco => by
    have hs : carmStep ((ArithmeticFunction.carmichael A : ℕ) : ℤ) g =
        .ok ((ArithmeticFunction.carmichael (A * g.1.toNat ^ g.2.toNat) : ℕ) : ℤ) := by
      rw [carmStep, ppower_of_mem hpf List.mem_cons_self,
        ArithmeticFunction.carmichael_mul (hco g List.mem_cons_self)]
      exact lcm2_nat _ _
    rw [List.foldlM_cons, hs, natProd_cons, ← mul_assoc]
    exact foldl_carmichael r _ hpf.tail (hpf.coprime_step hco)

theorem foldl_phi : ∀ (rest : List (ℤ × ℤ)) (A : ℕ), PF rest →
    (∀ g ∈ rest, Nat.Coprime A (g.1.toNat ^ g.2.toNat)) →
    rest.foldl phiStep ((Nat.totient A : ℕ) : ℤ) = ((Nat.totient (A * natProd rest) : ℕ) : ℤ)
  | [], A, _, _ => by simp [natProd]
  | g :: r, A, hpf, hco => by
    have hb := hpf.base g List.mem_cons_self
    have he := hpf.epos g List.mem_cons_self
    have hp := hpf.prime g List.mem_cons_self
    have hstep : phiStep ((Nat.totient A : ℕ) : ℤ) g = ((Nat.totient (A * g.1.toNat ^ g.2.toNat) : ℕ) : ℤ) := by
      have hg1 : ((g.1.toNat : ℕ) : ℤ) = g.1 := Int.toNat_of_nonneg (by omega)
      rw [Nat.totient_mul (hco g List.mem_cons_self), Nat.totient_prime_pow hp (by omega), phiStep]
      by_cases hgt : g.2 > 1
      · rw [if_pos hgt, show (g.2 - 1).toNat = g.2.toNat - 1 by omega]
        push_cast [Nat.cast_sub hp.one_le]; rw [hg1]; ring
      · rw [if_neg hgt, show g.2.toNat - 1 = 0 by omega]
        push_cast [Nat.cast_sub hp.one_le]; rw [hg1]; ring
    rw [List.foldl_cons, hstep, natProd_cons, ← mul_assoc]
    exact foldl_phi r _ hpf.tail (hpf.coprime_step hco)

end NTXProofs
