import Generated.KeysSlices
import Generated.EcdsaInt
import Model.Keys
/-!
# Proofs.KeysTie — the model of keys.py / curves.py / der.py PEM takes the integer decisions of the source text

`Gen.KeysT.*` (Generated/KeysSlices.lean) and `Gen.Ecdsa.pubkey_*`, `secexp_bad` (Generated/EcdsaInt.lean) are
re-translated from the working tree on every run; everything around them in the source functions is pinned textually by
the generators.  Here the generated tests are read on the naturals the model works with; `Props/C09t.lean` restates each
model function with the generated slices in place of its own tests.
-/
namespace KeysTie
open Keys Gen.KeysT

theorem fdiv2 (v : Nat) : Int.fdiv (v : Int) 2 = ((v / 2 : Nat) : Int) := by
  rw [Int.fdiv_eq_ediv_of_nonneg _ (by decide)]; omega

theorem fmod2 (v : Nat) : Int.fmod (v : Int) 2 = ((v % 2 : Nat) : Int) := by
  rw [Int.fmod_eq_emod_of_nonneg _ (by decide)]; omega

theorem eq_nat (l v : Nat) : decide ((l : Int) = v) = decide (l = v) :=
  decide_eq_decide.mpr (by omega)
theorem eq_half_nat (l v : Nat) : decide ((l : Int) = Int.fdiv v 2) = decide (l = v / 2) := by
  rw [fdiv2]; exact decide_eq_decide.mpr (by omega)
theorem half_toNat (v : Nat) : (Int.fdiv (v : Int) 2).toNat = v / 2 := by
  rw [fdiv2]; omega
theorem from_string_prefixed_nat (l vkl : Nat) : from_string_prefixed l vkl = decide (l = vkl + 1) := by
  unfold from_string_prefixed; exact decide_eq_decide.mpr (by omega)
theorem from_string_compressed_nat (l vkl : Nat) : from_string_compressed l vkl = decide (l = vkl / 2 + 1) := by
  unfold from_string_compressed; rw [fdiv2]; exact decide_eq_decide.mpr (by omega)
theorem y_odd_nat (y : Nat) : decide (Int.fmod (y : Int) 2 ≠ 0) = decide (y % 2 = 1) := by
  rw [fmod2]; exact decide_eq_decide.mpr (by omega)
theorem sk_len_bad_nat (l b : Nat) : sk_len_bad l b = decide (l ≠ b) := by
  unfold sk_len_bad; exact decide_eq_decide.mpr (by omega)
theorem sk_der_pkcs8_version_bad_nat (v : Nat) : sk_der_pkcs8_version_bad v = decide (v ≠ 0 ∧ v ≠ 1) := by
  unfold sk_der_pkcs8_version_bad
  by_cases h0 : v = 0
  · subst h0; simp
  · by_cases h1 : v = 1
    · subst h1; simp
    · have b : ¬ ((v : Int) = 1) := by omega
      simp [h0, h1, b]
theorem sk_der_version_bad_nat (v : Nat) : sk_der_version_bad v = decide (v ≠ 1) := by
  unfold sk_der_version_bad; exact decide_eq_decide.mpr (by omega)
theorem sk_der_tag_bad_nat (t : Nat) : sk_der_tag_bad t = decide (t ≠ 0) := by
  unfold sk_der_tag_bad; exact decide_eq_decide.mpr (by omega)
theorem sk_der_short_nat (l b : Nat) : sk_der_short l b = decide (l < b) := by
  unfold sk_der_short; exact decide_eq_decide.mpr (by omega)
theorem sk_der_pad_nat (l b : Nat) : (sk_der_pad l b).toNat = b - l := by
  unfold sk_der_pad; omega

/-- the shape of the five range tests `not lo <= x < hi` (`Public_key.__init__`, `point_is_valid`, `from_secret_exponent`) -/
theorem not_in_range (lo x hi : Int) : (!(decide (lo ≤ x) && decide (x < hi))) = true ↔ ¬ (lo ≤ x ∧ x < hi) := by
  rw [Bool.not_eq_true', Bool.and_eq_false_iff, decide_eq_false_iff_not, decide_eq_false_iff_not]
  exact Classical.not_and_iff_not_or_not.symm

theorem alphaOf_source (c : Curve) (x : Nat) : alphaOf c x = compressed_alpha x c.p c.a c.b := rfl

/-- `util.orderlen` on Python integers (only used on `x ≥ 0`) -/
def orderlenInt (x : Int) : Int := (Util.orderlen x.toNat : Nat)

end KeysTie
