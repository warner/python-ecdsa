import Model.NumberTheoryExtra
import Proofs.NTPow
import Proofs.DerDigits
/-! deprecated helpers (C16x), part 1: `int_to_string` / `string_to_int`, the `truncate_*` derivations -/
namespace NTXProofs
open NT NTX NTProofs

theorem truncateBytes_never (hash : Bytes → Bytes) (bitsF : Int → Int) (seed : Bytes) (order : Int) :
    truncateBytes hash bitsF seed order = (if order ≤ 1 then .error .valueError else .error .typeError) := by
  unfold truncateBytes
  by_cases h : order ≤ 1
  · simp [h, show order - 1 ≤ 0 by omega]
  · simp [h, show ¬ order - 1 ≤ 0 by omega, strPlusBytes, bind, Except.bind]

theorem truncateBits_never (hash : Bytes → Bytes) (bitsF : Int → Int) (seed : Bytes) (order : Int) :
    truncateBits hash bitsF seed order = (if order ≤ 1 then .error .valueError else .error .typeError) := by
  unfold truncateBits
  by_cases h : order ≤ 1
  · simp [h, show order - 1 ≤ 0 by omega]
  · simp [h, show ¬ order - 1 ≤ 0 by omega, strPlusBytes, bind, Except.bind]

theorem intToString_spec (x : Int) :
    (x < 0 → intToString x = .error .assertionError) ∧
    (0 ≤ x → ∃ s, intToString x = .ok s ∧ stringToInt s = x ∧ s ≠ [] ∧ (x = 0 → s = [0]) ∧
      (0 < x → s = beMin x.toNat ∧ s.head? ≠ some 0)) := by
  refine ⟨fun h => by simp [intToString, h], fun h => ?_⟩
  by_cases h0 : x = 0
  · subst h0
    exact ⟨[0], by simp [intToString], by decide, by simp, fun _ => rfl, fun h => absurd h (by decide)⟩
  · have hpos : 0 < x.toNat := by omega
    refine ⟨beMin x.toNat, by simp [intToString, show ¬ x < 0 by omega, h0], ?_, Der.beMin_ne_nil _ hpos,
      fun h => absurd h h0, fun _ => ⟨rfl, ?_⟩⟩
    · simp only [stringToInt, Der.beVal_beMin]; omega
    · -- no leading zero byte: otherwise the value would be < 256^(len-1) …
      intro hh
      cases hb : beMin x.toNat with
      | nil => rw [hb] at hh; cases hh
      | cons c t =>
        rw [hb] at hh
        simp only [List.head?_cons, Option.some.injEq] at hh
        subst hh
        -- value of (0 :: t) = value of t, but beMin is the minimal representation
        have hv : beVal (0 :: t) = x.toNat := by rw [← hb, Der.beVal_beMin]
        rw [beVal_cons] at hv
        simp only [UInt8.toNat_zero, zero_mul, zero_add] at hv
        have hlen : (beMin x.toNat).length = t.length + 1 := by rw [hb]; rfl
        have hlt := beVal_lt t
        have hmin := Der.beMin_length_le x.toNat t.length (by omega)
        omega

end NTXProofs
