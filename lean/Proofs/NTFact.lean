import Model.NumberTheory
import Proofs.NTTable
import Proofs.NTPrime
import Mathlib.Data.Nat.Prime.Basic
import Mathlib.Tactic.Ring
import Mathlib.Tactic.Linarith
/-! `factorization` (C16): trial division by the prime table, then by the odd numbers from 1231 -/
namespace NTProofs
open NT Gen.NT

theorem exists_prime_dvd {n : Int} (hn : 2 ≤ n) : ∃ q : Nat, q.Prime ∧ (q : Int) ∣ n ∧ (q : Int) ≤ n := by
  lift n to Nat using by omega
  exact ⟨n.minFac, Nat.minFac_prime (by omega), Int.natCast_dvd_natCast.mpr (Nat.minFac_dvd n),
    by exact_mod_cast Nat.minFac_le (by omega)⟩

theorem eq_one_of_no_prime {n : Int} (hn : 1 ≤ n) (h : ∀ q : Nat, q.Prime → ¬ (q : Int) ∣ n) : n = 1 := by
  by_contra hne
  obtain ⟨q, hq, hd, _⟩ := exists_prime_dvd (n := n) (by omega)
  exact h q hq hd

theorem prime_of_lt_sq {n d : Int} (hn : 2 ≤ n) (hd : 0 ≤ d) (h : ∀ q : Nat, q.Prime → (q : Int) ∣ n → d ≤ q)
    (hlt : n < d * d) : n.toNat.Prime := by
  lift n to Nat using by omega
  rw [Int.toNat_natCast]
  by_contra hnp
  have hge := h _ (Nat.minFac_prime (by omega)) (Int.natCast_dvd_natCast.mpr (Nat.minFac_dvd n))
  have hsq : ((n.minFac ^ 2 : Nat) : Int) ≤ n := by exact_mod_cast Nat.minFac_sq_le_self (by omega) hnp
  have := mul_self_le_mul_self hd hge
  rw [Nat.cast_pow, pow_two] at hsq
  omega

theorem prime_of_least {n d : Int} (hd : 2 ≤ d) (hdn : d ∣ n) (h : ∀ q : Nat, q.Prime → (q : Int) ∣ n → d ≤ q) :
    d.toNat.Prime := by
  obtain ⟨q, hq, hqd, hle⟩ := exists_prime_dvd hd
  have := h q hq (Dvd.dvd.trans hqd hdn)
  have : d = q := by omega
  rw [this]; simpa using hq

theorem factInner2_spec (d : Int) (hd : 2 ≤ d) :
    ∀ (fuel : Nat) (n count : Int), 1 ≤ n → n < fuel →
      ∃ (n' : Int) (k : Nat), factInner2 d fuel n count = .ok (n', count + k) ∧ n = d ^ k * n' ∧ 1 ≤ n' ∧ ¬ d ∣ n' := by
  intro fuel
  induction fuel with
  | zero => intro n count h1 hlt; exfalso; simp at hlt; omega
  | succ f ih =>
    intro n count h1 hlt
    have hdpos : 0 < d := by omega
    have hstop : ¬ d ∣ n → ∃ (n' : Int) (k : Nat), (.ok (n, count) : Res (Int × Int)) = .ok (n', count + k) ∧
        n = d ^ k * n' ∧ 1 ≤ n' ∧ ¬ d ∣ n' := fun h => ⟨n, 0, by simp, by ring, h1, h⟩
    rw [factInner2]
    by_cases hle : d ≤ n
    · rw [if_pos hle, if_neg (by omega), pdiv_eq_ediv hdpos, pmod_eq_emod hdpos]
      by_cases hr : n % d = 0
      · obtain ⟨m, rfl⟩ := Int.dvd_of_emod_eq_zero hr
        have hm : 0 < m := (mul_pos_iff_of_pos_left hdpos).mp (by omega)
        have h2m : 2 * m ≤ d * m := Int.mul_le_mul_of_nonneg_right hd hm.le
        rw [if_neg (not_not.mpr hr), Int.mul_ediv_cancel_left m (by omega)]
        obtain ⟨n', k, he, hn, h1', hnd⟩ := ih m (count + 1) hm (by push_cast at hlt; omega)
        refine ⟨n', k + 1, ?_, ?_, h1', hnd⟩
        · rw [he]; push_cast; congr 2; ring
        · rw [hn]; ring
      · rw [if_pos hr]; exact hstop fun h => hr (Int.emod_eq_zero_of_dvd h)
    · rw [if_neg hle]; exact hstop fun h => hle (Int.le_of_dvd (by omega) h)

/-- the loop of the small-prime phase (entered with `d ∣ n`) is the other one started one division later -/
theorem factInner1_eq (d : Int) (hd : 2 ≤ d) : ∀ (fuel : Nat) (n count : Int), 1 ≤ n → d ∣ n →
    factInner1 d fuel n count = factInner2 d fuel (n / d) count := by
  intro fuel
  induction fuel with
  | zero => intro _ _ _ _; rfl
  | succ f ih =>
    rintro _ count h1 ⟨m, rfl⟩
    have hdpos : 0 < d := by omega
    have hm : 0 < m := (mul_pos_iff_of_pos_left hdpos).mp (by omega)
    rw [factInner1, factInner2, if_pos (le_mul_of_one_le_right hdpos.le hm), if_neg (by omega), pdiv_eq_ediv hdpos,
      Int.mul_ediv_cancel_left m (by omega)]
    dsimp only
    rw [pmod_eq_emod hdpos]
    by_cases hr : m % d = 0
    · have hdm : d ∣ m := Int.dvd_of_emod_eq_zero hr
      rw [if_neg (not_not.mpr hr), if_neg (not_not.mpr hr), if_pos (Int.le_of_dvd hm hdm), if_neg (by omega),
        ih m _ hm hdm, pdiv_eq_ediv hdpos]
    · rw [if_pos hr, if_pos hr, if_neg (by omega : ¬ d = 0), ite_self]

def fprod (l : List (Int × Int)) : Int := (l.map (fun f => f.1 ^ f.2.toNat)).prod

structure Good (res : List (Int × Int)) : Prop where
  sorted : (res.map Prod.fst).Pairwise (· < ·)
  exp : ∀ f ∈ res, 1 ≤ f.2
  prime : ∀ f ∈ res, 2 ≤ f.1 ∧ f.1.toNat.Prime

theorem Good.nil : Good [] := ⟨by simp, by simp, by simp⟩

theorem fprod_snoc (res : List (Int × Int)) (d c : Int) : fprod (res ++ [(d, c)]) = fprod res * d ^ c.toNat := by
  simp [fprod]

theorem fprod_snoc_mul (res : List (Int × Int)) (d n' : Int) (k : Nat) :
    fprod (res ++ [(d, 1 + (k : Int))]) * n' = fprod res * (d * (d ^ k * n')) := by
  rw [fprod_snoc, show (1 + (k : Int)).toNat = k + 1 by omega]; ring

theorem forall_mem_snoc {α : Type} {P : α → Prop} {l : List α} {x : α} (hl : ∀ f ∈ l, P f) (hx : P x) :
    ∀ f ∈ l ++ [x], P f :=
  List.forall_mem_append.mpr ⟨hl, List.forall_mem_singleton.mpr hx⟩

theorem sorted_snoc {res : List (Int × Int)} {d c : Int} (h : (res.map Prod.fst).Pairwise (· < ·))
    (hlt : ∀ f ∈ res, f.1 < d) : ((res ++ [(d, c)]).map Prod.fst).Pairwise (· < ·) := by
  rw [List.map_append, List.pairwise_append]
  refine ⟨h, by simp, ?_⟩
  intro a ha b hb
  obtain ⟨f, hf, rfl⟩ := List.mem_map.mp ha
  rw [List.mem_singleton.mp hb]; exact hlt f hf

theorem Good.snoc {res : List (Int × Int)} {d c : Int} (h : Good res) (hlt : ∀ f ∈ res, f.1 < d)
    (hd : 2 ≤ d) (hp : d.toNat.Prime) (hc : 1 ≤ c) : Good (res ++ [(d, c)]) :=
  ⟨sorted_snoc h.sorted hlt, forall_mem_snoc h.exp hc, forall_mem_snoc h.prime ⟨hd, hp⟩⟩

theorem divideOut_spec {d m : Int} (hd2 : 2 ≤ d) (hdp : d.toNat.Prime) (h1 : 1 ≤ d * m) {res : List (Int × Int)}
    (hg : Good res) (hlt : ∀ f ∈ res, f.1 < d) :
    ∃ n' c, factInner2 d ((d * m).natAbs + 1) m 1 = .ok (n', c) ∧ 1 ≤ n' ∧ n' ∣ d * m ∧ n' ≤ d * m ∧ ¬ d ∣ n' ∧
      Good (res ++ [(d, c)]) ∧ fprod (res ++ [(d, c)]) * n' = fprod res * (d * m) := by
  have hm : 0 < m := (mul_pos_iff_of_pos_left (show 0 < d by omega)).mp (by omega)
  have hmle : m ≤ d * m := le_mul_of_one_le_left hm.le (by omega)
  obtain ⟨n', k, he, hn, h1', hnd⟩ := factInner2_spec d hd2 ((d * m).natAbs + 1) m 1 hm (by omega)
  have hdvd : n' ∣ d * m := ⟨d * d ^ k, by rw [hn]; ring⟩
  exact ⟨n', _, he, h1', hdvd, Int.le_of_dvd (by omega) hdvd, hnd, hg.snoc hlt hd2 hdp (by omega),
    by rw [fprod_snoc_mul, hn]⟩

theorem factSmall_spec :
    ∀ (ds : List Int) (n : Int) (res : List (Int × Int)), ds.Pairwise (· < ·) →
      (∀ d ∈ ds, 2 ≤ d ∧ d ≤ 1229 ∧ d.toNat.Prime) → 1 ≤ n →
      (∀ q : Nat, q.Prime → (q : Int) ∣ n → (q : Int) ≤ 1229 → (q : Int) ∈ ds) →
      Good res → (∀ f ∈ res, f.1 ≤ 1229 ∧ ∀ d ∈ ds, f.1 < d) →
      ∃ (n' : Int) (res' : List (Int × Int)), factSmall ds n res = .ok (n', res') ∧
        fprod res' * n' = fprod res * n ∧ 1 ≤ n' ∧ Good res' ∧ (∀ f ∈ res', f.1 ≤ 1229) ∧
        (∀ q : Nat, q.Prime → (q : Int) ∣ n' → 1229 < (q : Int)) := by
  intro ds
  induction ds with
  | nil =>
    intro n res _ _ h1 hq hg hres
    exact ⟨n, res, rfl, rfl, h1, hg, fun f hf => (hres f hf).1,
      fun q hp hd => not_le.mp fun hle => List.not_mem_nil (hq q hp hd hle)⟩
  | cons d ds ih =>
    intro n res hs hds h1 hq hg hres
    obtain ⟨hd2, hd1229, hdp⟩ := hds d List.mem_cons_self
    obtain ⟨hdlt, hs'⟩ := List.pairwise_cons.mp hs
    have hdpos : 0 < d := by omega
    have hds' : ∀ e ∈ ds, 2 ≤ e ∧ e ≤ 1229 ∧ e.toNat.Prime := fun e he => hds e (List.mem_cons_of_mem _ he)
    have hres' : ∀ f ∈ res, f.1 ≤ 1229 ∧ ∀ e ∈ ds, f.1 < e :=
      fun f hf => ⟨(hres f hf).1, fun e he => (hres f hf).2 e (List.mem_cons_of_mem _ he)⟩
    -- the prime divisors `≤ 1229` of a number not divisible by `d` are in the rest of the table
    have hq' : ∀ n' : Int, n' ∣ n → ¬ d ∣ n' →
        ∀ q : Nat, q.Prime → (q : Int) ∣ n' → (q : Int) ≤ 1229 → (q : Int) ∈ ds :=
      fun n' hn' hnd q hp hdv hle =>
        (List.mem_cons.mp (hq q hp (hdv.trans hn') hle)).resolve_left fun h => hnd (h ▸ hdv)
    rw [factSmall]
    by_cases hgt : d > n
    · -- a prime divisor of `n` would be in the table, hence `≥ d > n`
      have hno : ∀ q : Nat, q.Prime → ¬ (q : Int) ∣ n := fun q hp hdv => by
        have hqn : (q : Int) ≤ n := Int.le_of_dvd (by omega) hdv
        rcases List.mem_cons.mp (hq q hp hdv (by omega)) with h | h
        · omega
        · have := hdlt _ h; omega
      rw [if_pos hgt]
      exact ⟨n, res, rfl, rfl, h1, hg, fun f hf => (hres f hf).1, fun q hp hd => (hno q hp hd).elim⟩
    · rw [if_neg hgt, if_neg (by omega), pmod_eq_emod hdpos]
      by_cases hr : n % d = 0
      · have hdn : d ∣ n := Int.dvd_of_emod_eq_zero hr
        obtain ⟨m, rfl⟩ := id hdn
        obtain ⟨n', c, he, h1', hdvd, -, hnd, hgood, hfp⟩ :=
          divideOut_spec hd2 hdp h1 hg fun f hf => (hres f hf).2 d List.mem_cons_self
        rw [if_pos hr, factInner1_eq d hd2 _ _ _ h1 hdn, Int.mul_ediv_cancel_left m (by omega), he]
        obtain ⟨n'', res'', he2, hprod, hrest⟩ :=
          ih n' (res ++ [(d, c)]) hs' hds' h1' (hq' n' hdvd hnd) hgood (forall_mem_snoc hres' ⟨hd1229, hdlt⟩)
        exact ⟨n'', res'', he2, hprod.trans hfp, hrest⟩
      · rw [if_neg hr]
        exact ih n res hs' hds' h1 (hq' n dvd_rfl fun h => hr (Int.emod_eq_zero_of_dvd h)) hg hres'

theorem factOdd_spec :
    ∀ (fuel : Nat) (d n : Int) (res : List (Int × Int)), (∃ i, d = 2 * i + 1) → 1229 ≤ d → 1 ≤ n →
      (∀ q : Nat, q.Prime → (q : Int) ∣ n → d < (q : Int)) →
      Good res → (∀ f ∈ res, f.1 ≤ d) → 1 ≤ fuel → n < fuel + d →
      ∃ (n' : Int) (res' : List (Int × Int)), factOdd fuel d n res = .ok (n', res') ∧
        fprod res' * n' = fprod res * n ∧ Good res' ∧
        (n' = 1 ∨ (2 ≤ n' ∧ n'.toNat.Prime ∧ ∀ f ∈ res', f.1 < n')) := by
  intro fuel
  induction fuel with
  | zero => intro d n res _ _ _ _ _ _ h; omega
  | succ fuel ih =>
    intro d n res hodd hd h1 hq hg hres _ hfuel
    -- `d + 1` is even, so every prime divisor of `n` is at least the next candidate `d + 2`
    obtain ⟨i, hi⟩ := hodd
    have hq2 : ∀ q : Nat, q.Prime → (q : Int) ∣ n → d + 2 ≤ (q : Int) := by
      intro q hp hdv
      have h := hq q hp hdv
      by_contra hlt
      have := hp.eq_one_or_self_of_dvd 2 (Int.natCast_dvd_natCast.mp ⟨i + 1, by push_cast; omega⟩)
      omega
    -- … and at least the one after it when that candidate does not divide
    have hq' : ∀ n' : Int, n' ∣ n → ¬ (d + 2) ∣ n' → ∀ q : Nat, q.Prime → (q : Int) ∣ n' → d + 2 < (q : Int) :=
      fun n' hn' hnd q hp hdv =>
        lt_of_le_of_ne (hq2 q hp (hdv.trans hn')) fun h => hnd (h ▸ hdv)
    have hres' : ∀ f ∈ res, f.1 < d + 2 := fun f hf => by have := hres f hf; omega
    have hdpos : 0 < d + 2 := by omega
    rw [factOdd]
    dsimp only
    rw [if_neg (by omega), pdiv_eq_ediv hdpos, pmod_eq_emod hdpos]
    by_cases hex : n / (d + 2) < d + 2
    · rw [if_pos hex]
      refine ⟨n, res, rfl, rfl, hg, ?_⟩
      by_cases hn1 : n = 1
      · exact Or.inl hn1
      · have hn2 : 2 ≤ n := by omega
        -- `n` has a prime divisor `q ≤ n`, and `q ≥ d + 2` exceeds every base found so far
        obtain ⟨q, hp, hdv, hqn⟩ := exists_prime_dvd hn2
        have hdn : d + 2 ≤ n := (hq2 q hp hdv).trans hqn
        exact Or.inr ⟨hn2, prime_of_lt_sq hn2 hdpos.le hq2 ((Int.ediv_lt_iff_lt_mul hdpos).mp hex),
          fun f hf => (hres' f hf).trans_le hdn⟩
    · rw [if_neg hex]
      have hsq : d + 2 ≤ (d + 2) * (d + 2) := le_mul_of_one_le_left hdpos.le (by omega)
      have hge : (d + 2) * (d + 2) ≤ n := (Int.le_ediv_iff_mul_le hdpos).mp (not_lt.mp hex)
      by_cases hr : n % (d + 2) = 0
      · have hdn : d + 2 ∣ n := Int.dvd_of_emod_eq_zero hr
        obtain ⟨m, rfl⟩ := id hdn
        obtain ⟨n', c, he, h1', hdvd, hle, hnd, hgood, hfp⟩ :=
          divideOut_spec (by omega) (prime_of_least (by omega) hdn hq2) h1 hg hres'
        rw [if_pos hr, Int.mul_ediv_cancel_left m (by omega), he]
        obtain ⟨n'', res'', he2, hprod, hrest⟩ :=
          ih (d + 2) n' (res ++ [(d + 2, c)]) ⟨i + 1, by omega⟩ (by omega) h1' (hq' n' hdvd hnd) hgood
            (forall_mem_snoc (fun f hf => (hres' f hf).le) le_rfl)
            (by omega) (by push_cast at hfuel ⊢; omega)
        exact ⟨n'', res'', he2, hprod.trans hfp, hrest⟩
      · rw [if_neg hr]
        exact ih (d + 2) n res ⟨i + 1, by omega⟩ (by omega) h1
          (hq' n dvd_rfl fun h => hr (Int.emod_eq_zero_of_dvd h))
          hg (fun f hf => (hres' f hf).le) (by omega) (by push_cast at hfuel ⊢; omega)

/-- the two shapes of the result: all bases proved prime, or all but a last cofactor that `is_prime` accepted -/
theorem factorization_struct (lg : Int → Int) (n : Int) (hn : 2 ≤ n) :
    ∃ fs, factorization lg n = .ok fs ∧ fprod fs = n ∧
      (Good fs ∨ ∃ init n', fs = init ++ [(n', 1)] ∧ Good init ∧ (∀ f ∈ init, f.1 ≤ 1229) ∧ 1229 < n' ∧
        isPrime lg n' = .ok true) := by
  obtain ⟨n1, res1, he1, hprod1, h1, hg1, hle1, hq1⟩ :=
    factSmall_spec smallprimes n [] smallprimes_sorted
      (fun d hd => by
        obtain ⟨h0, hp, hle⟩ := (mem_smallprimes d).mp hd
        have := hp.two_le
        exact ⟨by omega, hle, hp⟩)
      (by omega)
      (fun q hp _ hle => (mem_smallprimes q).mpr ⟨by omega, by simpa using hp, hle⟩)
      Good.nil (by simp)
  have hprod1' : fprod res1 * n1 = n := by simpa [fprod] using hprod1
  unfold factorization
  rw [if_neg (by omega), he1, lastSmall_eq]
  simp only [bind, Except.bind]
  by_cases hbig : n1 > 1229
  · rw [if_pos hbig]
    obtain ⟨b, hb⟩ := isPrime_total' lg n1
    rw [hb]
    cases b with
    | true =>
      refine ⟨_, rfl, ?_, Or.inr ⟨res1, n1, rfl, hg1, hle1, hbig, hb⟩⟩
      rw [fprod_snoc]; simpa using hprod1'
    | false =>
      obtain ⟨n2, res2, he2, hprod2, hg2, hfin⟩ :=
        factOdd_spec (n1.natAbs + 1) 1229 n1 res1 ⟨614, rfl⟩ le_rfl h1 hq1 hg1 hle1 (by omega) (by omega)
      simp only [Bool.false_eq_true, ↓reduceIte, he2]
      rcases hfin with rfl | ⟨h2, hp, hlt⟩
      · refine ⟨_, rfl, ?_, Or.inl (by simpa using hg2)⟩
        rw [if_neg (by decide), ← hprod1', ← hprod2, mul_one]
      · refine ⟨_, rfl, ?_, Or.inl ?_⟩
        · rw [if_pos (by omega), fprod_snoc, ← hprod1', ← hprod2]; simp
        · rw [if_pos (by omega)]
          exact hg2.snoc hlt h2 hp le_rfl
  · -- the cofactor has no prime divisor at all
    have hn1 : n1 = 1 := eq_one_of_no_prime h1 fun q hp hdv => by
      have := hq1 q hp hdv
      have := Int.le_of_dvd (by omega) hdv
      omega
    rw [if_neg hbig]
    exact ⟨_, rfl, by rw [← hprod1', hn1, mul_one], Or.inl hg1⟩

/-- every base is prime, except that a last entry `(n', 1)`, `n' > 1229`, appended by the shortcut
`if is_prime(n): result.append((n, 1))`, is only as prime as the Miller–Rabin test `is_prime` says -/
theorem factorization_spec (lg : Int → Int) (n : Int) :
    (n < 2 → factorization lg n = .ok []) ∧
    (2 ≤ n → ∃ fs, factorization lg n = .ok fs ∧
        (fs.map (fun f => f.1 ^ f.2.toNat)).prod = n ∧
        (fs.map Prod.fst).Pairwise (· < ·) ∧
        (∀ f ∈ fs, 1 ≤ f.2) ∧
        (∀ f ∈ fs, 2 ≤ f.1) ∧
        (∀ f ∈ fs, f.1.toNat.Prime ∨
          (1229 < f.1 ∧ f.2 = 1 ∧ isPrime lg f.1 = .ok true ∧ f = fs.getLast?.getD f))) := by
  refine ⟨fun h => by unfold factorization; rw [if_pos h], fun hn => ?_⟩
  obtain ⟨fs, he, hprod, hcase⟩ := factorization_struct lg n hn
  refine ⟨fs, he, hprod, ?_⟩
  rcases hcase with hg | ⟨init, n', rfl, hg, hle, hbig, hpr⟩
  · exact ⟨hg.sorted, hg.exp, fun f hf => (hg.prime f hf).1, fun f hf => Or.inl (hg.prime f hf).2⟩
  · exact ⟨sorted_snoc hg.sorted fun f hf => (hle f hf).trans_lt hbig,
      forall_mem_snoc hg.exp le_rfl,
      forall_mem_snoc (fun f hf => (hg.prime f hf).1) (by show 2 ≤ n'; omega),
      forall_mem_snoc (fun f hf => Or.inl (hg.prime f hf).2) (Or.inr ⟨hbig, rfl, hpr, by simp⟩)⟩

theorem factorization_spec_basic (lg : Int → Int) (n : Int) (hn : 2 ≤ n) :
    ∃ fs, factorization lg n = .ok fs ∧ (fs.map (fun f => f.1 ^ f.2.toNat)).prod = n ∧
      (fs.map Prod.fst).Pairwise (· < ·) ∧ (∀ f ∈ fs, 1 ≤ f.2 ∧ 2 ≤ f.1) := by
  obtain ⟨fs, he, hp, hs, he1, h2, _⟩ := (factorization_spec lg n).2 hn
  exact ⟨fs, he, hp, hs, fun f hf => ⟨he1 f hf, h2 f hf⟩⟩

theorem factorization_all_prime (lg : Int → Int) (n : Int) (hn : 2 ≤ n)
    (hsound : ∀ m, 1229 < m → isPrime lg m = .ok true → m.toNat.Prime) :
    ∃ fs, factorization lg n = .ok fs ∧ ∀ f ∈ fs, f.1.toNat.Prime := by
  obtain ⟨fs, he, _, _, _, _, hp⟩ := (factorization_spec lg n).2 hn
  refine ⟨fs, he, fun f hf => ?_⟩
  rcases hp f hf with h | ⟨h1, _, h3, _⟩
  · exact h
  · exact hsound _ h1 h3

/-! non-vacuity: both phases, the shortcut, and the trivial range -/
example : factorization (fun _ => 0) 360 = .ok [(2, 3), (3, 2), (5, 1)] := by decide +kernel
example : factorization (fun _ => 0) (1231 * 1231) = .ok [(1231, 2)] := by decide +kernel
example : factorization (fun _ => 20) (2 * 1231 * 1237) = .ok [(2, 1), (1231, 1), (1237, 1)] := by decide +kernel
example : factorization (fun _ => 10) (4 * 1231) = .ok [(2, 2), (1231, 1)] := by decide +kernel
example : factorization (fun _ => 0) 1 = .ok [] := by decide +kernel
example : factorization (fun _ => 0) (-7) = .ok [] := by decide +kernel

end NTProofs
