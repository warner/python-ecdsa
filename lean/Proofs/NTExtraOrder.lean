import Model.NumberTheoryExtra
import Proofs.NTInv
import Mathlib.GroupTheory.OrderOfElement
import Mathlib.FieldTheory.Finite.Basic
import Mathlib.Data.ZMod.Basic
import Mathlib.Data.ZMod.Units
/-! deprecated helpers (C16x), part 2: `order_mod` against `orderOf` in `ZMod m` -/
namespace NTXProofs
open NT NTX NTProofs

variable {M : ℕ}

theorem emod_eq_one_iff (hM : 2 ≤ M) (y : ℤ) : y % (M : ℤ) = 1 ↔ (y : ZMod M) = 1 := by
  rw [show (y : ZMod M) = 1 ↔ (y : ZMod M) = ((1 : ℤ) : ZMod M) by rw [Int.cast_one], ZMod.intCast_eq_intCast_iff',
    Int.emod_eq_of_lt (show (0 : ℤ) ≤ 1 by decide) (by omega)]

theorem orderLoop_reduced (hM : 2 ≤ M) (x : ℤ) (d : ℕ) (hd : (x : ZMod M) ^ d = 1)
    (hmin : ∀ i, 2 ≤ i → i < d → (x : ZMod M) ^ i ≠ 1) :
    ∀ (fuel j : ℕ), 2 ≤ j → j ≤ d → d - j < fuel →
      orderLoop x M fuel (x ^ j % (M : ℤ)) j = .ok (d : ℤ) := by
  intro fuel
  induction fuel with
  | zero => intro j _ _ h; omega
  | succ f ih =>
    intro j hj2 hjd hf
    have h1 : x ^ j % (M : ℤ) = 1 ↔ (x : ZMod M) ^ j = 1 := by rw [emod_eq_one_iff hM, Int.cast_pow]
    rw [orderLoop]
    by_cases hj : j = d
    · rw [if_neg (not_not.mpr (h1.mpr (hj ▸ hd))), hj]
    · have hz : pmod (x ^ j % (M : ℤ) * x) M = x ^ (j + 1) % (M : ℤ) := by
        rw [pmod_eq_emod (by omega), pow_succ, Int.mul_emod, Int.emod_emod_of_dvd _ (dvd_refl _), ← Int.mul_emod]
      rw [if_pos (mt h1.mp (hmin j hj2 (by omega))), hz]
      exact_mod_cast ih (j + 1) (by omega) (by omega) (by omega)

/-- an UNREDUCED argument `x ≡ 1 (mod m)`, `x ≠ 1` (e.g. `order_mod(8, 7)`) yields 2 instead of 1, because the loop tests
the raw `x` first -/
theorem orderMod_coprime (hM : 2 ≤ M) (x : ℤ) (hg : Int.gcd x M = 1) :
    orderMod x M = .ok (if x ≠ 1 ∧ x % (M : ℤ) = 1 then 2 else (orderOf (x : ZMod M) : ℤ)) := by
  have : NeZero M := ⟨by omega⟩
  rw [orderMod, if_neg (by omega), if_neg (by simp [gcd2, hg])]
  by_cases hx1 : x = 1
  · subst hx1
    simp [orderLoop]
  · -- after the first round the state is reduced; the loop then finds the least `d ≥ 2` with `x^d = 1`
    obtain ⟨d, hd2, hdM, hd, hmin, hres⟩ : ∃ d : ℕ, 2 ≤ d ∧ d ≤ M ∧ (x : ZMod M) ^ d = 1 ∧
        (∀ i, 2 ≤ i → i < d → (x : ZMod M) ^ i ≠ 1) ∧
        (d : ℤ) = if x ≠ 1 ∧ x % (M : ℤ) = 1 then 2 else (orderOf (x : ZMod M) : ℤ) := by
      by_cases hu1 : x % (M : ℤ) = 1
      · have hX : (x : ZMod M) = 1 := (emod_eq_one_iff hM x).mp hu1
        exact ⟨2, le_rfl, hM, by rw [hX, one_pow], fun i h1 h2 => by omega, by rw [if_pos ⟨hx1, hu1⟩]; rfl⟩
      · have hfin : IsOfFinOrder (x : ZMod M) :=
          ((ZMod.coe_int_isUnit_iff_isCoprime x M).mpr
            (isCoprime_comm.mp (Int.isCoprime_iff_gcd_eq_one.mpr hg))).isOfFinOrder
        have hole : orderOf (x : ZMod M) ≤ M := by
          have := orderOf_le_card_univ (x := (x : ZMod M)); rwa [ZMod.card] at this
        have ho1 : orderOf (x : ZMod M) ≠ 1 := fun h =>
          hu1 ((emod_eq_one_iff hM x).mpr (orderOf_eq_one_iff.mp h))
        have := hfin.orderOf_pos
        exact ⟨_, by omega, hole, pow_orderOf_eq_one _,
          fun i h1 h2 hi => absurd (Nat.le_of_dvd (by omega) (orderOf_dvd_of_pow_eq_one hi)) (by omega),
          by rw [if_neg (fun h => hu1 h.2)]⟩
    have := orderLoop_reduced hM x d hd hmin (M : ℤ).natAbs 2 le_rfl hd2 (by simp; omega)
    rw [orderLoop, if_pos hx1, pmod_eq_emod (by omega), ← pow_two, ← hres]
    exact this

theorem orderMod_other (x m : ℤ) :
    (m ≤ 1 → orderMod x m = .ok 0) ∧ (2 ≤ m → Int.gcd x m ≠ 1 → orderMod x m = .error .assertionError) := by
  constructor
  · intro h; simp [orderMod, h]
  · intro h hg
    have : ¬ gcd2 x m = 1 := by simpa [gcd2] using hg
    simp [orderMod, show ¬ m ≤ 1 by omega, this]

end NTXProofs
