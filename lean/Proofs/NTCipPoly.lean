import Proofs.NTCip1
import Mathlib.RingTheory.AdjoinRoot
import Mathlib.Algebra.Polynomial.Div
import Mathlib.Data.ZMod.Basic
/-!
# NTCipPoly — the list helpers as operations of `𝔽_p[x]/(f)` (instance of `NTCip1` with `K = AdjoinRoot f`)

`toPoly p l` is the polynomial over `ZMod p` whose coefficient list is `l`.  For `f = toPoly p polymod` monic the
helpers return the *canonical representative*: `toPoly (mul m1 m2) = (toPoly m1 * toPoly m2) %ₘ f` etc.
-/
namespace NTCip
open NT NTProofs Polynomial

/-- the polynomial over `ZMod p` with coefficient list `l` (increasing powers) -/
noncomputable def toPoly (p : ℕ) (l : List ℤ) : (ZMod p)[X] := evalL l (X : (ZMod p)[X])

theorem evalL_map {K L : Type*} [CommRing K] [CommRing L] (φ : K →+* L) (t : K) :
    ∀ l : List ℤ, φ (evalL l t) = evalL l (φ t)
  | [] => by simp [evalL]
  | c :: cs => by simp [evalL, evalL_map φ t cs]

theorem evalL_append {K : Type*} [CommRing K] (t : K) : ∀ xs ys : List ℤ,
    evalL (xs ++ ys) t = evalL xs t + t ^ xs.length * evalL ys t
  | [], ys => by simp [evalL]
  | x :: xs, ys => by
    simp only [List.cons_append, evalL, evalL_append t xs ys, List.length_cons]; ring

variable {p : ℕ}

theorem coeff_toPoly : ∀ (l : List ℤ) (i : ℕ), (toPoly p l).coeff i = ((l.getD i 0 : ℤ) : ZMod p)
  | [], i => by simp [toPoly, evalL]
  | c :: cs, 0 => by
    simp only [toPoly, evalL, coeff_add, coeff_X_mul_zero, add_zero, List.getD_cons_zero]
    rw [← C_eq_intCast, coeff_C_zero]
  | c :: cs, i+1 => by
    have := coeff_toPoly cs i
    simp only [toPoly, evalL] at this ⊢
    rw [coeff_add, coeff_X_mul, this, ← C_eq_intCast, coeff_C_succ]
    simp

theorem degree_toPoly_lt (l : List ℤ) : (toPoly p l).degree < l.length := by
  rw [degree_lt_iff_coeff_zero]
  intro m hm
  rw [coeff_toPoly, List.getD_eq_getElem?_getD, List.getElem?_eq_none hm]; simp

theorem toPoly_monic [Nontrivial (ZMod p)] (polymod : List ℤ) (hmonic : polymod.getLast? = some 1) :
    (toPoly p polymod).Monic ∧ (toPoly p polymod).degree = ((polymod.length - 1 : ℕ) : WithBot ℕ) := by
  obtain ⟨ini, rfl⟩ := List.getLast?_eq_some_iff.mp hmonic
  have e : toPoly p (ini ++ [1]) = X ^ ini.length + toPoly p ini := by
    simp only [toPoly, evalL_append, evalL]; simp; ring
  rw [e]
  refine ⟨monic_X_pow_add (degree_toPoly_lt ini), ?_⟩
  rw [degree_add_eq_left_of_degree_lt (by rw [degree_X_pow]; exact degree_toPoly_lt ini), degree_X_pow]; simp

theorem adjoinRoot_setup (polymod : List ℤ) :
    (((p : ℕ) : ℤ) : AdjoinRoot (toPoly p polymod)) = 0 ∧
    (∀ l : List ℤ, evalL l (AdjoinRoot.root (toPoly p polymod)) = AdjoinRoot.mk (toPoly p polymod) (toPoly p l)) := by
  constructor
  · rw [Int.cast_natCast, ← map_natCast (AdjoinRoot.of (toPoly p polymod)), ZMod.natCast_self, map_zero]
  · intro l
    have := evalL_map (AdjoinRoot.mk (toPoly p polymod)) X l
    rw [AdjoinRoot.mk_X] at this
    exact this.symm

theorem eq_modByMonic_of_mk_eq (f g r : (ZMod p)[X]) (hf : f.Monic) (hdeg : r.degree < f.degree)
    (h : AdjoinRoot.mk f r = AdjoinRoot.mk f g) : r = g %ₘ f := by
  obtain ⟨c, hc⟩ := AdjoinRoot.mk_eq_mk.mp h
  exact ((div_modByMonic_unique (-c) r hf ⟨by linear_combination hc, hdeg⟩).2).symm

section
variable [Fact (1 < p)]

theorem degree_toPoly_lt_of_length {polymod q : List ℤ} (hmonic : polymod.getLast? = some 1)
    (hq : q.length ≤ polymod.length - 1) : (toPoly p q).degree < (toPoly p polymod).degree := by
  rw [(toPoly_monic polymod hmonic).2]
  exact lt_of_lt_of_le (degree_toPoly_lt q) (by exact_mod_cast hq)

theorem toPoly_eq_modByMonic {polymod q : List ℤ} (g : (ZMod p)[X]) (hmonic : polymod.getLast? = some 1)
    (hq : q.length ≤ polymod.length - 1)
    (hev : evalL q (AdjoinRoot.root (toPoly p polymod)) = AdjoinRoot.mk (toPoly p polymod) g) :
    toPoly p q = g %ₘ toPoly p polymod := by
  rw [(adjoinRoot_setup polymod).2] at hev
  exact eq_modByMonic_of_mk_eq _ _ _ (toPoly_monic polymod hmonic).1 (degree_toPoly_lt_of_length hmonic hq) hev

theorem polyReduceMod_modByMonic (poly polymod : List ℤ) (hmonic : polymod.getLast? = some 1)
    (hlen : 2 ≤ polymod.length) :
    ∃ q, polyReduceMod poly polymod p = .ok q ∧ toPoly p q = toPoly p poly %ₘ toPoly p polymod ∧
      q.length < polymod.length ∧ (InRange p poly → InRange p q) := by
  have hp1 : 1 < p := Fact.out
  obtain ⟨hpK, hmk⟩ := adjoinRoot_setup (p := p) polymod
  obtain ⟨q, hq, hev, hl, hr⟩ := polyReduceMod_spec hpK (by omega) _ polymod hmonic hlen
    (by rw [hmk, AdjoinRoot.mk_self]) poly
  exact ⟨q, hq, toPoly_eq_modByMonic _ hmonic (by omega) (by rw [hev, hmk]), by omega, hr (by omega)⟩

theorem polyMulMod_modByMonic (m1 m2 polymod : List ℤ) (hmonic : polymod.getLast? = some 1)
    (hlen : 2 ≤ polymod.length) :
    ∃ q, polyMulMod m1 m2 polymod p = .ok q ∧
      toPoly p q = (toPoly p m1 * toPoly p m2) %ₘ toPoly p polymod ∧
      q.length < polymod.length ∧ InRange p q := by
  have hp1 : 1 < p := Fact.out
  obtain ⟨hpK, hmk⟩ := adjoinRoot_setup (p := p) polymod
  obtain ⟨q, hq, hev, hl, hr⟩ := polyMulMod_spec hpK (by omega) _ polymod hmonic hlen
    (by rw [hmk, AdjoinRoot.mk_self]) m1 m2
  exact ⟨q, hq, toPoly_eq_modByMonic _ hmonic (by omega) (by rw [hev, hmk, hmk, map_mul]), by omega, hr (by omega)⟩

theorem polyExpMod_modByMonic (base polymod : List ℤ) (e : ℤ) (hmonic : polymod.getLast? = some 1)
    (hlen : 2 ≤ polymod.length) (he0 : 0 ≤ e) (hep : e < p) (hbase : Reduced p polymod base) :
    ∃ q, polyExpMod base e polymod p = .ok q ∧
      toPoly p q = (toPoly p base ^ e.toNat) %ₘ toPoly p polymod ∧
      q.length < polymod.length ∧ InRange p q := by
  have hp1 : 1 < p := Fact.out
  obtain ⟨hpK, hmk⟩ := adjoinRoot_setup (p := p) polymod
  obtain ⟨q, hq, hev, hl, hr⟩ := polyExpMod_reduced hpK (by omega) _ polymod hmonic hlen
    (by rw [hmk, AdjoinRoot.mk_self]) base e he0 hep hbase
  exact ⟨q, hq, toPoly_eq_modByMonic _ hmonic (by omega) (by rw [hev, hmk, map_pow]), hl, hr⟩

end

/-- non-vacuity: `x⁹ mod (x² − 6x + 2)` over `𝔽₁₇` -/
example : polyExpMod [0, 1] 9 [2, -6, 1] 17 = .ok [6, 0] := by decide +kernel
example : polyMulMod [3, 4] [5, 6] [2, -6, 1] 17 = .ok [1, 12] := by decide +kernel

end NTCip
