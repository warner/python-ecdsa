import Model.NumberTheory
import Proofs.NTMR
import Mathlib.NumberTheory.LegendreSymbol.JacobiSymbol
/-! `numbertheory.jacobi` equals Mathlib's Jacobi symbol, and its recursion depth is logarithmic: `⌊log₂ n⌋ + 3` nested
calls always suffice (C15; the Python function is recursive, so this bounds the interpreter stack it needs) -/
namespace NTProofs
open NT NumberTheorySymbols

theorem jacobi_post_eq {α : Type} (a1 e n : Int) (REC : Int → Int → Int → α) (DONE : Int → α) :
    Gen.NT.jacobi_post a1 e n REC DONE =
      (let s : Int := if e % 2 = 0 ∨ n % 8 = 1 ∨ n % 8 = 7 then 1 else -1
       if a1 = 1 then DONE s
       else REC (if n % 4 = 3 ∧ a1 % 4 = 3 then -s else s) (Int.fmod n a1) a1) := by
  have h2 : Int.fmod e 2 = e % 2 := Int.fmod_eq_emod_of_nonneg e (by decide)
  have h8 : Int.fmod n 8 = n % 8 := Int.fmod_eq_emod_of_nonneg n (by decide)
  have h4 : Int.fmod n 4 = n % 4 := Int.fmod_eq_emod_of_nonneg n (by decide)
  have h4' : Int.fmod a1 4 = a1 % 4 := Int.fmod_eq_emod_of_nonneg a1 (by decide)
  simp only [Gen.NT.jacobi_post, h2, h8, h4, h4', Bool.or_eq_true, Bool.and_eq_true, decide_eq_true_eq, or_assoc]
  by_cases c : e % 2 = 0 ∨ n % 8 = 1 ∨ n % 8 = 7 <;> by_cases c2 : n % 4 = 3 ∧ a1 % 4 = 3 <;>
    simp only [c, c2, and_self, if_true, if_false]

theorem jacobi_pre_eq {α : Type} (a n : Int) (LOOP : Int → Int → α) (DONE : Int → α) :
    Gen.NT.jacobi_pre a n LOOP DONE =
      (if Int.fmod a n = 0 then DONE 0 else if Int.fmod a n = 1 then DONE 1 else LOOP (Int.fmod a n) 0) := by
  simp only [Gen.NT.jacobi_pre, decide_eq_true_eq]

/-- the halving loop of `jacobi` is the one of `is_prime` (`splitTwos`) with the two state components swapped -/
theorem jacobiStrip_eq : ∀ (fuel : Nat) (a e : Int), jacobiStrip fuel a e = (splitTwos fuel e a).map Prod.swap
  | 0, _, _ => rfl
  | f + 1, a, e => by
    rw [jacobiStrip, splitTwos]
    have hc : Gen.NT.jacobi_loop_cond a = true ↔ pmod a 2 = 0 := decide_eq_true_iff
    by_cases h : pmod a 2 = 0
    · rw [if_pos h, if_pos (hc.mpr h)]; exact jacobiStrip_eq f _ _
    · rw [if_neg h, if_neg (mt hc.mp h)]; rfl

theorem jacobiStrip_spec (fuel : Nat) (a1 e : Int) (h0 : 0 < a1) (h1 : a1 < fuel) :
    ∃ (k : Nat) (m : Int), jacobiStrip fuel a1 e = some (m, e + k) ∧ a1 = 2 ^ k * m ∧ m % 2 = 1 ∧ 0 < m := by
  obtain ⟨k, m, hs, h⟩ := splitTwos_spec fuel e a1 h0 h1
  exact ⟨k, m, by rw [jacobiStrip_eq, hs]; rfl, h⟩
theorem jacobi_two_pow_mul (k : Nat) (m : Int) (n : Nat) (hn : n % 2 = 1) :
    J((2 : Int) ^ k * m | n) =
      (if (k : Int) % 2 = 0 ∨ (n : Int) % 8 = 1 ∨ (n : Int) % 8 = 7 then 1 else -1) * J(m | n) := by
  rw [jacobiSym.mul_left, jacobiSym.pow_left, jacobiSym.at_two (Nat.odd_iff.mpr hn),
    ZMod.χ₈_nat_eq_if_mod_eight, if_neg (by omega)]
  congr 1
  by_cases h : n % 8 = 1 ∨ n % 8 = 7
  · rw [if_pos h, one_pow, if_pos (by exact_mod_cast Or.inr h)]
  · rw [if_neg h]
    rcases Nat.even_or_odd k with hk | hk
    · rw [hk.neg_one_pow, if_pos (Or.inl (by exact_mod_cast Nat.even_iff.mp hk))]
    · rw [hk.neg_one_pow, if_neg (by exact_mod_cast not_or.mpr ⟨by rw [Nat.odd_iff.mp hk]; decide, h⟩)]

theorem jacobi_flip (s : Int) (M n : Nat) (hM : M % 2 = 1) (hn : n % 2 = 1) :
    (if (n : Int) % 4 = 3 ∧ (M : Int) % 4 = 3 then -s else s) * J(n | M) = s * J(M | n) := by
  rw [← jacobiSym.quadratic_reciprocity_if hM hn]
  by_cases h : M % 4 = 3 ∧ n % 4 = 3
  · rw [if_pos h, if_pos (by exact_mod_cast h.symm)]; ring
  · rw [if_neg h, if_neg (by exact_mod_cast fun h' : n % 4 = 3 ∧ M % 4 = 3 => h h'.symm)]

theorem le_two_pow_mul (k : Nat) {m : Int} (hm : 0 ≤ m) : m ≤ 2 ^ k * m :=
  le_mul_of_one_le_left hm (one_le_pow₀ (by decide))

/-- one call either answers without recursing, or the answer is `±` that of the recursive call `jacobi(n % M, M)` -/
theorem jacobiF_succ (f : Nat) (a : Int) (n : Nat) (hn3 : 3 ≤ n) (hodd : n % 2 = 1) :
    jacobiF (f + 1) a n = .ok J(a | n) ∨
    ∃ (k M : Nat) (s : Int), a % n = 2 ^ k * M ∧ 3 ≤ M ∧ M % 2 = 1 ∧ s * J((n : Int) % M | M) = J(a | n) ∧
      jacobiF (f + 1) a n = (jacobiF f ((n : Int) % M) M).map (s * ·) := by
  have hnpos : (0 : Int) < n := by omega
  have hA1 : Gen.NT.jacobi_assert1 a n = true := by simp [Gen.NT.jacobi_assert1]; omega
  have hA2 : Gen.NT.jacobi_assert2 a n = true := by
    simp only [Gen.NT.jacobi_assert2, decide_eq_true_eq, Int.fmod_eq_emod_of_nonneg (n : Int) (show (0 : Int) ≤ 2 by decide)]
    omega
  have h0 : 0 ≤ a % n := Int.emod_nonneg a (by omega)
  have hl : a % n < n := Int.emod_lt_of_pos a hnpos
  rw [jacobiF, jacobiSym.mod_left a n]
  simp only [hA1, hA2, Bool.not_true, Bool.false_eq_true, ↓reduceIte, jacobi_pre_eq,
    Int.fmod_eq_emod_of_nonneg a (le_of_lt hnpos)]
  generalize a % (n : Int) = a' at h0 hl ⊢
  by_cases c0 : a' = 0
  · left; rw [if_pos c0, c0, jacobiSym.zero_left (by omega)]
  by_cases c1 : a' = 1
  · left; rw [if_neg c0, if_pos c1, c1, jacobiSym.one_left]
  obtain ⟨k, m, hs, ham, hm2, hm0⟩ := jacobiStrip_spec (a'.natAbs + 1) a' 0 (by omega) (by omega)
  obtain ⟨M, rfl⟩ : ∃ M : Nat, m = M := ⟨m.toNat, by omega⟩
  have hJ := jacobi_two_pow_mul k M n hodd
  rw [← ham] at hJ
  simp only [if_neg c0, if_neg c1, hs, jacobi_post_eq, zero_add]
  by_cases cm : (M : Int) = 1
  · left; rw [if_pos cm, hJ, cm, jacobiSym.one_left, mul_one]
  · have hM : (M : Int) ≤ a' := ham ▸ le_two_pow_mul k (by omega)
    refine Or.inr ⟨k, M, _, ham, by omega, by omega, ?_, by rw [if_neg cm, Int.fmod_eq_emod_of_nonneg _ (by omega)]⟩
    rw [← jacobiSym.mod_left, jacobi_flip _ M n (by omega) hodd, hJ]

/-- `n = q·M + r` with `n`, `M` odd and `M < n`: a quotient `q ≥ 2` leaves room for `M + 2r`; `q = 1` makes `r` even, so its
odd part is at most `r / 2` -/
theorem add_two_mul_odd_part_le {n M k m : Nat} (hn : n % 2 = 1) (hM : M % 2 = 1) (hlt : M < n)
    (hr : n % M = 2 ^ k * m) (hm : m % 2 = 1) : M + 2 * m ≤ n := by
  have hdiv := Nat.div_add_mod n M
  have hrM : n % M < M := Nat.mod_lt n (by omega)
  have hle : m ≤ 2 ^ k * m := Nat.le_mul_of_pos_left m (Nat.two_pow_pos k)
  rcases Nat.lt_or_ge (n / M) 2 with hq | hq
  · have hq1 : n / M = 1 := by have := Nat.div_pos hlt.le (by omega : 0 < M); omega
    rw [hq1, mul_one] at hdiv
    cases k with
    | zero => rw [pow_zero, one_mul] at hr; omega
    | succ j =>
      have : m ≤ 2 ^ j * m := Nat.le_mul_of_pos_left m (Nat.two_pow_pos j)
      rw [pow_succ, mul_assoc, mul_comm 2 m, ← mul_assoc] at hr
      omega
  · have : M * 2 ≤ M * (n / M) := Nat.mul_le_mul_left M hq
    omega

/-- potential: `n + m`, `m` the odd part of `a % n`; it at least halves in every recursive call, so `f` calls below the
first suffice when it is below `2^f`.  (Sharp up to the additive constant: `n_k = n_{k-1} + 2·n_{k-2}` grows like `2^k`.) -/
theorem jacobiF_eq_of_pot : ∀ (F f : Nat) (a : Int) (n : Nat), 3 ≤ n → n % 2 = 1 →
    (∀ k m : Nat, a % (n : Int) = 2 ^ k * m → m % 2 = 1 → n + m < 2 ^ f) → f < F →
    jacobiF F a n = .ok J(a | n) := by
  intro F
  induction F with
  | zero => intro f a n _ _ _ hF; omega
  | succ F ih =>
    intro f a n hn3 hodd hpot hF
    rcases jacobiF_succ F a n hn3 hodd with h | ⟨k, M, s, ham, hM3, hModd, hs, hstep⟩
    · exact h
    · have hMn : M < n := by
        have h1 := Int.emod_lt_of_pos a (show (0 : Int) < n by omega)
        have h2 : (M : Int) ≤ 2 ^ k * M := le_two_pow_mul k (by omega)
        omega
      have hpm := hpot k M ham hModd
      cases f with
      | zero => rw [pow_zero] at hpm; omega
      | succ g =>
        rw [hstep, ih g _ M hM3 hModd ?_ (by omega), Except.map, hs]
        intro k' m' hr hm'
        rw [Int.emod_emod_of_dvd _ (dvd_refl _)] at hr
        have := add_two_mul_odd_part_le hodd hModd hMn (k := k') (m := m') (by exact_mod_cast hr) hm'
        rw [pow_succ] at hpm
        omega

theorem jacobiF_eq (a : Int) (n : Nat) (hn3 : 3 ≤ n) (hodd : n % 2 = 1) (F : Nat) (hF : Nat.log2 n + 2 < F) :
    jacobiF F a n = .ok J(a | n) := by
  refine jacobiF_eq_of_pot F _ a n hn3 hodd (fun k m ham _ => ?_) hF
  have h1 := Int.emod_lt_of_pos a (show (0 : Int) < n by omega)
  have h2 : (m : Int) ≤ 2 ^ k * m := le_two_pow_mul k (by omega)
  have h3 : n < 2 ^ (Nat.log2 n + 1) := Nat.lt_log2_self
  rw [pow_succ]
  omega

theorem jacobi_eq (a : Int) (n : Nat) (hn3 : 3 ≤ n) (hodd : n % 2 = 1) : jacobi a n = .ok J(a | n) := by
  refine jacobiF_eq a n hn3 hodd _ ?_
  obtain ⟨m, rfl⟩ : ∃ m, n = m + 2 := ⟨n - 2, by omega⟩
  have h : Nat.log2 (m + 2) < m + 1 := (Nat.log2_lt (by omega)).mpr (by
    have := Nat.lt_two_pow_self (n := m)
    rw [pow_succ]; omega)
  simp only [Int.natAbs_natCast]
  omega

end NTProofs
