import Proofs.EcdsaNt
import Mathlib.Algebra.Module.Basic
import Mathlib.Tactic.Abel
import Mathlib.Tactic.LinearCombination
/-!
# Proofs.EcdsaGroup — the interface between the ECDSA layer and the point layer, and the group algebra of ECDSA

`PointOpsCorrect ops G den xc valid`: the operations of `ops : PointOps P` compute in an abstract commutative
group `𝔾` (in the instantiation: Mathlib's `WeierstrassCurve.Affine.Point`, or the subgroup generated by the
base point), `den : P → 𝔾` is the denotation of a point object, `xc : 𝔾 → Option ℤ` the affine x-coordinate
(`none` exactly for the identity), `valid` the representation invariant of the point layer (on the curve,
coordinates reduced, in the subgroup without 2-torsion).  Everything about ECDSA is proved for **any** `ops`
that satisfies it.
Who needs which field: signing and verifying use `mulG`, `mulAddG`/`mul`/`add`, `isInf`, `xOf`; `xc_neg` only the
symmetry `s ↦ n − s` (C13) and recovery (C14); `xc_range`, `yOf`, `isInfObj` only the checks of `Public_key.__init__`
(`xc_range` also recovery); `scale`, `fromAffine` only `from_secret_exponent` / `from_public_point`.
-/
namespace Ecdsa

variable {P : Type} {𝔾 : Type} [AddCommGroup 𝔾]

structure PointOpsCorrect (ops : PointOps P) (G : 𝔾) (den : P → 𝔾) (xc : 𝔾 → Option ℤ) (valid : P → Prop) : Prop where
  n_prime : Nat.Prime ops.order.toNat
  nG : ops.order • G = 0
  G_ne : G ≠ 0
  /-- x-coordinate: defined exactly on the non-zero elements, even, in `[0, p)` -/
  xc_none : ∀ R, xc R = none ↔ R = 0
  xc_neg : ∀ R, xc (-R) = xc R
  xc_range : ∀ R x, xc R = some x → 0 ≤ x ∧ x < ops.p
  mulG : ∀ k, ∃ R, ops.mulG k = .ok R ∧ valid R ∧ den R = k • G
  /-- `G.mul_add` is only called when the generator object has it -/
  mulAddG : ops.genHasMulAdd = true → ∀ u1 Q u2, valid Q →
    ∃ R, ops.mulAddG u1 Q u2 = .ok R ∧ valid R ∧ den R = u1 • G + u2 • den Q
  mul : ∀ k Q, valid Q → ∃ R, ops.mul k Q = .ok R ∧ valid R ∧ den R = k • den Q
  add : ∀ A B, valid A → valid B → ∃ R, ops.add A B = .ok R ∧ valid R ∧ den R = den A + den B
  isInf : ∀ A, valid A → (ops.isInfinity A = true ↔ den A = 0)
  xOf : ∀ A, valid A → den A ≠ 0 → ∃ x, ops.xOf A = .ok x ∧ xc (den A) = some x
  yOf : ∀ A, valid A → den A ≠ 0 → ∃ y, ops.yOf A = .ok y ∧ 0 ≤ y ∧ y < ops.p
  scale : ∀ A, valid A → ∃ B, ops.scale A = .ok B ∧ valid B ∧ den B = den A
  fromAffine : ∀ A, valid A → valid (ops.fromAffine A) ∧ den (ops.fromAffine A) = den A
  /-- only an object denoting 0 can be the legacy point at infinity -/
  isInfObj : ∀ A, valid A → den A ≠ 0 → ops.isInfObj A = false

variable {ops : PointOps P} {G : 𝔾} {den : P → 𝔾} {xc : 𝔾 → Option ℤ} {valid : P → Prop}

theorem PointOpsCorrect.n_pos (C : PointOpsCorrect ops G den xc valid) : 0 < ops.order := by
  have := C.n_prime.pos; omega

theorem PointOpsCorrect.two_le (C : PointOpsCorrect ops G den xc valid) : 2 ≤ ops.order := by
  have := C.n_prime.two_le; omega

theorem zsmul_congr_mod {G : 𝔾} {n : ℤ} (hn : n • G = 0) {a b : ℤ} (h : a ≡ b [ZMOD n]) : a • G = b • G := by
  obtain ⟨c, hc⟩ := h.symm.dvd
  rw [sub_eq_iff_eq_add'.mp hc, add_zsmul, mul_zsmul', hn, zsmul_zero, add_zero]

theorem zsmul_zsmul_eq_zero {X : 𝔾} {n : ℤ} (h : n • X = 0) (k : ℤ) : n • k • X = 0 := by
  rw [← mul_zsmul, mul_zsmul', h, zsmul_zero]

theorem PointOpsCorrect.smul_mod (C : PointOpsCorrect ops G den xc valid) (k : ℤ) : (k % ops.order) • G = k • G :=
  zsmul_congr_mod C.nG (Int.mod_modEq k _)

/-- a non-zero element killed by a prime has that order -/
theorem PointOpsCorrect.smul_eq_zero_iff (C : PointOpsCorrect ops G den xc valid) (k : ℤ) :
    k • G = 0 ↔ ops.order ∣ k := by
  have := Fact.mk C.n_prime
  have hn : ((ops.order.toNat : ℕ) : ℤ) = ops.order := Int.toNat_of_nonneg C.n_pos.le
  have ho : addOrderOf G = ops.order.toNat :=
    addOrderOf_eq_prime (by rw [← natCast_zsmul, hn]; exact C.nG) C.G_ne
  rw [← addOrderOf_dvd_iff_zsmul_eq_zero, ho, hn]

theorem PointOpsCorrect.smul_ne_zero (C : PointOpsCorrect ops G den xc valid) {k : ℤ} (hk : ¬ ops.order ∣ k) :
    k • G ≠ 0 := fun h => hk ((C.smul_eq_zero_iff k).mp h)

end Ecdsa
