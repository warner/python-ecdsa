import Model.EcdhWire
import Proofs.KeysPem
/-!
# Proofs.KeysEcdh — the key constructors of `Model/Ecdh.lean`'s `Env` instantiated with the loaders of `Model/Keys.lean`

`LoadersAreKeys E mkPt env` says that the six constructor fields of `env` are the loaders of the Keys model (the stored
point being `mkPt curve x y`, whatever the point type of the environment is).  `EcdhWire.env cs`, the environment the model
driver runs, identifies `Curve` OBJECTS with their index in the history's curve list `cs` (a decoded key's curve is looked
up by `locate`; a curve that is not in the history is a driver artefact `.other`).  Its curve type is `Nat`, so it is not an
instance of `LoadersAreKeys`; the lemmas on `loadPrivate`, `loadPublic`, `viaLoader` hold for any curve type and serve both.
-/
namespace KeysP
open Keys

variable {Pt Ent : Type}

def toVKey (mkPt : Curve → Nat → Nat → Pt) (k : Keys.VK) : Ecdh.VKey Curve Pt := ⟨k.curve, mkPt k.curve k.x k.y⟩
def toSKey (mkPt : Curve → Nat → Nat → Pt) (k : Keys.SK) : Ecdh.SKey Curve Pt := ⟨k.curve, k.d, toVKey mkPt k.vk⟩

structure LoadersAreKeys (E : Ext) (mkPt : Curve → Nat → Nat → Pt) (env : Ecdh.Env Curve Pt Ent) : Prop where
  skFromString : ∀ c b, env.skFromString c b = (SK.fromString E c b).map (toSKey mkPt)
  skFromDer : ∀ b, env.skFromDer b = (SK.fromDer E b).map (toSKey mkPt)
  skFromPem : ∀ b, env.skFromPem b = (SK.fromPem E b).map (toSKey mkPt)
  vkFromString : ∀ c b, env.vkFromString c b = (VK.fromString E c b true).map (toVKey mkPt)
  vkFromDer : ∀ b, env.vkFromDer b = (VK.fromDer E b).map (toVKey mkPt)
  vkFromPem : ∀ b, env.vkFromPem b = (VK.fromPem E b).map (toVKey mkPt)

/-- the point operations and `generate` are whatever the caller supplies -/
def ecdhEnv (E : Ext) (mkPt : Curve → Nat → Nat → Pt) (mul : Pt → Int → Res Pt) (isInf : Pt → Bool) (xOf : Pt → Res Int)
    (generate : Curve → Ent → Res (Ecdh.SKey Curve Pt)) : Ecdh.Env Curve Pt Ent where
  fieldP c := c.p
  mul := mul
  isInf := isInf
  xOf := xOf
  generate := generate
  skFromString c b := (SK.fromString E c b).map (toSKey mkPt)
  skFromDer b := (SK.fromDer E b).map (toSKey mkPt)
  skFromPem b := (SK.fromPem E b).map (toSKey mkPt)
  vkFromString c b := (VK.fromString E c b true).map (toVKey mkPt)
  vkFromDer b := (VK.fromDer E b).map (toVKey mkPt)
  vkFromPem b := (VK.fromPem E b).map (toVKey mkPt)

theorem ecdhEnv_loaders (E : Ext) (mkPt : Curve → Nat → Nat → Pt) (mul : Pt → Int → Res Pt) (isInf : Pt → Bool)
    (xOf : Pt → Res Int) (generate : Curve → Ent → Res (Ecdh.SKey Curve Pt)) :
    LoadersAreKeys E mkPt (ecdhEnv E mkPt mul isInf xOf generate) :=
  ⟨fun _ _ => rfl, fun _ => rfl, fun _ => rfl, fun _ _ => rfl, fun _ => rfl, fun _ => rfl⟩

/-- the environment the model driver runs (`ecdh_load` lines of the correspondence) is such an environment -/
theorem wireEnv_loaders (E : Ext) : LoadersAreKeys E (fun _ x y => (x, y)) (KeysWire.ecdhEnv E) :=
  ⟨fun _ _ => rfl, fun _ => rfl, fun _ => rfl, fun _ _ => rfl, fun _ => rfl, fun _ => rfl⟩

/-- documented failures of the ECDH loaders: those of the key loaders, plus `InvalidCurveError` -/
def EcdhDocumented (e : PyErr) : Prop := Documented e ∨ e = .invalidCurve

/-- both object loaders end in `if <curve mismatch> then (s₁, InvalidCurveError) else (s₂, value)` -/
theorem snd_ite_invalidCurve {σ α : Type} {c : Prop} [Decidable c] {a b : σ} {v : α} {e : PyErr}
    (h : (if c then (a, (.error .invalidCurve : Res α)) else (b, .ok v)).2 = .error e) : e = .invalidCurve := by
  split at h
  · exact (Except.error.inj h).symm
  · cases h

theorem loadPrivate_err {Crv : Type} [DecidableEq Crv] (s : Ecdh.State Crv Pt) (sk : Ecdh.SKey Crv Pt) (e : PyErr)
    (h : (Ecdh.loadPrivate s sk).2 = .error e) : e = .invalidCurve :=
  snd_ite_invalidCurve h

theorem loadPublic_err {Crv : Type} [DecidableEq Crv] (s : Ecdh.State Crv Pt) (vk : Ecdh.VKey Crv Pt) (e : PyErr)
    (h : (Ecdh.loadPublic s vk).2 = .error e) : e = .invalidCurve :=
  snd_ite_invalidCurve h

theorem viaLoader_err {Crv K : Type} [DecidableEq Crv] (s : Ecdh.State Crv Pt) (r : Res K)
    (load : Ecdh.State Crv Pt → K → Ecdh.State Crv Pt × Res (Ecdh.Out Crv Pt))
    (hr : ∀ e, r = .error e → Documented e) (hl : ∀ s k e, (load s k).2 = .error e → e = .invalidCurve) (e : PyErr)
    (h : (Ecdh.viaLoader s r load).2 = .error e) : EcdhDocumented e := by
  cases r with
  | error e' => exact Or.inl (hr e (congrArg Except.error (Except.error.inj h)))
  | ok k => exact Or.inr (hl _ _ _ h)

theorem step_der_pem_err {Crv : Type} [DecidableEq Crv] (env : Ecdh.Env Crv Pt Ent) (s : Ecdh.State Crv Pt) (b : Bytes)
    (hsd : ∀ e, env.skFromDer b = .error e → Documented e) (hsp : ∀ e, env.skFromPem b = .error e → Documented e)
    (hvd : ∀ e, env.vkFromDer b = .error e → Documented e) (hvp : ∀ e, env.vkFromPem b = .error e → Documented e) :
    ∀ op ∈ [Ecdh.Op.loadPrivDer b, .loadPrivPem b, .loadPubDer b, .loadPubPem b],
      ∀ e, (Ecdh.step env s op).2 = .error e → EcdhDocumented e := by
  intro op hop e h
  simp only [List.mem_cons, List.not_mem_nil, or_false] at hop
  rcases hop with rfl | rfl | rfl | rfl
  · exact viaLoader_err s _ _ hsd loadPrivate_err e h
  · exact viaLoader_err s _ _ hsp loadPrivate_err e h
  · exact viaLoader_err s _ _ hvd loadPublic_err e h
  · exact viaLoader_err s _ _ hvp loadPublic_err e h

/-- every curve of the generated table is one of the curve objects of the history -/
def CoversTable (cs : Array EcdhWire.CParams) : Prop :=
  ∀ c ∈ Gen.curveTable, (EcdhWire.indexOfCurve cs c).isSome = true

theorem locate_err {α β : Type} (cs : Array EcdhWire.CParams) (hcov : CoversTable cs) (r : Res α) (crv : α → Keys.Curve)
    (f : Nat → α → β) (hmem : ∀ k, r = .ok k → crv k ∈ Gen.curveTable) (hr : ∀ e, r = .error e → Documented e) (e : PyErr)
    (h : EcdhWire.locate cs r crv f = .error e) : Documented e := by
  unfold EcdhWire.locate at h
  cases r with
  | error e' => exact hr e (congrArg Except.error (Except.error.inj h))
  | ok k =>
    simp only at h
    have := hcov _ (hmem k rfl)
    cases hi : EcdhWire.indexOfCurve cs (crv k) with
    | none => rw [hi] at this; cases this
    | some i => rw [hi] at h; cases h

end KeysP
