import Props.C12
import Props.C13
import Proofs.EcdsaEntry
import Proofs.EcdsaDecode
/-!
# Proofs.EcdsaCodec — the six signature encoders of `util.py` with their decoders satisfy `Ecdsa.Codec`
(from the round-trip theorems of C12 and the low-S theorem of C13)
-/
namespace Ecdsa

/-- a natural-number encoder of `util.py` and a decoder: whatever is encoded for `r, s < N` is read back -/
def RoundTrips {β σ : Type} (f : ℕ → ℕ → ℕ → Res β) (wrap : β → σ) (dec : σ → ℕ → Res (ℕ × ℕ)) (N : ℕ) : Prop :=
  ∀ r s, r < N → s < N → ∃ e, f r s N = .ok e ∧ dec (wrap e) N = .ok (r, s)

theorem roundTrips_string (N : ℕ) (hN : 2 ≤ N) : RoundTrips Util.sigencodeString id Util.sigdecodeString N :=
  fun r s hr hs => by
    obtain ⟨e, he, -, -, hd⟩ := C12.sigdecode_sigencode_string N r s hN hr hs
    exact ⟨e, he, hd⟩

theorem roundTrips_strings (N : ℕ) (hN : 2 ≤ N) :
    RoundTrips Util.sigencodeStrings (fun p : Bytes × Bytes => [p.1, p.2]) Util.sigdecodeStrings N :=
  fun r s hr hs => by
    obtain ⟨a, b, he, -, -, -, -, hd⟩ := C12.sigdecode_sigencode_strings N r s hN hr hs
    exact ⟨(a, b), he, hd⟩

theorem roundTrips_der (N : ℕ) (hN : 2 ≤ N) (hbig : N ≤ 256 ^ 126) :
    RoundTrips Util.sigencodeDer id Util.sigdecodeDer N :=
  fun r s hr hs => C12.sigdecode_sigencode_der N r s hN hbig hr hs

theorem toNat_le_pow {n : ℤ} (hbig : n ≤ 256 ^ 126) : n.toNat ≤ 256 ^ 126 := by
  have : (256 : ℤ) ^ 126 = ((256 ^ 126 : ℕ) : ℤ) := by norm_cast
  omega

variable {β σ : Type} {f : ℕ → ℕ → ℕ → Res β} {wrap : β → σ} {dec : σ → ℕ → Res (ℕ × ℕ)} {n : ℤ}

theorem decode_encode (hrt : RoundTrips f wrap dec n.toNat) {r s : ℤ} (r0 : 0 ≤ r) (r1 : r < n) (s1 : s < n)
    {sig : β} (h : f r.toNat s.toNat n.toNat = .ok sig) : dec (wrap sig) n.toNat = .ok (r.toNat, s.toNat) := by
  obtain ⟨e, he, hd⟩ := hrt r.toNat s.toNat (by omega) (by omega)
  rw [he] at h; cases h; exact hd

/-- `t s ∈ {s, n − s}` is what the encoder of the ECDSA layer hands to the encoder of `util.py` -/
theorem codec_of_roundTrips (hrt : RoundTrips f wrap dec n.toNat) {enc : ℤ → ℤ → ℤ → Res β} (t : ℤ → ℤ)
    (ht : ∀ s, 1 ≤ s → s < n → 0 ≤ t s ∧ t s < n ∧ (t s = s ∨ t s = n - s))
    (henc : ∀ r s, 0 ≤ r → 1 ≤ s → s < n → enc r s n = f r.toNat (t s).toNat n.toNat) : Codec enc wrap dec n := by
  intro r s sig r0 r1 s0 s1 h
  obtain ⟨t0, t1, hts⟩ := ht s s0 s1
  rw [henc r s r0 s0 s1] at h
  exact ⟨(t s).toNat, decode_encode hrt r0 r1 t1 h, by rwa [Int.toNat_of_nonneg t0]⟩

theorem encInt_eq (neg : PyErr) {r s : ℤ} (r0 : 0 ≤ r) (s0 : 0 ≤ s) (n0 : 0 ≤ n) :
    encInt f neg r s n = f r.toNat s.toNat n.toNat := if_neg (by omega)

/-- the plain encoders: `t = id` -/
theorem codec_encInt (hrt : RoundTrips f wrap dec n.toNat) (n0 : 0 ≤ n) (neg : PyErr) : Codec (encInt f neg) wrap dec n :=
  codec_of_roundTrips hrt id (fun s h1 h2 => ⟨le_trans zero_le_one h1, h2, .inl rfl⟩) fun r s r0 s0 _ => encInt_eq neg r0 (by omega) n0

/-- the low-S encoders: `t s = min s (n − s)` (`C13.model_canonize`) -/
theorem codec_canonize (hrt : RoundTrips f wrap dec n.toNat) {enc : ℤ → ℤ → ℤ → Res β}
    (henc : ∀ r s, 0 ≤ r → 1 ≤ s → s < n → enc r s n = f r.toNat (min s (n - s)).toNat n.toNat) : Codec enc wrap dec n :=
  codec_of_roundTrips hrt (fun s => min s (n - s)) (fun s h1 h2 => by omega) henc

theorem codec_string (n : ℤ) (hn : 2 ≤ n) : Codec encString id Util.sigdecodeString n :=
  codec_encInt (roundTrips_string _ (by omega)) (by omega) _

theorem codec_strings (n : ℤ) (hn : 2 ≤ n) :
    Codec encStrings (fun p : Bytes × Bytes => [p.1, p.2]) Util.sigdecodeStrings n :=
  codec_encInt (roundTrips_strings _ (by omega)) (by omega) _

theorem codec_der (n : ℤ) (hn : 2 ≤ n) (hbig : n ≤ 256 ^ 126) : Codec encDer id Util.sigdecodeDer n :=
  codec_encInt (roundTrips_der _ (by omega) (toNat_le_pow hbig)) (by omega) _

theorem codec_string_canonize (n : ℤ) (hn : 2 ≤ n) : Codec encStringCanonize id Util.sigdecodeString n :=
  codec_canonize (roundTrips_string _ (by omega)) fun r s r0 s0 s1 =>
    (if_neg (by omega)).trans (C13.model_canonize r.toNat s n s0 s1).1

theorem codec_strings_canonize (n : ℤ) (hn : 2 ≤ n) :
    Codec encStringsCanonize (fun p : Bytes × Bytes => [p.1, p.2]) Util.sigdecodeStrings n :=
  codec_canonize (roundTrips_strings _ (by omega)) fun r s r0 s0 s1 =>
    (if_neg (by omega)).trans (C13.model_canonize r.toNat s n s0 s1).2.1

theorem codec_der_canonize (n : ℤ) (hn : 2 ≤ n) (hbig : n ≤ 256 ^ 126) : Codec encDerCanonize id Util.sigdecodeDer n :=
  codec_canonize (roundTrips_der _ (by omega) (toNat_le_pow hbig)) fun r s r0 s0 s1 =>
    (if_neg (by omega)).trans (C13.model_canonize r.toNat s n s0 s1).2.2

end Ecdsa
