import Proofs.KeysPoint
/-!
# Proofs.KeysString — the raw-string layer of both key types: `from_string` accepts exactly the SEC 1 encodings of valid
points and refuses with `MalformedPointError`; `to_string` and the two round trips; the signing-key counterparts
-/
namespace KeysP
open Keys Res

/-- `s` is one of the four encodings of the coordinate pair `(x, y)` at coordinate length `l`
(format only: lengths, prefix byte, big-endian coordinates, parity rule).  The compressed form carries `x` and the
parity of `y`; that `y` is a square root is the curve-equation conjunct of `ValidPoint`.  For `l = 1` a 2-byte
string is read as the raw form (the code tests the raw length first). -/
def Encodes (l : Nat) (s : Bytes) (x y : Nat) : Prop :=
  (s.length = 2 * l ∧ x = beVal (s.take l) ∧ y = beVal (s.drop l)) ∨
  (s.length = 2 * l + 1 ∧ s.take 1 = [0x04] ∧ x = beVal ((s.drop 1).take l) ∧ y = beVal ((s.drop 1).drop l)) ∨
  (s.length = 2 * l + 1 ∧ ((s.take 1 = [0x06] ∧ y % 2 = 0) ∨ (s.take 1 = [0x07] ∧ y % 2 = 1)) ∧
      x = beVal ((s.drop 1).take l) ∧ y = beVal ((s.drop 1).drop l)) ∨
  (s.length = l + 1 ∧ s.length ≠ 2 * l ∧ ((s.take 1 = [0x02] ∧ y % 2 = 0) ∨ (s.take 1 = [0x03] ∧ y % 2 = 1)) ∧
      x = beVal (s.drop 1))

/-- `1 ≤ l` keeps the prefixed length `2l + 1` apart from the compressed length `l + 1` -/
theorem encodes_iff (l : Nat) (hl : 1 ≤ l) (s : Bytes) (x y : Nat) :
    Encodes l s x y ↔
      if s.length = 2 * l then x = beVal (s.take l) ∧ y = beVal (s.drop l)
      else if s.length = 2 * l + 1 then
        (s.take 1 = [0x04] ∨ (s.take 1 = [0x06] ∧ y % 2 = 0) ∨ (s.take 1 = [0x07] ∧ y % 2 = 1)) ∧
          x = beVal ((s.drop 1).take l) ∧ y = beVal ((s.drop 1).drop l)
      else if s.length = l + 1 then
        ((s.take 1 = [0x02] ∧ y % 2 = 0) ∨ (s.take 1 = [0x03] ∧ y % 2 = 1)) ∧ x = beVal (s.drop 1)
      else False := by
  unfold Encodes
  by_cases h1 : s.length = 2 * l
  · rw [if_pos h1]
    constructor
    · rintro (⟨_, hxy⟩ | ⟨hh, _⟩ | ⟨hh, _⟩ | ⟨_, hh, _⟩)
      · exact hxy
      · omega
      · omega
      · exact absurd h1 hh
    · exact fun hxy => .inl ⟨h1, hxy⟩
  rw [if_neg h1]
  by_cases h2 : s.length = 2 * l + 1
  · rw [if_pos h2]
    constructor
    · rintro (⟨hh, _⟩ | ⟨_, h4, hxy⟩ | ⟨_, hp, hxy⟩ | ⟨hh, _⟩)
      · exact absurd hh h1
      · exact ⟨.inl h4, hxy⟩
      · exact ⟨.inr hp, hxy⟩
      · omega
    · rintro ⟨h4 | hp, hxy⟩
      · exact .inr (.inl ⟨h2, h4, hxy⟩)
      · exact .inr (.inr (.inl ⟨h2, hp, hxy⟩))
  rw [if_neg h2]
  by_cases h3 : s.length = l + 1
  · rw [if_pos h3]
    constructor
    · rintro (⟨hh, _⟩ | ⟨hh, _⟩ | ⟨hh, _⟩ | ⟨_, _, hp, hx⟩)
      · exact absurd hh h1
      · exact absurd hh h2
      · exact absurd hh h2
      · exact ⟨hp, hx⟩
    · exact fun ⟨hp, hx⟩ => .inr (.inr (.inr ⟨h3, h1, hp, hx⟩))
  · rw [if_neg h3]
    constructor
    · rintro (⟨hh, _⟩ | ⟨hh, _⟩ | ⟨hh, _⟩ | ⟨hh, _⟩)
      · exact h1 hh
      · exact h2 hh
      · exact h2 hh
      · exact h3 hh
    · exact False.elim

theorem vkLen_eq (c : Curve) : c.vkLen = 2 * Util.orderlen c.p := rfl
theorem vkLen_half (c : Curve) : c.vkLen / 2 = Util.orderlen c.p := by rw [vkLen_eq]; omega

theorem fromRawEncoding_eq (c : Curve) (s : Bytes) (h : s.length = 2 * Util.orderlen c.p) :
    fromRawEncoding c s = .ok (beVal (s.take (Util.orderlen c.p)), beVal (s.drop (Util.orderlen c.p))) := by
  have hl := Util.orderlen_pos c.p
  have n1 : s.take (Util.orderlen c.p) ≠ [] := List.ne_nil_of_length_pos (by rw [List.length_take]; omega)
  have n2 : s.drop (Util.orderlen c.p) ≠ [] := List.ne_nil_of_length_pos (by rw [List.length_drop]; omega)
  unfold fromRawEncoding
  rw [vkLen_half, vkLen_eq, if_neg (fun hh => hh h)]
  simp only
  rw [if_neg (by rw [List.length_take]; omega), if_neg (by rw [List.length_drop]; omega), Util.stringToNumber_eq _ n1,
    Util.stringToNumber_eq _ n2]
  rfl

theorem fromRawEncoding_err (c : Curve) (s : Bytes) (e : PyErr) (h : fromRawEncoding c s = .error e) :
    s.length ≠ 2 * Util.orderlen c.p := by
  intro hl
  rw [fromRawEncoding_eq c s hl] at h; cases h

theorem decodePoint_raw (E : Ext) (c : Curve) (s : Bytes) (v : Bool) (h : s.length = 2 * Util.orderlen c.p) :
    decodePoint E c s v = .ok ((beVal (s.take (Util.orderlen c.p)) : Int), (beVal (s.drop (Util.orderlen c.p)) : Int)) := by
  unfold decodePoint
  rw [vkLen_eq, if_pos h, fromRawEncoding_eq c s h]; rfl

theorem drop1_len (s : Bytes) (l : Nat) (h : s.length = 2 * l + 1) : (s.drop 1).length = 2 * l := by
  rw [List.length_drop]; omega

theorem hybrid_refused_iff (t : Bytes) (y : Nat) (h67 : t = [0x06] ∨ t = [0x07]) :
    ¬ ((y % 2 = 1 ∧ t ≠ [0x07]) ∨ (¬ y % 2 = 1 ∧ t ≠ [0x06])) ↔ (t = [0x06] ∧ y % 2 = 0) ∨ (t = [0x07] ∧ y % 2 = 1) := by
  have h76 : ([0x07] : Bytes) ≠ [0x06] := by decide
  rcases h67 with rfl | rfl
  · constructor
    · intro h
      exact .inl ⟨rfl, by have : ¬ y % 2 = 1 := fun ho => h (.inl ⟨ho, h76.symm⟩); omega⟩
    · rintro (⟨_, he⟩ | ⟨h, _⟩) (⟨ho, _⟩ | ⟨_, hh⟩)
      · omega
      · exact hh rfl
      · exact h76.symm h
      · exact hh rfl
  · constructor
    · intro h
      exact .inr ⟨rfl, Classical.not_not.mp fun ho => h (.inr ⟨ho, h76⟩)⟩
    · rintro (⟨h, _⟩ | ⟨_, ho⟩) (⟨_, hh⟩ | ⟨he, _⟩)
      · exact hh rfl
      · exact h76 h
      · exact hh rfl
      · exact he ho

theorem decodePoint_prefixed (E : Ext) (c : Curve) (s : Bytes) (h : s.length = 2 * Util.orderlen c.p + 1) :
    decodePoint E c s true =
      if s.take 1 = [0x04] ∨ (s.take 1 = [0x06] ∧ beVal ((s.drop 1).drop (Util.orderlen c.p)) % 2 = 0) ∨
          (s.take 1 = [0x07] ∧ beVal ((s.drop 1).drop (Util.orderlen c.p)) % 2 = 1)
      then .ok ((beVal ((s.drop 1).take (Util.orderlen c.p)) : Int), (beVal ((s.drop 1).drop (Util.orderlen c.p)) : Int))
      else .error .malformedPoint := by
  unfold decodePoint
  rw [vkLen_eq, if_neg (by omega), if_pos h]
  by_cases h67 : s.take 1 = [0x06] ∨ s.take 1 = [0x07]
  · have h4 : s.take 1 ≠ [0x04] := by rcases h67 with h' | h' <;> rw [h'] <;> decide
    rw [if_pos h67]
    unfold fromHybrid
    rw [if_neg (fun hh => h67.elim hh.1 hh.2), fromRawEncoding_eq c _ (drop1_len s _ h)]
    simp only [true_and]
    by_cases hp : (s.take 1 = [0x06] ∧ beVal ((s.drop 1).drop (Util.orderlen c.p)) % 2 = 0) ∨
        (s.take 1 = [0x07] ∧ beVal ((s.drop 1).drop (Util.orderlen c.p)) % 2 = 1)
    · rw [if_neg ((hybrid_refused_iff _ _ h67).mpr hp), if_pos (.inr hp)]; rfl
    · have refused := Classical.not_not.mp fun hh => hp ((hybrid_refused_iff _ _ h67).mp hh)
      rw [if_pos refused, if_neg (fun hh => hh.elim h4 hp)]; rfl
  · rw [if_neg h67]
    by_cases h4 : s.take 1 = [0x04]
    · rw [if_pos h4, if_pos (.inl h4), fromRawEncoding_eq c _ (drop1_len s _ h)]; rfl
    · rw [if_neg h4, if_neg]
      rintro (h4' | ⟨h6, _⟩ | ⟨h7, _⟩)
      · exact h4 h4'
      · exact h67 (.inl h6)
      · exact h67 (.inr h7)

theorem decodePoint_comp (E : Ext) (c : Curve) (s : Bytes) (v : Bool) (h : s.length = Util.orderlen c.p + 1)
    (h2 : s.length ≠ 2 * Util.orderlen c.p) : decodePoint E c s v = fromCompressed E c s := by
  have hl := Util.orderlen_pos c.p
  unfold decodePoint
  rw [vkLen_half, vkLen_eq, if_neg h2, if_neg (by omega), if_pos h]

theorem decodePoint_badlen (E : Ext) (c : Curve) (s : Bytes) (v : Bool) (h1 : s.length ≠ 2 * Util.orderlen c.p)
    (h2 : s.length ≠ 2 * Util.orderlen c.p + 1) (h3 : s.length ≠ Util.orderlen c.p + 1) :
    decodePoint E c s v = .error .malformedPoint := by
  unfold decodePoint
  rw [vkLen_half, vkLen_eq, if_neg h1, if_neg h2, if_neg h3]

theorem fromCompressed_eq (E : Ext) (c : Curve) (hp : 0 < c.p) (s : Bytes) (hlen : 2 ≤ s.length)
    (h23 : s.take 1 = [0x02] ∨ s.take 1 = [0x03]) :
    fromCompressed E c s =
      (match E.sqrtModP (alphaOf c (beVal (s.drop 1))) c.p with
       | .error .squareRoot => .error .malformedPoint
       | .error e => .error e
       | .ok beta =>
         .ok ((beVal (s.drop 1) : Int),
           if (decide (s.take 1 = [0x02])) = decide (pmod beta 2 ≠ 0) then (c.p : Int) - beta else beta)) := by
  have n1 : s.drop 1 ≠ [] := List.ne_nil_of_length_pos (by rw [List.length_drop]; omega)
  unfold fromCompressed
  rw [if_neg (fun hh => h23.elim hh.1 hh.2), Util.stringToNumber_eq _ n1]
  simp only [if_neg (Nat.pos_iff_ne_zero.mp hp)]
  rfl

theorem fromCompressed_badprefix (E : Ext) (c : Curve) (s : Bytes) (h : ¬ (s.take 1 = [0x02] ∨ s.take 1 = [0x03])) :
    fromCompressed E c s = .error .malformedPoint := by
  unfold fromCompressed
  rw [if_pos ⟨fun h2 => h (.inl h2), fun h3 => h (.inr h3)⟩]

theorem decodePoint_err (E : Ext) (c : Curve) (hp : 0 < c.p) (hs : SqrtSpec E.sqrtModP c.p) (s : Bytes) (v : Bool) :
    Post (fun _ => True) (· = .malformedPoint) (decodePoint E c s v) := by
  have hl := Util.orderlen_pos c.p
  unfold decodePoint
  rw [vkLen_half, vkLen_eq]
  refine ite_cases (fun h1 => ?_) fun h1 => ?_
  · rw [fromRawEncoding_eq c s h1]; trivial
  refine ite_cases (fun h2 => ?_) fun h2 => ?_
  · have hraw := fromRawEncoding_eq c _ (drop1_len s _ h2)
    refine ite_cases (fun h67 => ?_) fun _ => ?_
    · unfold fromHybrid
      rw [if_neg (fun hh => h67.elim hh.1 hh.2), hraw]
      exact ite_cases (R := fun r => Post _ _ (Except.map _ r)) (fun _ => rfl) fun _ => trivial
    · refine ite_cases (fun _ => ?_) fun _ => rfl
      rw [hraw]; trivial
  refine ite_cases (fun h3 => ?_) fun _ => rfl
  by_cases h23 : s.take 1 = [0x02] ∨ s.take 1 = [0x03]
  · have ha := alphaOf_range c hp (beVal (s.drop 1))
    rw [fromCompressed_eq E c hp s (by omega) h23]
    cases hq : E.sqrtModP (alphaOf c (beVal (s.drop 1))) c.p with
    | error e => rw [(hs.err _ e ha.1 ha.2 hq).1]; rfl
    | ok beta => trivial
  · rw [fromCompressed_badprefix E c s h23]; rfl

theorem fromString_err (E : Ext) (c : Curve) (hp : 0 < c.p) (hs : SqrtSpec E.sqrtModP c.p) (s : Bytes) (v : Bool)
    (e : PyErr) (h : VK.fromString E c s v = .error e) : e = .malformedPoint := by
  unfold VK.fromString at h
  cases hd : decodePoint E c s v with
  | error e' =>
    rw [hd] at h
    exact (Except.error.inj h) ▸ (decodePoint_err E c hp hs s v).err hd
  | ok xy =>
    rw [hd] at h
    exact fromPublicPoint_err E c _ _ v e h

theorem fromString_ok_fields (E : Ext) (c : Curve) (s : Bytes) (v : Bool) (k : VK) (h : VK.fromString E c s v = .ok k) :
    k.curve = c ∧ k.x < c.p ∧ k.y < c.p := by
  unfold VK.fromString at h
  cases hd : decodePoint E c s v with
  | error e => rw [hd] at h; cases h
  | ok xy =>
    obtain ⟨x, y⟩ := xy
    rw [hd] at h
    obtain ⟨hx, hy, _, _, _, hk⟩ := (fromPublicPoint_post E c x y v).ok h
    subst hk
    exact ⟨rfl, by show x.toNat < c.p; omega, by show y.toNat < c.p; omega⟩

theorem fromString_ok_length (E : Ext) (c : Curve) (s : Bytes) (v : Bool) (k : VK) (h : VK.fromString E c s v = .ok k) :
    s.length ≤ 2 * Util.orderlen c.p + 1 := by
  by_contra hlen
  have hl := Util.orderlen_pos c.p
  unfold VK.fromString at h
  rw [decodePoint_badlen E c s v (by omega) (by omega) (by omega)] at h
  cases h

theorem fromString_iff_of_decode (E : Ext) (c : Curve) (hn : c.n ≠ 0) (s : Bytes) (k : VK) (x y : Nat)
    (hd : decodePoint E c s true = .ok ((x : Int), (y : Int))) :
    VK.fromString E c s true = .ok k ↔ k.curve = c ∧ (k.x = x ∧ k.y = y) ∧ ValidPoint E c k.x k.y := by
  unfold VK.fromString
  rw [hd]
  simp only
  rw [fromPublicPoint_ok_iff E c hn]
  simp only [Int.toNat_natCast]
  constructor
  · rintro ⟨_, _, hv, rfl⟩
    exact ⟨rfl, ⟨rfl, rfl⟩, hv⟩
  · obtain ⟨kc, kx, ky⟩ := k
    rintro ⟨rfl, ⟨rfl, rfl⟩, hv⟩
    exact ⟨Int.natCast_nonneg _, Int.natCast_nonneg _, hv, rfl⟩

/-- the `y` that `_from_compressed` picks from a root `beta`: the root of the parity asked for (`p` is odd, so `beta` and
`p - beta` differ in parity) -/
theorem compressedY_root_parity (p : Nat) (hodd : p % 2 = 1) (beta : Int) (b : Bool) :
    ((if b = decide (beta % 2 ≠ 0) then (p : Int) - beta else beta) = beta ∨
      (if b = decide (beta % 2 ≠ 0) then (p : Int) - beta else beta) = p - beta) ∧
    (if b = decide (beta % 2 ≠ 0) then (p : Int) - beta else beta) % 2 = if b then 0 else 1 := by
  have hflip : ((p : Int) - beta) % 2 = 1 - beta % 2 := by omega
  by_cases h : beta % 2 = 0
  · rw [decide_eq_false (fun hh => hh h)]
    cases b
    · rw [if_pos rfl, hflip, h]; exact ⟨.inr rfl, rfl⟩
    · rw [if_neg Bool.noConfusion]; exact ⟨.inl rfl, h⟩
  · have h1 := (Int.emod_two_eq_zero_or_one beta).resolve_left h
    rw [decide_eq_true h]
    cases b
    · rw [if_neg Bool.noConfusion]; exact ⟨.inl rfl, h1⟩
    · rw [if_pos rfl, hflip, h1]; exact ⟨.inr rfl, rfl⟩

theorem root_of_parity (p : Nat) (hodd : p % 2 = 1) (beta Y y : Int) (hY : Y = beta ∨ Y = p - beta)
    (hy : y = beta ∨ y = p - beta) (hpar : Y % 2 = y % 2) : Y = y := by
  have hflip : ((p : Int) - beta) % 2 ≠ beta % 2 := by omega
  rcases hY with e | e <;> rcases hy with r | r
  · exact e.trans r.symm
  · rw [e, r] at hpar; exact absurd hpar.symm hflip
  · rw [e, r] at hpar; exact absurd hpar hflip
  · exact e.trans r.symm

theorem compressed_parity_iff_flag (t : Bytes) (h23 : t = [0x02] ∨ t = [0x03]) (y : Nat) :
    ((t = [0x02] ∧ y % 2 = 0) ∨ (t = [0x03] ∧ y % 2 = 1)) ↔ ((y : Int) % 2 = if decide (t = [0x02]) then 0 else 1) := by
  have h32 : ([0x03] : Bytes) ≠ [0x02] := by decide
  have hcast : ((y : Int) % 2 = 0 ↔ y % 2 = 0) ∧ ((y : Int) % 2 = 1 ↔ y % 2 = 1) := by omega
  rcases h23 with rfl | rfl
  · rw [decide_eq_true rfl, if_pos rfl, hcast.1]
    exact ⟨fun hh => hh.elim (·.2) (fun hh => absurd hh.1 h32.symm), fun hh => .inl ⟨rfl, hh⟩⟩
  · rw [decide_eq_false h32, if_neg Bool.noConfusion, hcast.2]
    exact ⟨fun hh => hh.elim (fun hh => absurd hh.1 h32) (·.2), fun hh => .inr ⟨rfl, hh⟩⟩

theorem fromString_comp_iff (E : Ext) (c : Curve) (hpr : c.p.Prime) (hodd : c.p % 2 = 1) (hn : c.n ≠ 0)
    (hs : SqrtSpec E.sqrtModP c.p) (s : Bytes) (h : s.length = Util.orderlen c.p + 1)
    (h2 : s.length ≠ 2 * Util.orderlen c.p) (h23 : s.take 1 = [0x02] ∨ s.take 1 = [0x03]) (k : VK) :
    VK.fromString E c s true = .ok k ↔
      k.curve = c ∧ (((s.take 1 = [0x02] ∧ k.y % 2 = 0) ∨ (s.take 1 = [0x03] ∧ k.y % 2 = 1)) ∧ k.x = beVal (s.drop 1)) ∧
        ValidPoint E c k.x k.y := by
  have hp : 0 < c.p := hpr.pos
  have hl := Util.orderlen_pos c.p
  have ha := alphaOf_range c hp (beVal (s.drop 1))
  unfold VK.fromString
  rw [decodePoint_comp E c s true h h2, fromCompressed_eq E c hp s (by omega) h23]
  cases hq : E.sqrtModP (alphaOf c (beVal (s.drop 1))) c.p with
  | error e =>
    obtain ⟨rfl, hno⟩ := hs.err _ e ha.1 ha.2 hq
    refine iff_of_false nofun ?_
    rintro ⟨_, ⟨_, hx⟩, ⟨_, _, hc, _⟩⟩
    rw [hx] at hc
    exact hno _ ((onCurve_iff_alpha c hp _ _).mp hc)
  | ok beta =>
    obtain ⟨hb0, hbp, hbr⟩ := hs.ok _ beta ha.1 ha.2 hq
    obtain ⟨hY, hYpar⟩ := compressedY_root_parity c.p hodd beta (decide (s.take 1 = [0x02]))
    simp only
    rw [fromPublicPoint_ok_iff E c hn, pmod_eq_emod (by decide)]
    constructor
    · rintro ⟨_, hy0, hv, rfl⟩
      refine ⟨rfl, ⟨(compressed_parity_iff_flag _ h23 _).mpr ?_, Int.toNat_natCast _⟩, hv⟩
      rw [Int.toNat_of_nonneg hy0]; exact hYpar
    · obtain ⟨kc, kx, ky⟩ := k
      rintro ⟨hc, ⟨hpk, hx⟩, hv⟩
      simp only at hc hpk hx hv
      subst hc hx
      -- `k.y` is a root of the same residue, so it is `beta` or `p - beta`; the parity decides which
      have hroot := (onCurve_iff_alpha kc hp _ ky).mp hv.2.2.1
      have hrel := roots_rel kc.p hpr _ (ky : Int) beta ⟨Int.natCast_nonneg _, Int.ofNat_lt.mpr hv.2.1⟩ ⟨hb0, hbp⟩ hroot hbr
      rw [root_of_parity kc.p hodd beta _ ky hY hrel (hYpar.trans ((compressed_parity_iff_flag _ h23 ky).mp hpk).symm)]
      exact ⟨Int.natCast_nonneg _, Int.natCast_nonneg _, hv, rfl⟩

theorem fromString_ok_iff (E : Ext) (c : Curve) (hpr : c.p.Prime) (hodd : c.p % 2 = 1) (hn : c.n ≠ 0)
    (hs : SqrtSpec E.sqrtModP c.p) (s : Bytes) (k : VK) :
    VK.fromString E c s true = .ok k ↔
      k.curve = c ∧ Encodes (Util.orderlen c.p) s k.x k.y ∧ ValidPoint E c k.x k.y := by
  have hl := Util.orderlen_pos c.p
  have refused : decodePoint E c s true = .error .malformedPoint → ¬ VK.fromString E c s true = .ok k :=
    fun hd => by unfold VK.fromString; rw [hd]; exact nofun
  rw [encodes_iff _ hl]
  by_cases h1 : s.length = 2 * Util.orderlen c.p
  · rw [if_pos h1]
    exact fromString_iff_of_decode E c hn s k _ _ (decodePoint_raw E c s true h1)
  rw [if_neg h1]
  by_cases h2 : s.length = 2 * Util.orderlen c.p + 1
  · rw [if_pos h2]
    have hd := decodePoint_prefixed E c s h2
    split at hd
    · rename_i hp
      -- the parity conjunct of `Encodes` is about `k.y`, which is the decoded `y`
      rw [fromString_iff_of_decode E c hn s k _ _ hd]
      constructor
      · rintro ⟨hc, ⟨hx, hy⟩, hv⟩; exact ⟨hc, ⟨hy ▸ hp, hx, hy⟩, hv⟩
      · rintro ⟨hc, ⟨_, hxy⟩, hv⟩; exact ⟨hc, hxy, hv⟩
    · rename_i hp
      exact iff_of_false (refused hd) fun ⟨_, ⟨hp', _, hy⟩, _⟩ => hp (hy ▸ hp')
  rw [if_neg h2]
  by_cases h3 : s.length = Util.orderlen c.p + 1
  · rw [if_pos h3]
    by_cases h23 : s.take 1 = [0x02] ∨ s.take 1 = [0x03]
    · exact fromString_comp_iff E c hpr hodd hn hs s h3 h1 h23 k
    · exact iff_of_false (refused ((decodePoint_comp E c s true h3 h1).trans (fromCompressed_badprefix E c s h23)))
        fun ⟨_, ⟨hp, _⟩, _⟩ => h23 (hp.elim (.inl ·.1) (.inr ·.1))
  · rw [if_neg h3]
    exact iff_of_false (refused (decodePoint_badlen E c s true h1 h2 h3)) fun hh => hh.2.1

/-- the bytes `VerifyingKey.to_string(encoding)` is expected to produce -/
def encBytes (k : VK) : PointEnc → Bytes
  | .raw => beFixed (Util.orderlen k.curve.p) k.x ++ beFixed (Util.orderlen k.curve.p) k.y
  | .uncompressed => 0x04 :: (beFixed (Util.orderlen k.curve.p) k.x ++ beFixed (Util.orderlen k.curve.p) k.y)
  | .hybrid => (if k.y % 2 = 1 then 0x07 else 0x06) ::
      (beFixed (Util.orderlen k.curve.p) k.x ++ beFixed (Util.orderlen k.curve.p) k.y)
  | .compressed => (if k.y % 2 = 1 then 0x03 else 0x02) :: beFixed (Util.orderlen k.curve.p) k.x

theorem rawEncode_eq (k : VK) (hx : k.x < k.curve.p) (hy : k.y < k.curve.p) :
    k.rawEncode = .ok (beFixed (Util.orderlen k.curve.p) k.x ++ beFixed (Util.orderlen k.curve.p) k.y) := by
  unfold VK.rawEncode
  rw [Util.numberToString_eq _ _ (Util.lt_pow_orderlen_of_lt hx), Util.numberToString_eq _ _ (Util.lt_pow_orderlen_of_lt hy)]; rfl

theorem toString_eq (k : VK) (hx : k.x < k.curve.p) (hy : k.y < k.curve.p) (enc : PointEnc) :
    k.toString enc = .ok (encBytes k enc) := by
  cases enc
  · exact rawEncode_eq k hx hy
  · unfold VK.toString; simp only; rw [rawEncode_eq k hx hy]; rfl
  · unfold VK.toString VK.compressedEncode; simp only
    rw [Util.numberToString_eq _ _ (Util.lt_pow_orderlen_of_lt hx)]
    unfold encBytes
    by_cases h : k.y % 2 = 1 <;> simp [h, bind, Except.bind]
  · unfold VK.toString VK.hybridEncode; simp only
    rw [rawEncode_eq k hx hy]
    unfold encBytes
    by_cases h : k.y % 2 = 1 <;> simp [h, bind, Except.bind]

theorem encBytes_length (k : VK) (enc : PointEnc) :
    (encBytes k enc).length = match enc with
      | .raw => 2 * Util.orderlen k.curve.p
      | .compressed => Util.orderlen k.curve.p + 1
      | _ => 2 * Util.orderlen k.curve.p + 1 := by
  cases enc <;> simp only [encBytes, List.length_cons, List.length_append, beFixed_length] <;> omega

theorem take_beFixed (l a b : Nat) : (beFixed l a ++ beFixed l b).take l = beFixed l a := by
  rw [List.take_left' (beFixed_length l a)]

theorem drop_beFixed (l a b : Nat) : (beFixed l a ++ beFixed l b).drop l = beFixed l b := by
  rw [List.drop_left' (beFixed_length l a)]

/-- for the compressed form the coordinate length must not be 1 (then `l + 1 = 2l` and the code reads two bytes as the
raw form) -/
theorem encBytes_encodes (k : VK) (hx : k.x < k.curve.p) (hy : k.y < k.curve.p) (enc : PointEnc)
    (hl1 : enc = .compressed → Util.orderlen k.curve.p ≠ 1) :
    Encodes (Util.orderlen k.curve.p) (encBytes k enc) k.x k.y := by
  have hl := Util.orderlen_pos k.curve.p
  have ex := (beVal_beFixed_of_lt _ _ (Nat.lt_trans hx (Util.lt_pow_orderlen k.curve.p))).symm
  have ey := (beVal_beFixed_of_lt _ _ (Nat.lt_trans hy (Util.lt_pow_orderlen k.curve.p))).symm
  have hlen := encBytes_length k enc
  have hprefix : ∀ (ev od : UInt8) (t : Bytes),
      (((if k.y % 2 = 1 then od else ev) :: t).take 1 = [ev] ∧ k.y % 2 = 0) ∨
        (((if k.y % 2 = 1 then od else ev) :: t).take 1 = [od] ∧ k.y % 2 = 1) := by
    intro ev od t
    rcases Nat.mod_two_eq_zero_or_one k.y with h | h
    · exact .inl ⟨by rw [if_neg (by omega)]; rfl, h⟩
    · exact .inr ⟨by rw [if_pos h]; rfl, h⟩
  cases enc
  · refine .inl ⟨hlen, ?_, ?_⟩
    · rw [encBytes, take_beFixed]; exact ex
    · rw [encBytes, drop_beFixed]; exact ey
  · refine .inr (.inl ⟨hlen, rfl, ?_, ?_⟩)
    · rw [encBytes, List.drop_one, List.tail_cons, take_beFixed]; exact ex
    · rw [encBytes, List.drop_one, List.tail_cons, drop_beFixed]; exact ey
  · refine .inr (.inr (.inr ⟨hlen, ?_, ?_, ?_⟩))
    · have := hl1 rfl
      have hlen' : (encBytes k .compressed).length = Util.orderlen k.curve.p + 1 := hlen
      rw [hlen']; omega
    · exact hprefix 0x02 0x03 _
    · rw [encBytes, List.drop_one, List.tail_cons]; exact ex
  · refine .inr (.inr (.inl ⟨hlen, ?_, ?_, ?_⟩))
    · exact hprefix 0x06 0x07 _
    · rw [encBytes, List.drop_one, List.tail_cons, take_beFixed]; exact ex
    · rw [encBytes, List.drop_one, List.tail_cons, drop_beFixed]; exact ey

theorem fromString_toString (E : Ext) (k : VK) (hpr : k.curve.p.Prime) (hodd : k.curve.p % 2 = 1) (hn : k.curve.n ≠ 0)
    (hs : SqrtSpec E.sqrtModP k.curve.p) (hv : ValidPoint E k.curve k.x k.y) (enc : PointEnc)
    (hl1 : enc = .compressed → Util.orderlen k.curve.p ≠ 1) :
    ∃ bs, k.toString enc = .ok bs ∧ VK.fromString E k.curve bs true = .ok k :=
  ⟨encBytes k enc, toString_eq k hv.1 hv.2.1 enc,
    (fromString_ok_iff E k.curve hpr hodd hn hs _ k).mpr ⟨rfl, encBytes_encodes k hv.1 hv.2.1 enc hl1, hv⟩⟩

theorem take1_cons {s : Bytes} {a : UInt8} (h : s.take 1 = [a]) : s = a :: s.drop 1 := by
  cases s with
  | nil => simp at h
  | cons b t => simp at h; subst h; simp

theorem split_fixed (l : Nat) (t : Bytes) (h : t.length = 2 * l) :
    beFixed l (beVal (t.take l)) ++ beFixed l (beVal (t.drop l)) = t := by
  have h1 : (t.take l).length = l := by rw [List.length_take]; omega
  have h2 : (t.drop l).length = l := by rw [List.length_drop]; omega
  have e1 := beFixed_beVal (t.take l)
  have e2 := beFixed_beVal (t.drop l)
  rw [h1] at e1; rw [h2] at e2
  rw [e1, e2, List.take_append_drop]

theorem fromString_ok_bytes (E : Ext) (c : Curve) (hpr : c.p.Prime) (hodd : c.p % 2 = 1) (hn : c.n ≠ 0)
    (hs : SqrtSpec E.sqrtModP c.p) (s : Bytes) (k : VK) (h : VK.fromString E c s true = .ok k) :
    ∃ enc, s = encBytes k enc := by
  obtain ⟨hc, henc, _⟩ := (fromString_ok_iff E c hpr hodd hn hs s k).mp h
  subst hc
  rcases henc with ⟨hl, hx, hy⟩ | ⟨hl, h4, hx, hy⟩ | ⟨hl, hpar, hx, hy⟩ | ⟨hl, _, hpar, hx⟩
  · refine ⟨.raw, ?_⟩
    simp only [encBytes]; rw [hx, hy, split_fixed _ _ hl]
  · refine ⟨.uncompressed, ?_⟩
    simp only [encBytes]; rw [hx, hy, split_fixed _ _ (drop1_len s _ hl)]
    exact take1_cons h4
  · refine ⟨.hybrid, ?_⟩
    simp only [encBytes]
    rcases hpar with ⟨h6, hev⟩ | ⟨h7, hod⟩
    · rw [if_neg (by omega), hx, hy, split_fixed _ _ (drop1_len s _ hl)]; exact take1_cons h6
    · rw [if_pos hod, hx, hy, split_fixed _ _ (drop1_len s _ hl)]; exact take1_cons h7
  · refine ⟨.compressed, ?_⟩
    have hd : (s.drop 1).length = Util.orderlen k.curve.p := by rw [List.length_drop]; omega
    have e := beFixed_beVal (s.drop 1)
    rw [hd] at e
    simp only [encBytes]
    rcases hpar with ⟨h2, hev⟩ | ⟨h3, hod⟩
    · rw [if_neg (by omega), hx, e]; exact take1_cons h2
    · rw [if_pos hod, hx, e]; exact take1_cons h3

/-- C07's theorem on `generator * d`: for `1 ≤ d < n` the public point exists and has coordinates in `[0, p)`.  The
statements of C10 carry it as a hypothesis; no lemma on the loaders needs it (`fromSecretExponent_post`). -/
def PubSpec (E : Ext) (c : Curve) : Prop :=
  ∀ d : Nat, 1 ≤ d → d < c.n → ∃ x y : Nat, E.pubPoint c d = some ((x : Int), (y : Int)) ∧ x < c.p ∧ y < c.p

/-- a signing key as `from_secret_exponent` builds it -/
def SK.WF (E : Ext) (k : SK) : Prop :=
  1 ≤ k.d ∧ k.d < k.curve.n ∧ k.vk.curve = k.curve ∧ k.vk.x < k.curve.p ∧ k.vk.y < k.curve.p ∧
    E.pubPoint k.curve k.d = some ((k.vk.x : Int), (k.vk.y : Int))

theorem fromPublicPoint_novalidate (E : Ext) (c : Curve) (hn : c.n ≠ 0) (x y : Nat) (hx : x < c.p) (hy : y < c.p) :
    fromPublicPoint E c x y false = .ok ⟨c, x, y⟩ :=
  fromPublicPoint_of_checks E c x y false ⟨by omega, by omega⟩ ⟨by omega, by omega⟩ nofun hn nofun

theorem fromSecretExponent_post (E : Ext) (c : Curve) (d : Int) :
    Post (fun k => SK.WF E k ∧ k.curve = c ∧ (k.d : Int) = d) (· = .malformedPoint) (SK.fromSecretExponent E c d) := by
  unfold SK.fromSecretExponent
  refine ite_cases (fun _ => rfl) fun hr => ?_
  have hr := Classical.not_not.mp hr
  cases hpub : E.pubPoint c d.toNat with
  | none => rfl
  | some xy =>
    obtain ⟨x, y⟩ := xy
    dsimp only
    cases hvk : fromPublicPoint E c x y false with
    | error e => exact fromPublicPoint_err E c x y false e hvk
    | ok vk =>
      obtain ⟨hx, hy, _, _, _, hk⟩ := (fromPublicPoint_post E c x y false).ok hvk
      subst hk
      refine ⟨⟨?_, ?_, rfl, ?_, ?_, ?_⟩, rfl, ?_⟩
      · show 1 ≤ d.toNat; omega
      · show d.toNat < c.n; omega
      · show x.toNat < c.p; omega
      · show y.toNat < c.p; omega
      · show E.pubPoint c d.toNat = some ((x.toNat : Int), (y.toNat : Int))
        rw [Int.toNat_of_nonneg hx.1, Int.toNat_of_nonneg hy.1]; exact hpub
      · show (d.toNat : Int) = d; omega

theorem fromSecretExponent_wf (E : Ext) (c : Curve) (d : Int) (k : SK) (h : SK.fromSecretExponent E c d = .ok k) :
    SK.WF E k ∧ k.curve = c ∧ (k.d : Int) = d :=
  (fromSecretExponent_post E c d).ok h

theorem fromSecretExponent_ok (E : Ext) (k : SK) (hw : SK.WF E k) :
    SK.fromSecretExponent E k.curve k.d = .ok k := by
  obtain ⟨h1, h2, hc, hx, hy, hpub⟩ := hw
  unfold SK.fromSecretExponent
  rw [if_neg (fun h => h ⟨by omega, by omega⟩)]
  simp only [Int.toNat_natCast]
  rw [hpub]; simp only
  rw [fromPublicPoint_novalidate E k.curve (by omega) _ _ hx hy]
  obtain ⟨c, d, ⟨vc, vx, vy⟩⟩ := k
  simp only at hc
  rw [hc]

theorem sk_fromString_eq (E : Ext) (c : Curve) (s : Bytes) (h : s.length = c.baselen) :
    SK.fromString E c s = SK.fromSecretExponent E c (beVal s) := by
  have hne : s ≠ [] := by
    intro hh
    have := Util.orderlen_pos c.n
    rw [hh, Curve.baselen] at h
    simp only [List.length_nil] at h
    omega
  unfold SK.fromString
  rw [if_neg (fun hh => hh h), Util.stringToNumber_eq s hne]

theorem sk_toString_eq (k : SK) (h : k.d < k.curve.n) :
    k.toString = .ok (beFixed (Util.orderlen k.curve.n) k.d) := Util.numberToString_eq _ _ (Util.lt_pow_orderlen_of_lt h)

/-- since F14 an INFINITY product `generator * d` is `MalformedPointError` too -/
theorem fromSecretExponent_err (E : Ext) (c : Curve) (d : Int) (e : PyErr)
    (h : SK.fromSecretExponent E c d = .error e) : e = .malformedPoint :=
  (fromSecretExponent_post E c d).err h

theorem sk_fromString_err (E : Ext) (c : Curve) (s : Bytes) (e : PyErr)
    (h : SK.fromString E c s = .error e) : e = .malformedPoint := by
  by_cases hlen : s.length = c.baselen
  · rw [sk_fromString_eq E c s hlen] at h
    exact fromSecretExponent_err E c _ e h
  · unfold SK.fromString at h
    rw [if_pos hlen] at h
    exact (Except.error.inj h).symm

theorem sk_fromString_curve (E : Ext) (c : Curve) (s : Bytes) (k : SK) (h : SK.fromString E c s = .ok k) : k.curve = c := by
  by_cases hlen : s.length = c.baselen
  · rw [sk_fromString_eq E c s hlen] at h
    exact (fromSecretExponent_wf E c _ k h).2.1
  · unfold SK.fromString at h
    rw [if_pos hlen] at h
    cases h

end KeysP
