import Proofs.NTInv
import Mathlib.Data.Int.Cast.Lemmas
import Mathlib.Tactic.Ring
import Mathlib.Tactic.LinearCombination
/-!
# NTCip1 — the list-based polynomial helpers of `numbertheory.py` compute in a quotient ring

Setting: `K` any commutative ring in which the integer `p` is zero (e.g. any `ZMod p`-algebra), `t : K` a root
of the monic polynomial `polymod` (length ≥ 2).  `evalL l t = Σ lᵢ tⁱ` is the value of the coefficient list `l`
at `t`.  Then `polynomial_reduce_mod` keeps the value, `polynomial_multiply_mod` multiplies values,
`polynomial_exp_mod` raises the value to the exponent; the outputs are shorter than `polymod` and their
coefficients are in `[0, p)`.  (Taking `K = 𝔽_p[x]/(f)`, `t = x` this is "the helpers compute in 𝔽_p[x]/(f)".)
-/
namespace NTCip
open NT NTProofs

variable {K : Type*} [CommRing K]

/-- value at `t` of a coefficient list, increasing powers (Horner) -/
def evalL : List Int → K → K
  | [], _ => 0
  | c :: cs, t => (c : K) + t * evalL cs t

/-- value at `t` of a coefficient list, decreasing powers (the reversed lists of the model) -/
def evalR : List Int → K → K
  | [], _ => 0
  | c :: cs, t => (c : K) * t ^ cs.length + evalR cs t

def InRange (p : Int) (l : List Int) : Prop := ∀ c ∈ l, 0 ≤ c ∧ c < p

theorem evalR_append (t : K) : ∀ xs ys : List Int,
    evalR (xs ++ ys) t = evalR xs t * t ^ ys.length + evalR ys t
  | [], ys => by simp [evalR]
  | x :: xs, ys => by
    simp only [List.cons_append, evalR, evalR_append t xs ys, List.length_append]
    ring

theorem evalR_reverse (t : K) : ∀ l : List Int, evalR l.reverse t = evalL l t
  | [] => by simp [evalR, evalL]
  | c :: cs => by
    rw [List.reverse_cons, evalR_append, evalR_reverse t cs]
    simp [evalR, evalL]; ring

theorem evalL_reverse (t : K) (l : List Int) : evalL l.reverse t = evalR l t := by
  rw [← evalR_reverse, List.reverse_reverse]

theorem cast_pmod {p : Int} (hpK : ((p : Int) : K) = 0) (x : Int) : ((pmod x p : Int) : K) = (x : K) := by
  unfold pmod; rw [Int.fmod_def]; push_cast; rw [hpK]; ring

theorem addRow_length (c p : Int) : ∀ xs ys : List Int, (addRow c p xs ys).length = xs.length
  | [], [] => rfl
  | [], _ :: _ => rfl
  | _ :: _, [] => rfl
  | x :: xs, y :: ys => by simp [addRow, addRow_length c p xs ys]

theorem addRow_inRange {p : Int} (hp : 0 < p) (c : Int) : ∀ xs ys : List Int,
    InRange p xs → InRange p (addRow c p xs ys)
  | [], [], h => h
  | [], _ :: _, _ => by simp [addRow, InRange]
  | _ :: _, [], h => h
  | x :: xs, y :: ys, h => by
    rw [addRow]
    exact List.forall_mem_cons.mpr ⟨pmod_range hp _, addRow_inRange hp c xs ys (List.forall_mem_cons.mp h).2⟩

theorem subMul_eq_addRow (top p : Int) : ∀ rs ms : List Int, subMul top p rs ms = addRow (-top) p rs ms
  | [], [] => rfl
  | [], _ :: _ => rfl
  | _ :: _, [] => rfl
  | r :: rs, m :: ms => by rw [subMul, addRow, subMul_eq_addRow top p rs ms, sub_eq_add_neg, neg_mul]

theorem subMul_length (top p : Int) (rs ms : List Int) : (subMul top p rs ms).length = rs.length := by
  rw [subMul_eq_addRow, addRow_length]

theorem evalR_subMul {p : Int} (hpK : ((p : Int) : K) = 0) (top : Int) (t : K) : ∀ rs ms : List Int,
    ms.length ≤ rs.length →
    evalR (subMul top p rs ms) t = evalR rs t - (top : K) * t ^ (rs.length - ms.length) * evalR ms t
  | [], [], _ => by simp [subMul, evalR]
  | [], _ :: _, h => by simp at h
  | _ :: _, [], _ => by simp [subMul, evalR]
  | r :: rs, m :: ms, h => by
    have h' : ms.length ≤ rs.length := by simpa using h
    have e : t ^ (rs.length - ms.length) * t ^ ms.length = t ^ rs.length := by
      rw [← pow_add]; congr 1; omega
    simp only [subMul, evalR, subMul_length, evalR_subMul hpK top t rs ms h', cast_pmod hpK,
      List.length_cons, Nat.add_sub_add_right]
    push_cast
    linear_combination ((top : K) * (m : K)) * e

theorem reduceStep_spec {p : Int} (hpK : ((p : Int) : K) = 0) (t : K) (mrest : List Int)
    (hroot : evalR (1 :: mrest) t = 0) (top : Int) (rest : List Int) (hl : mrest.length ≤ rest.length) :
    evalR (if top ≠ 0 then subMul top p rest mrest else rest) t = evalR (top :: rest) t ∧
    (if top ≠ 0 then subMul top p rest mrest else rest).length = rest.length ∧
    (0 < p → InRange p rest → InRange p (if top ≠ 0 then subMul top p rest mrest else rest)) := by
  by_cases h0 : top = 0
  · rw [if_neg (not_not.mpr h0), h0]
    exact ⟨by simp [evalR], rfl, fun _ h => h⟩
  · have hroot' : evalR mrest t = - t ^ mrest.length := by
      simp only [evalR, Int.cast_one, one_mul] at hroot
      linear_combination hroot
    have e : t ^ (rest.length - mrest.length) * t ^ mrest.length = t ^ rest.length := by
      rw [← pow_add]; congr 1; omega
    rw [if_pos h0]
    refine ⟨?_, subMul_length .., fun hp h => subMul_eq_addRow top p _ _ ▸ addRow_inRange hp _ rest _ h⟩
    rw [evalR_subMul hpK top t rest mrest hl, hroot', evalR]
    linear_combination (top : K) * e

theorem reduceLoop_spec {p : Int} (hpK : ((p : Int) : K) = 0) (t : K) (mrest : List Int)
    (hroot : evalR (1 :: mrest) t = 0) : ∀ (fuel : Nat) (rp : List Int), rp.length ≤ fuel + mrest.length →
    evalR (reduceLoop p (1 :: mrest) fuel rp) t = evalR rp t ∧
    (reduceLoop p (1 :: mrest) fuel rp).length = min rp.length mrest.length ∧
    (0 < p → InRange p rp → InRange p (reduceLoop p (1 :: mrest) fuel rp))
  | 0, rp, h => ⟨rfl, by show rp.length = _; omega, fun _ h => h⟩
  | fuel+1, rp, h => by
    unfold reduceLoop
    by_cases hlen : rp.length ≥ (1 :: mrest).length
    · match rp, hlen, h with
      | top :: rest, hlen, h =>
        rw [List.length_cons, List.length_cons] at hlen
        rw [List.length_cons] at h
        obtain ⟨s1, s2, s3⟩ := reduceStep_spec hpK t mrest hroot top rest (by omega)
        obtain ⟨r1, r2, r3⟩ := reduceLoop_spec hpK t mrest hroot fuel _ (by rw [s2]; omega)
        rw [if_pos (by rw [List.length_cons, List.length_cons]; exact hlen)]
        dsimp only [List.tail_cons]
        refine ⟨r1.trans s1, by rw [r2, s2, List.length_cons]; omega,
          fun hp h => r3 hp (s3 hp fun c hc => h c (List.mem_cons_of_mem _ hc))⟩
    · rw [if_neg hlen]
      rw [List.length_cons] at hlen
      exact ⟨rfl, by omega, fun _ h => h⟩

theorem inRange_reverse {p : Int} {l : List Int} (h : InRange p l) : InRange p l.reverse :=
  fun c hc => h c (List.mem_reverse.mp hc)

theorem evalL_addRow {p : Int} (hpK : ((p : Int) : K) = 0) (c : Int) (t : K) : ∀ xs ys : List Int,
    ys.length ≤ xs.length → evalL (addRow c p xs ys) t = evalL xs t + (c : K) * evalL ys t
  | [], [], _ => by simp [addRow, evalL]
  | [], _ :: _, h => by simp at h
  | _ :: _, [], _ => by simp [addRow, evalL]
  | x :: xs, y :: ys, h => by
    have h' : ys.length ≤ xs.length := by simpa using h
    simp only [addRow, evalL, evalL_addRow hpK c t xs ys h', cast_pmod hpK]
    push_cast; ring

theorem mulRows_spec {p : Int} (hpK : ((p : Int) : K) = 0) (t : K) (m2 : List Int) : ∀ m1 prod : List Int,
    (mulRows p m2 m1 prod).length = prod.length ∧
    (0 < p → InRange p prod → InRange p (mulRows p m2 m1 prod)) ∧
    (m1 = [] ∨ m1.length + m2.length ≤ prod.length + 1 →
      evalL (mulRows p m2 m1 prod) t = evalL prod t + evalL m1 t * evalL m2 t)
  | [], prod => ⟨rfl, fun _ h => h, fun _ => by simp [mulRows, evalL]⟩
  | c :: cs, prod => by
    have hlen := addRow_length c p prod m2
    have hrange := fun hp => addRow_inRange (p := p) hp c prod m2
    have hadd := evalL_addRow hpK c t prod m2
    rw [mulRows]
    rcases hx : addRow c p prod m2 with _ | ⟨x, xs⟩
    · -- an empty row: `prod` is empty, and long enough only for an empty `m2`
      rw [hx] at hlen
      obtain rfl : prod = [] := List.length_eq_zero_iff.mp hlen.symm
      refine ⟨rfl, fun _ h => h, fun h => ?_⟩
      obtain rfl : m2 = [] := List.length_eq_zero_iff.mp (by simp at h; omega)
      simp [evalL]
    · rw [hx] at hlen hrange hadd
      obtain ⟨i1, i2, i3⟩ := mulRows_spec hpK t m2 cs xs
      refine ⟨by rw [List.length_cons, i1, ← hlen, List.length_cons], fun hp h => ?_, fun h => ?_⟩
      · obtain ⟨hx0, hxs⟩ := List.forall_mem_cons.mp (hrange hp h)
        exact List.forall_mem_cons.mpr ⟨hx0, i2 hp hxs⟩
      · have h : cs.length + 1 + m2.length ≤ prod.length + 1 := by simpa using h
        have hadd := hadd (by omega)
        simp only [evalL] at hadd ⊢
        rw [i3 (Or.inr (by simp at hlen; omega))]
        linear_combination hadd

theorem evalL_replicate_zero (t : K) : ∀ n : Nat, evalL (List.replicate n 0) t = 0
  | 0 => rfl
  | n+1 => by simp [List.replicate_succ, evalL, evalL_replicate_zero t n]

theorem inRange_replicate_zero {p : Int} (hp : 0 < p) (n : Nat) : InRange p (List.replicate n 0) := by
  intro c hc
  have := (List.mem_replicate.mp hc).2
  omega

theorem pdiv_two_nat (k : Nat) : pdiv (k : Int) 2 = ((k / 2 : Nat) : Int) := by
  rw [pdiv_eq_ediv (by decide)]; rfl

theorem pmod_two_nat (k : Nat) : pmod (k : Int) 2 = ((k % 2 : Nat) : Int) := by
  rw [pmod_eq_emod (by decide)]; rfl

section root
variable {p : Int} (hpK : ((p : Int) : K) = 0) (hp0 : p ≠ 0) (t : K) (polymod : List Int)
  (hmonic : polymod.getLast? = some 1) (hlen : 2 ≤ polymod.length) (hroot : evalL polymod t = 0)
include hpK hp0 hmonic hlen hroot

theorem polyReduceMod_spec (poly : List Int) :
    ∃ q, polyReduceMod poly polymod p = .ok q ∧ evalL q t = evalL poly t ∧
      q.length = min poly.length (polymod.length - 1) ∧ (0 < p → InRange p poly → InRange p q) := by
  obtain ⟨ini, rfl⟩ := List.getLast?_eq_some_iff.mp hmonic
  have hrev : (ini ++ [1]).reverse = 1 :: ini.reverse := by simp
  refine ⟨(reduceLoop p (1 :: ini.reverse) (poly.length + 1) poly.reverse).reverse, ?_, ?_, ?_, ?_⟩
  · unfold polyReduceMod
    rw [hmonic]
    simp only [ne_eq, not_true_eq_false, ↓reduceIte, hp0, false_and, hrev]
    rw [if_neg (by omega)]
  all_goals
    obtain ⟨r1, r2, r3⟩ := reduceLoop_spec hpK t ini.reverse (by rw [← hrev, evalR_reverse]; exact hroot)
      (poly.length + 1) poly.reverse (by rw [List.length_reverse]; omega)
  · rw [evalL_reverse, r1, evalR_reverse]
  · rw [List.length_reverse, r2]
    simp
  · exact fun hp h => inRange_reverse (r3 hp (inRange_reverse h))

theorem polyMulMod_spec (m1 m2 : List Int) :
    ∃ q, polyMulMod m1 m2 polymod p = .ok q ∧ evalL q t = evalL m1 t * evalL m2 t ∧
      q.length = min (m1.length + m2.length - 1) (polymod.length - 1) ∧ (0 < p → InRange p q) := by
  obtain ⟨q, hq, hev, hl, hr⟩ := polyReduceMod_spec hpK hp0 t polymod hmonic hlen hroot
    (mulRows p m2 m1 (List.replicate (m1.length + m2.length - 1) 0))
  refine ⟨q, ?_, ?_, ?_, ?_⟩
  · unfold polyMulMod
    simp only [hp0, false_and, ↓reduceIte]
    exact hq
  all_goals obtain ⟨r1, r2, r3⟩ := mulRows_spec hpK t m2 m1 (List.replicate (m1.length + m2.length - 1) 0)
  · rw [hev, r3 ?_, evalL_replicate_zero, zero_add]
    rcases m1 with _ | ⟨c, cs⟩
    · exact Or.inl rfl
    · right; simp only [List.length_cons, List.length_replicate]; omega
  · rw [hl, r1, List.length_replicate]
  · exact fun hp => hr hp (r2 hp (inRange_replicate_zero hp _))

theorem polyMulMod_ok {m1 m2 q : List Int} (hq : polyMulMod m1 m2 polymod p = .ok q) :
    q.length = min (m1.length + m2.length - 1) (polymod.length - 1) ∧ (0 < p → InRange p q) := by
  obtain ⟨q', hq', -, hl, hr⟩ := polyMulMod_spec hpK hp0 t polymod hmonic hlen hroot m1 m2
  cases hq.symm.trans hq'
  exact ⟨hl, hr⟩

section closed
/-! `P` is any property of coefficient lists that products inherit (e.g. `True`, or "reduced and short"). -/
variable (P : List Int → Prop) (hP : ∀ m1 m2 q, P m1 → P m2 → polyMulMod m1 m2 polymod p = .ok q → P q)
include hP

/-- the `do` block of the model continues both branches of the `if` with the same `f`; hence the shape of the equation -/
theorem polyMulMod_bit (k : Nat) (g s : List Int) (hg : P g) (hs : P s) :
    ∃ s', (∀ f : List Int → Res (List Int),
        (if pmod (k : Int) 2 = 1 then polyMulMod g s polymod p >>= f else pure s >>= f) = f s') ∧
      evalL s' t = evalL s t * evalL g t ^ (k % 2) ∧ P s' := by
  rw [pmod_two_nat]
  rcases Nat.mod_two_eq_zero_or_one k with h | h <;> rw [h]
  · exact ⟨s, fun f => if_neg (by decide), by rw [pow_zero, mul_one], hs⟩
  · obtain ⟨s', hs', hev, -, -⟩ := polyMulMod_spec hpK hp0 t polymod hmonic hlen hroot g s
    exact ⟨s', fun f => by rw [if_pos Nat.cast_one, hs']; rfl, by rw [hev, pow_one, mul_comm], hP g s s' hg hs hs'⟩

theorem polyExpLoop_spec :
    ∀ (fuel k : Nat) (G s : List Int), k < fuel → P G → P s →
      ∃ q, polyExpLoop polymod p fuel (k : Int) G s = .ok q ∧
        evalL q t = evalL s t * evalL G t ^ (2 * (k / 2)) ∧ P q
  | 0, k, G, s, h, _, _ => by omega
  | fuel+1, k, G, s, h, hG, hs => by
    rw [polyExpLoop]
    by_cases hk : 2 ≤ k
    · obtain ⟨G', hG', hevG, -, -⟩ := polyMulMod_spec hpK hp0 t polymod hmonic hlen hroot G G
      have hPG' := hP G G G' hG hG hG'
      obtain ⟨s', hs', hevs, hPs'⟩ := polyMulMod_bit hpK hp0 t polymod hmonic hlen hroot P hP (k / 2) G' s hPG' hs
      obtain ⟨q, hq, hevq, hPq⟩ := polyExpLoop_spec fuel (k / 2) G' s'
        (by omega) hPG' hPs'
      refine ⟨q, ?_, ?_, hPq⟩
      · rw [if_pos (by omega), pdiv_two_nat, hG']
        exact (hs' fun s => polyExpLoop polymod p fuel ((k / 2 : Nat) : Int) G' s).trans hq
      · rw [hevq, hevs, mul_assoc, ← pow_add, Nat.mod_add_div, hevG, ← pow_two, ← pow_mul]
    · rw [if_neg (by omega), show k / 2 = 0 by omega, mul_zero, pow_zero, mul_one]
      exact ⟨s, rfl, rfl, hs⟩

/-- the start value is `[1]` only for even `e`, hence `hone` -/
theorem polyExpMod_spec (base : List Int) (e : Int) (he0 : 0 ≤ e) (hep : e < p) (hbase : P base) (hone : e % 2 = 0 → P [1]) :
    ∃ q, polyExpMod base e polymod p = .ok q ∧ evalL q t = evalL base t ^ e.toNat ∧ P q := by
  obtain ⟨n, rfl⟩ := Int.eq_ofNat_of_zero_le he0
  rw [polyExpMod, if_neg (not_not.mpr hep), Int.toNat_natCast]
  by_cases hn : n = 0
  · subst hn
    exact ⟨[1], rfl, by simp [evalL], hone (by simp)⟩
  · obtain ⟨s, hs, hevs, hPs⟩ : ∃ s, (if pmod (n : Int) 2 = 1 then base else [1]) = s ∧
        evalL s t = evalL base t ^ (n % 2) ∧ P s := by
      rw [pmod_two_nat]
      rcases Nat.mod_two_eq_zero_or_one n with h | h <;> rw [h]
      · exact ⟨[1], if_neg (by decide), by simp [evalL], hone (by omega)⟩
      · exact ⟨base, if_pos Nat.cast_one, (pow_one _).symm, hbase⟩
    obtain ⟨q, hq, hev, hPq⟩ := polyExpLoop_spec hpK hp0 t polymod hmonic hlen hroot P hP
      ((n : Int).natAbs + 1) n base s (by omega) hbase hPs
    rw [if_neg (by omega)]
    dsimp only
    rw [hs]
    exact ⟨q, hq, by rw [hev, hevs, ← pow_add, Nat.mod_add_div], hPq⟩

end closed

end root

def Reduced (p : Int) (polymod l : List Int) : Prop := l.length < polymod.length ∧ InRange p l

theorem polyExpMod_reduced {p : Int} (hpK : ((p : Int) : K) = 0) (hp1 : 1 < p) (t : K)
    (polymod : List Int) (hmonic : polymod.getLast? = some 1) (hlen : 2 ≤ polymod.length)
    (hroot : evalL polymod t = 0)
    (base : List Int) (e : Int) (he0 : 0 ≤ e) (hep : e < p) (hbase : Reduced p polymod base) :
    ∃ q, polyExpMod base e polymod p = .ok q ∧ evalL q t = evalL base t ^ e.toNat ∧ Reduced p polymod q := by
  have hp0 : p ≠ 0 := by omega
  refine polyExpMod_spec hpK hp0 t polymod hmonic hlen hroot (Reduced p polymod) ?_ base e he0 hep hbase ?_
  · intro m1 m2 q _ _ hq
    obtain ⟨hl, hr⟩ := polyMulMod_ok hpK hp0 t polymod hmonic hlen hroot hq
    exact ⟨by rw [hl]; omega, hr (by omega)⟩
  · refine fun _ => ⟨by simp; omega, ?_⟩
    intro c hc
    simp at hc; omega

theorem poly_ops_are_quotient_ring {p : Int} (hpK : ((p : Int) : K) = 0) (hp0 : p ≠ 0) (t : K)
    (polymod : List Int) (hmonic : polymod.getLast? = some 1) (hlen : 2 ≤ polymod.length)
    (hroot : evalL polymod t = 0) :
    (∀ poly, ∃ q, polyReduceMod poly polymod p = .ok q ∧ evalL q t = evalL poly t ∧
      q.length = min poly.length (polymod.length - 1) ∧ (0 < p → InRange p poly → InRange p q)) ∧
    (∀ m1 m2, ∃ q, polyMulMod m1 m2 polymod p = .ok q ∧ evalL q t = evalL m1 t * evalL m2 t ∧
      q.length = min (m1.length + m2.length - 1) (polymod.length - 1) ∧ (0 < p → InRange p q)) ∧
    (∀ base e, 0 ≤ e → e < p → ∃ q, polyExpMod base e polymod p = .ok q ∧
      evalL q t = evalL base t ^ e.toNat) :=
  ⟨fun poly => polyReduceMod_spec hpK hp0 t polymod hmonic hlen hroot poly,
   fun m1 m2 => polyMulMod_spec hpK hp0 t polymod hmonic hlen hroot m1 m2,
   fun base e he0 hep => by
    obtain ⟨q, hq, hev, -⟩ := polyExpMod_spec hpK hp0 t polymod hmonic hlen hroot (fun _ => True)
      (fun _ _ _ _ _ _ => trivial) base e he0 hep trivial (fun _ => trivial)
    exact ⟨q, hq, hev⟩⟩

end NTCip
