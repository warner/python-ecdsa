import Proofs.NTPrime
/-!
`is_prime` is exact below 2¹⁶ with no hypothesis.  By `isPrime_exact_of_psi` (two rounds are always run) it suffices that no
composite below 2¹⁶ coprime to 2310 is a strong probable prime to both bases 2 and 3.  That is a finite fact, and the kernel
checks it by a sweep over the composites only: such an `m` is `q·c` with `q` its least prime factor, `13 ≤ q < 256`, `q ≤ c`.
The sweep runs Fermat's test to base 2 first and a boolean strong test only on the survivors, all over `Nat` (`^`, `%`, `/` and
`gcd` on literals are primitive in the kernel).
-/
namespace NTSmall
open NT NTProofs

/-- `e` runs through `(n-1)/2, (n-1)/4, …` down to the odd part `r` of `n - 1`: some `a^e ≡ -1`, or `a^r ≡ 1`
(`e` can be halved fewer than `n` times, so `n` is ample fuel) -/
def sprpGo (n a : Nat) : Nat → Nat → Bool
  | 0, _ => false
  | fuel + 1, e => (a ^ e % n).beq (n - 1) || if (e % 2).beq 0 then sprpGo n a fuel (e / 2) else (a ^ e % n).beq 1

def sprpB (n a : Nat) : Bool := sprpGo n a n ((n - 1) / 2)

section
variable {n : Nat} (hn : 2 ≤ n) (a : Nat)
include hn

theorem cast_pow_eq_one_iff (e : Nat) : ((a : Int) : ZMod n) ^ e = 1 ↔ a ^ e % n = 1 := by
  rw [Int.cast_natCast, ← Nat.cast_pow, ← Nat.cast_one, ZMod.natCast_eq_natCast_iff', Nat.mod_eq_of_lt (show 1 < n from hn)]

theorem cast_pow_eq_neg_one_iff (e : Nat) : ((a : Int) : ZMod n) ^ e = -1 ↔ a ^ e % n = n - 1 := by
  have h : ((n - 1 : Nat) : ZMod n) = -1 := by
    rw [Nat.cast_sub (by omega), ZMod.natCast_self, Nat.cast_one, zero_sub]
  rw [Int.cast_natCast, ← Nat.cast_pow, ← h, ZMod.natCast_eq_natCast_iff', Nat.mod_eq_of_lt (show n - 1 < n by omega)]

omit hn in
theorem fermat_of_SPRP (h : SPRP n a) : ((a : Int) : ZMod n) ^ (n - 1) = 1 := by
  obtain ⟨s, r, hs, -, h | ⟨j, hj, h⟩⟩ := h
  · rw [hs, Nat.mul_comm, pow_mul, h, one_pow]
  · obtain ⟨d, rfl⟩ : ∃ d, s = j + 1 + d := ⟨s - j - 1, by omega⟩
    rw [hs, show 2 ^ (j + 1 + d) * r = 2 ^ j * r * 2 * 2 ^ d by ring, pow_mul, pow_mul, h, neg_one_sq, one_pow]

theorem sprpGo_of_witness (r : Nat) (hr : r % 2 = 1) : ∀ t fuel, t < fuel →
    (((a : Int) : ZMod n) ^ r = 1 ∨ ∃ j, j ≤ t ∧ ((a : Int) : ZMod n) ^ (2 ^ j * r) = -1) →
    sprpGo n a fuel (2 ^ t * r) = true := by
  intro t
  induction t with
  | zero =>
    rintro (_ | fuel) hf h
    · omega
    · rw [sprpGo, Nat.pow_zero, Nat.one_mul, if_neg (by rw [Nat.beq_eq]; omega), Bool.or_eq_true,
        Nat.beq_eq, Nat.beq_eq]
      rcases h with h | ⟨j, hj, h⟩
      · exact .inr ((cast_pow_eq_one_iff hn a r).mp h)
      · obtain rfl : j = 0 := by omega
        rw [Nat.pow_zero, Nat.one_mul] at h
        exact .inl ((cast_pow_eq_neg_one_iff hn a r).mp h)
  | succ t ih =>
    rintro (_ | fuel) hf h
    · omega
    · have he : 2 ^ (t + 1) * r = 2 * (2 ^ t * r) := by rw [Nat.pow_succ, Nat.mul_comm _ 2, Nat.mul_assoc]
      rw [sprpGo, he, if_pos (by rw [Nat.beq_eq]; omega), Nat.mul_div_cancel_left _ (by decide), Bool.or_eq_true,
        Nat.beq_eq]
      rcases h with h | ⟨j, hj, h⟩
      · exact .inr (ih fuel (by omega) (.inl h))
      · rcases Nat.lt_or_ge j (t + 1) with hlt | hge
        · exact .inr (ih fuel (by omega) (.inr ⟨j, by omega, h⟩))
        · obtain rfl : j = t + 1 := by omega
          rw [he] at h
          exact .inl ((cast_pow_eq_neg_one_iff hn a _).mp h)

theorem sprpB_of_SPRP (hodd : n % 2 = 1) (h : SPRP n a) : sprpB n a = true := by
  obtain ⟨s, r, hs, hr, h⟩ := h
  obtain ⟨t, rfl⟩ : ∃ t, s = t + 1 := by
    rcases s with _ | t
    · rw [Nat.pow_zero, Nat.one_mul] at hs; omega
    · exact ⟨t, rfl⟩
  have he : (n - 1) / 2 = 2 ^ t * r := by
    rw [hs, Nat.pow_succ, Nat.mul_comm _ 2, Nat.mul_assoc, Nat.mul_div_cancel_left _ (by decide)]
  have ht : t < n := by
    have := Nat.lt_two_pow_self (n := t + 1)
    have : 2 ^ (t + 1) ≤ n - 1 := hs ▸ Nat.le_mul_of_pos_right _ (by omega)
    omega
  rw [sprpB, he]
  exact sprpGo_of_witness hn a r hr t n ht (h.imp_right fun ⟨j, hj, h⟩ => ⟨j, by omega, h⟩)

end

/-- no odd `q·c < 2¹⁶` coprime to 2310, with `q` a table prime and `c ≥ q`, passes Fermat's test to base 2 and the strong tests
to bases 2 and 3.  `drop 5` leaves out 2, 3, 5, 7, 11, the prime factors of 2310; `c = q + 2i` runs over the odd `c ≥ q`
with `q·c ≤ 65535` (there are none for `q ≥ 256`). -/
def noPsp23 : Bool :=
  (Gen.NT.smallprimesN.drop 5).all fun q => (List.range ((65535 / q - q) / 2 + 1)).all fun i =>
    let m := q * (q + 2 * i)
    !(m.gcd 2310).beq 1 || !((2 ^ (m - 1) % m).beq 1 && sprpB m 2 && sprpB m 3)

theorem noPsp23_true : noPsp23 = true := by decide +kernel

theorem not_psp23 {q i : Nat} (hq : q ∈ Gen.NT.smallprimesN.drop 5) (hi : i < (65535 / q - q) / 2 + 1)
    (hg : (q * (q + 2 * i)).gcd 2310 = 1) (hf : 2 ^ (q * (q + 2 * i) - 1) % (q * (q + 2 * i)) = 1)
    (h2 : sprpB (q * (q + 2 * i)) 2 = true) (h3 : sprpB (q * (q + 2 * i)) 3 = true) : False := by
  have h := noPsp23_true
  simp only [noPsp23, List.all_eq_true, List.mem_range] at h
  have := h q hq i hi
  rw [hg, hf, h2, h3] at this
  exact absurd this (by decide)

/-- ψ₂ > 2¹⁶ for numbers coprime to 2310 (the first strong pseudoprime to bases 2 and 3 is 1373653) -/
theorem psi2 (m : Nat) (h1 : 1229 < m) (h2 : m < 65536) (hg : Nat.gcd m 2310 = 1)
    (h : ∀ a ∈ Gen.NT.smallprimes.take 2, SPRP m a) : m.Prime := by
  by_contra hnp
  have hodd : m % 2 = 1 := odd_of_gcd hg
  -- the least prime factor `q` is below 256, so it is in the table, and it is not one of the first five entries
  have hq : m.minFac.Prime := Nat.minFac_prime (by omega)
  have hsq : m.minFac * m.minFac ≤ m := by
    have := Nat.minFac_sq_le_self (by omega) hnp; rwa [sq] at this
  have hlt : m.minFac < 256 := by
    by_contra hge
    have := Nat.mul_le_mul (Nat.le_of_not_lt hge) (Nat.le_of_not_lt hge)
    omega
  have hmem : m.minFac ∈ Gen.NT.smallprimesN := (mem_smallprimesN _).mpr ⟨hq, by omega⟩
  rw [← List.take_append_drop 5 Gen.NT.smallprimesN, List.mem_append] at hmem
  rcases hmem with h5 | hmem
  · have : m.minFac ∣ 2310 := by
      have : m.minFac ∈ [2, 3, 5, 7, 11] := h5
      simp only [List.mem_cons, List.not_mem_nil, or_false] at this
      rcases this with h | h | h | h | h <;> rw [h] <;> decide
    have := Nat.dvd_gcd (Nat.minFac_dvd m) this
    rw [hg, Nat.dvd_one] at this
    exact hq.one_lt.ne' this
  · -- `m = q·c` with `q ≤ c`, both odd: `c = q + 2i` with `i` in the swept range
    obtain ⟨c, hc⟩ := Nat.minFac_dvd m
    have hqc : m.minFac ≤ c := by
      by_contra hlt'
      have := Nat.mul_lt_mul_of_lt_of_le (Nat.lt_of_not_le hlt') (Nat.le_refl m.minFac) hq.pos
      rw [Nat.mul_comm c] at this; omega
    have hcle : c ≤ 65535 / m.minFac := (Nat.le_div_iff_mul_le hq.pos).mpr (by rw [Nat.mul_comm, ← hc]; omega)
    obtain ⟨hqodd, hcodd⟩ := Nat.odd_mul.mp (Nat.odd_iff.mpr (hc ▸ hodd))
    rw [Nat.odd_iff] at hqodd hcodd
    have hm : m = m.minFac * (m.minFac + 2 * ((c - m.minFac) / 2)) := by
      rw [show m.minFac + 2 * ((c - m.minFac) / 2) = c by omega]; exact hc
    refine not_psp23 hmem (i := (c - m.minFac) / 2) (by omega) ?_ ?_ ?_ ?_ <;> rw [← hm]
    · exact hg
    · exact (cast_pow_eq_one_iff (by omega) 2 _).mp (fermat_of_SPRP 2 (h 2 (by decide)))
    · exact sprpB_of_SPRP (by omega) 2 hodd (h 2 (by decide))
    · exact sprpB_of_SPRP (by omega) 3 hodd (h 3 (by decide))

theorem isPrime_exact_below_65536 (lg : Int → Int) (n : Int) (hn : n < 65536) :
    ∃ b, isPrime lg n = .ok b ∧ (b = true ↔ 0 ≤ n ∧ n.toNat.Prime) :=
  isPrime_exact_of_psi lg 65536 2 (fun m h1 h2 => psi2 m h1 (by exact_mod_cast h2)) n hn fun _ => by
    have := (mrRounds_range (Gen.NT.mr_n_bits (lg n))).1; omega

end NTSmall
