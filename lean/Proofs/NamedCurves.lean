import Proofs.NamedChecks
import Proofs.EcdsaInstRecover
import Generated.Curves
/-!
# Proofs.NamedCurves — the 17 named curves of the GENERATED table `Gen.curveTable` satisfy the standing hypotheses of
the ECDSA-level theorems, with the order of the base point CHECKED (not assumed)

For every row `r` of `Gen.curveTable` (regenerated from `curves.py` / `ecdsa.py` on every run) kernel evaluation
(`rowChecks`, one `decide +kernel`) establishes: p > 2, n odd, base point coordinates reduced and on the curve,
4a³ + 27b² ≢ 0 (mod p), and `n • (Gx, Gy) = ∞` by the certified reference multiplication of `Proofs/CertAffine.lean`
(proved equal to Mathlib's `•` without any hypothesis on 2-torsion).  Hence, with `p` prime only (needed for `ZMod p` to be a
field at all): `n • ⟦G⟧ = 0`, the group context `baseCtx r`, N2T for ⟨G⟩ and that the generator object denotes ⟦G⟧
(`genRep_row`).  `n` prime enters at `Ecdsa.OnCurve.Matches (crvOf r) (baseCtx r)` (its field `n_prime`) alone; with the
additional SEC 2 fact #E(𝔽_p) = n (cofactor 1): `MatchesRec`.
-/
namespace Named
open WeierstrassCurve Jac GroupInterface Ecdsa Ecdsa.OnCurve

/-- the curve description the driver receives for a row of the table (`PointJacobi` generator) -/
def crvOf (r : Gen.CurveRow) : Affine.Crv := ⟨r.p, r.a, r.b, r.gx, r.gy, r.n, r.h, true⟩

structure Checked (r : Gen.CurveRow) : Prop where
  p_gt : 2 < r.p
  n_gt : 1 < r.n
  n_odd : r.n % 2 = 1
  gx_lt : r.gx < r.p
  gy_pos : 0 < r.gy
  gy_lt : r.gy < r.p
  eqn : ((r.gy : Int) * r.gy - ((r.gx : Int) ^ 3 + r.a * r.gx + r.b)) % (r.p : Int) = 0
  disc : (4 * r.a ^ 3 + 27 * r.b ^ 2) % (r.p : Int) ≠ 0
  nG : CertAff.mulIsZero r.p r.a r.n r.gx r.gy = true

theorem checked_of {r : Gen.CurveRow} (h : rowChecks r = true) : Checked r := by
  obtain ⟨h1, h2, h3, h4, h5, h6, h7, h8, h9⟩ := of_decide_eq_true h
  exact ⟨h1, h2, h3, h4, h5, h6, h7, h8, (CertAff.mulIsZero_eq (by omega) ..).trans h9⟩

theorem checked_of_mem {r : Gen.CurveRow} (h : r ∈ Gen.curveTable) : Checked r := checked_of (all_rows_checked r h)

section
variable {r : Gen.CurveRow} [hp : Fact (Nat.Prime r.p)]

theorem p_ne_two (K : Checked r) : r.p ≠ 2 := by have := K.p_gt; omega

theorem eqn_of_emod {a b x y : ℤ} (h : (y * y - (x ^ 3 + a * x + b)) % (r.p : ℤ) = 0) :
    (y : ZMod r.p) ^ 2 = (x : ZMod r.p) ^ 3 + (a : ZMod r.p) * x + b := by
  have := (CertAff.emod_zero_iff _).mp h
  push_cast at this
  linear_combination this

theorem G_nonsingular (K : Checked r) :
    (shortW (r.a : ZMod r.p) (r.b : ZMod r.p)).toAffine.Nonsingular ((r.gx : ℤ) : ZMod r.p) ((r.gy : ℤ) : ZMod r.p) := by
  refine nonsingular_of (p_ne_two K) (eqn_of_emod K.eqn) fun h0 => ?_
  -- `0 < gy < p` is not divisible by `p`
  rw [ZMod.intCast_zmod_eq_zero_iff_dvd] at h0
  have := Int.le_of_dvd (by exact_mod_cast K.gy_pos) h0
  have := K.gy_lt
  omega

def Gpt (r : Gen.CurveRow) [Fact (Nat.Prime r.p)] (K : Checked r) : Grp (r.a : ZMod r.p) (r.b : ZMod r.p) :=
  Affine.Point.some _ _ (G_nonsingular K)

theorem nG_eq_zero (K : Checked r) : (r.n : ℤ) • Gpt r K = 0 := by
  rw [natCast_zsmul]
  exact CertAff.mulIsZero_sound (p_ne_two K) _ _ (G_nonsingular K) r.n K.nG

def baseCtx (r : Gen.CurveRow) [Fact (Nat.Prime r.p)] (K : Checked r) : Ctx r.p r.a r.b where
  G := Gpt r K
  n := r.n
  hn := nG_eq_zero K
  hodd := by have := K.n_odd; omega
  hpos := by have := K.n_gt; omega

theorem crv_onCurve (r : Gen.CurveRow) : Jac.OnCurve r.p r.a r.b (Ecdsa.OnCurve.crvOf (crvOf r)) := ⟨rfl, rfl, rfl⟩

theorem genRep_row (K : Checked r) :
    PJRep r.p r.a r.b (baseCtx r K).H ⟨Ecdsa.OnCurve.crvOf (crvOf r), r.gx, r.gy, 1, some r.n, true⟩ (baseCtx r K).G :=
  pjRep_of_coords (baseCtx r K).n2t _ (crv_onCurve r) r.gx r.gy
    ⟨Int.natCast_nonneg _, by exact_mod_cast K.gx_lt⟩ ⟨Int.natCast_nonneg _, by exact_mod_cast K.gy_lt⟩
    (G_nonsingular K) (baseCtx r K).G_mem (some (r.n : ℤ)) true

theorem matches_row (K : Checked r) (hn : Nat.Prime r.n) : Matches (crvOf r) (baseCtx r K) where
  hp2 := p_ne_two K
  cp := rfl
  ca := rfl
  cb := rfl
  cn := rfl
  n_prime := by show Nat.Prime ((r.n : ℤ)).toNat; rwa [Int.toNat_natCast]
  jac := rfl
  genRep := genRep_row K

theorem delta_ne_zero (K : Checked r) : (shortW (r.a : ZMod r.p) (r.b : ZMod r.p)).toAffine.Δ ≠ 0 := by
  have hd : (shortW (r.a : ZMod r.p) (r.b : ZMod r.p)).toAffine.Δ =
      -(2 : ZMod r.p) ^ 4 * (4 * (r.a : ZMod r.p) ^ 3 + 27 * (r.b : ZMod r.p) ^ 2) := by
    simp [WeierstrassCurve.Δ, WeierstrassCurve.b₂, WeierstrassCurve.b₄, WeierstrassCurve.b₆, WeierstrassCurve.b₈, shortW]
    ring
  rw [hd]
  refine mul_ne_zero (neg_ne_zero.mpr (pow_ne_zero _ (two_ne_zero_of (p_ne_two K)))) fun h0 => K.disc ?_
  rw [CertAff.emod_zero_iff]
  push_cast; exact h0

theorem zmultiples_eq_top (K : Checked r) (hn : Nat.Prime r.n)
    (hcard : Nat.card (Grp (r.a : ZMod r.p) (r.b : ZMod r.p)) = r.n) : (baseCtx r K).H = ⊤ := by
  have : Finite (Grp (r.a : ZMod r.p) (r.b : ZMod r.p)) :=
    Nat.finite_of_card_ne_zero (by rw [hcard]; exact hn.ne_zero)
  apply AddSubgroup.eq_top_of_card_eq
  rw [hcard]
  show Nat.card (AddSubgroup.zmultiples (Gpt r K)) = r.n
  rw [Nat.card_zmultiples]
  have := Fact.mk hn
  apply addOrderOf_eq_prime
  · have := nG_eq_zero K; rwa [natCast_zsmul] at this
  · exact Affine.Point.some_ne_zero _

theorem matchesRec_row (K : Checked r) (hn : Nat.Prime r.n)
    (hcard : Nat.card (Grp (r.a : ZMod r.p) (r.b : ZMod r.p)) = r.n) : MatchesRec (crvOf r) (baseCtx r K) where
  toMatches := matches_row K hn
  allInH x y x0 x1 y0 y1 hc := by
    have hpos : (0 : ℤ) < (crvOf r).p := by show (0 : ℤ) < r.p; have := K.p_gt; omega
    have hon := (containsPoint_iff_onC (crvOf r) hpos x y).mp hc
    have heq : (shortW (r.a : ZMod r.p) (r.b : ZMod r.p)).toAffine.Equation (x : ZMod r.p) (y : ZMod r.p) := by
      rw [Affine.equation_iff]; simp only [shortW]
      linear_combination eqn_of_emod (a := r.a) (b := r.b) hon
    have hns := (Affine.equation_iff_nonsingular_of_Δ_ne_zero (delta_ne_zero K)).mp heq
    exact ⟨hns, by rw [zmultiples_eq_top K hn hcard]; exact AddSubgroup.mem_top _⟩

end

end Named
