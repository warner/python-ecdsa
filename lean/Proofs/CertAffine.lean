import Proofs.JacField
import Proofs.JacCast
import Mathlib.Data.Nat.Log
/-!
# Proofs.CertAffine — a certified reference scalar multiplication, used to CHECK `n • ⟦G⟧ = 0` on the named curves

Jacobian double-and-add over ℤ mod p with Mathlib's case distinction (`P ≈ Q` → `dblXYZ`, else `addXYZ`; `Z = 0` is the
only identity) — NOT the library's reading "Y = 0 or Z = 0 is the identity" — so it is equal to Mathlib's `+` / `•` on
`WeierstrassCurve.Affine.Point` with **no** hypothesis about points of order two (no N2T).  Structural recursion only,
so `decide +kernel` evaluates it on the generated curve constants (`Proofs/NamedChecks.lean`).  It is a reference
computation, not a model of `ellipticcurve.py`; the formulas are the field-level `Jac.addNeF` / `Jac.dblF`
(= `_add_with_z_ne` / `_double`, unit multiples of Mathlib's `addXYZ` / `dblXYZ` by `Jac.addNeF_eq_smul` / `Jac.dblF_eq`).
-/
namespace CertAff
open WeierstrassCurve WeierstrassCurve.Jacobian Jac

abbrev T3 := Int × Int × Int

/-- `Jac.dblF` over ℤ, reduced mod p -/
def dbl (p a : Int) (P : T3) : T3 :=
  let X1 := P.1; let Y1 := P.2.1; let Z1 := P.2.2
  let XX := X1 * X1 % p
  let YY := Y1 * Y1 % p
  let YYYY := YY * YY % p
  let ZZ := Z1 * Z1 % p
  let S := 2 * ((X1 + YY) ^ 2 - XX - YYYY) % p
  let M := (3 * XX + a * ZZ * ZZ) % p
  let T := (M * M - 2 * S) % p
  let Y3 := (M * (S - T) - 8 * YYYY) % p
  let Z3 := ((Y1 + Z1) ^ 2 - YY - ZZ) % p
  (T, Y3, Z3)

/-- `Jac.addNeF` over ℤ, reduced mod p -/
def addNe (p : Int) (P Q : T3) : T3 :=
  let X1 := P.1; let Y1 := P.2.1; let Z1 := P.2.2
  let X2 := Q.1; let Y2 := Q.2.1; let Z2 := Q.2.2
  let Z1Z1 := Z1 * Z1 % p
  let Z2Z2 := Z2 * Z2 % p
  let U1 := X1 * Z2Z2 % p
  let U2 := X2 * Z1Z1 % p
  let S1 := Y1 * Z2 * Z2Z2 % p
  let S2 := Y2 * Z1 * Z1Z1 % p
  let H := (U2 - U1) % p
  let I := 4 * H * H % p
  let J := H * I % p
  let r := 2 * (S2 - S1) % p
  let V := U1 * I % p
  let X3 := (r * r - J - 2 * V) % p
  let Y3 := (r * (V - X3) - 2 * S1 * J) % p
  let Z3 := ((Z1 + Z2) ^ 2 - Z1Z1 - Z2Z2) * H % p
  (X3, Y3, Z3)

/-- `P ≈ Q` for triples with Z ≠ 0, cross-multiplied -/
def equivB (p : Int) (P Q : T3) : Bool :=
  (P.1 * Q.2.2 ^ 2 - Q.1 * P.2.2 ^ 2) % p == 0 && (P.2.1 * Q.2.2 ^ 3 - Q.2.1 * P.2.2 ^ 3) % p == 0

def add (p a : Int) (P Q : T3) : T3 :=
  if P.2.2 % p = 0 then Q
  else if Q.2.2 % p = 0 then P
  else if equivB p P Q then dbl p a P
  else addNe p P Q

/-- `(1, 1, 0)` is Mathlib's representative of the identity (`nonsingular_zero`) -/
def mulAux (p a : Int) (P : T3) : Nat → Nat → T3
  | 0, _ => (1, 1, 0)
  | fuel+1, k =>
    if k = 0 then (1, 1, 0)
    else
      let d := dbl p a (mulAux p a P fuel (k / 2))
      if k % 2 = 1 then add p a d P else d

/-- `k` has `log2 k + 1` binary digits -/
def mul (p a : Int) (k : Nat) (P : T3) : T3 := mulAux p a P (k.log2 + 1) k

def mulIsZero (p a : Int) (k : Nat) (x y : Int) : Bool := (mul p a k (x, y, 1)).2.2 % p == 0


/-! ### the same computation over ℕ, for the kernel

Kernel evaluation unfolds every `Int` operation, and the instance chain of every notation, at each step, which costs more than
the arithmetic.  So `n • G` is evaluated on the copy below, spelt with `Nat.add`, `Nat.mul`, `Nat.mod`, … themselves (`−u` for
a reduced `u` is `p − u`), and `mulIsZero_eq` carries the result over to `mulIsZero`. -/

section
local infixl:65 " +' " => Nat.add
local infixl:65 " -' " => Nat.sub
local infixl:70 " *' " => Nat.mul
local infixl:70 " %' " => Nat.mod
local infixr:75 " ^' " => Nat.pow

abbrev T3N := Nat × Nat × Nat

def dblN (p a : Nat) (P : T3N) : T3N :=
  let X1 := P.1; let Y1 := P.2.1; let Z1 := P.2.2
  let XX := X1 *' X1 %' p
  let YY := Y1 *' Y1 %' p
  let YYYY := YY *' YY %' p
  let ZZ := Z1 *' Z1 %' p
  let S := 2 *' ((X1 +' YY) ^' 2 +' (p -' XX) +' (p -' YYYY)) %' p
  let M := (3 *' XX +' a *' ZZ *' ZZ) %' p
  let T := (M *' M +' 2 *' (p -' S)) %' p
  let Y3 := (M *' (S +' (p -' T)) +' 8 *' (p -' YYYY)) %' p
  let Z3 := ((Y1 +' Z1) ^' 2 +' (p -' YY) +' (p -' ZZ)) %' p
  (T, Y3, Z3)

def addNeN (p : Nat) (P Q : T3N) : T3N :=
  let X1 := P.1; let Y1 := P.2.1; let Z1 := P.2.2
  let X2 := Q.1; let Y2 := Q.2.1; let Z2 := Q.2.2
  let Z1Z1 := Z1 *' Z1 %' p
  let Z2Z2 := Z2 *' Z2 %' p
  let U1 := X1 *' Z2Z2 %' p
  let U2 := X2 *' Z1Z1 %' p
  let S1 := Y1 *' Z2 *' Z2Z2 %' p
  let S2 := Y2 *' Z1 *' Z1Z1 %' p
  let H := (U2 +' (p -' U1)) %' p
  let I := 4 *' H *' H %' p
  let J := H *' I %' p
  let r := 2 *' (S2 +' (p -' S1)) %' p
  let V := U1 *' I %' p
  let X3 := (r *' r +' (p -' J) +' 2 *' (p -' V)) %' p
  let Y3 := (r *' (V +' (p -' X3)) +' 2 *' S1 *' (p -' J)) %' p
  let Z3 := ((Z1 +' Z2) ^' 2 +' (p -' Z1Z1) +' (p -' Z2Z2)) *' H %' p
  (X3, Y3, Z3)

def equivBN (p : Nat) (P Q : T3N) : Bool :=
  Nat.beq ((P.1 *' Q.2.2 ^' 2 +' (p -' Q.1 *' P.2.2 ^' 2 %' p)) %' p) 0 &&
    Nat.beq ((P.2.1 *' Q.2.2 ^' 3 +' (p -' Q.2.1 *' P.2.2 ^' 3 %' p)) %' p) 0

def addN (p a : Nat) (P Q : T3N) : T3N :=
  cond (Nat.beq (P.2.2 %' p) 0) Q
    (cond (Nat.beq (Q.2.2 %' p) 0) P
      (cond (equivBN p P Q) (dblN p a P) (addNeN p P Q)))

def mulAuxN (p a : Nat) (P : T3N) : Nat → Nat → T3N
  | 0, _ => (1, 1, 0)
  | fuel+1, k =>
    cond (Nat.beq k 0) (1, 1, 0)
      (let d := dblN p a (mulAuxN p a P fuel (Nat.div k 2))
       cond (Nat.beq (k %' 2) 1) (addN p a d P) d)

def mulIsZeroN (p a k x y : Nat) : Bool := (mulAuxN p a (x, y, 1) (k.log2 + 1) k).2.2 % p == 0

end

def toZ (P : T3N) : T3 := (P.1, P.2.1, P.2.2)

theorem mod_def (a b : ℕ) : Nat.mod a b = a % b := rfl

theorem emod_eq_natCast_mod {p : ℕ} {u : ℤ} {v : ℕ} (h : (u : ZMod p) = v) : u % p = ((Nat.mod v p : ℕ) : ℤ) := by
  rw [mod_def, Int.natCast_mod]
  exact (ZMod.intCast_eq_intCast_iff _ _ _).mp (by rwa [Int.cast_natCast])

theorem cast_sub_mod {p : ℕ} (hp : 0 < p) (m : ℕ) : ((p - m % p : ℕ) : ZMod p) = -(m : ZMod p) := by
  rw [Nat.cast_sub (Nat.mod_lt _ hp).le, ZMod.natCast_self, zero_sub, ZMod.natCast_mod]

theorem cast_toNat_emod {p : ℕ} (hp : 0 < p) (a : ℤ) : (((a % p).toNat : ℕ) : ZMod p) = a := by
  rw [← Int.cast_natCast, Int.toNat_of_nonneg (Int.emod_nonneg _ (by omega)), ZMod.intCast_mod]

theorem dbl_eq {p : ℕ} (hp : 0 < p) (a : ℤ) (P : T3N) : dbl p a (toZ P) = toZ (dblN p (a % p).toNat P) := by
  -- coordinate by coordinate both sides are residues mod `p`; in `ZMod p` they are the same polynomial in the inputs
  refine Prod.ext ?_ (Prod.ext ?_ ?_) <;> apply emod_eq_natCast_mod <;>
    push_cast [toZ, mod_def, Nat.mul_eq, Nat.add_eq, Nat.sub_eq, Nat.pow_eq, cast_sub_mod hp, cast_toNat_emod hp,
      ZMod.intCast_mod, ZMod.natCast_mod] <;> ring

theorem addNe_eq {p : ℕ} (hp : 0 < p) (P Q : T3N) : addNe p (toZ P) (toZ Q) = toZ (addNeN p P Q) := by
  refine Prod.ext ?_ (Prod.ext ?_ ?_) <;> apply emod_eq_natCast_mod <;>
    push_cast [toZ, mod_def, Nat.mul_eq, Nat.add_eq, Nat.sub_eq, Nat.pow_eq, cast_sub_mod hp, ZMod.intCast_mod,
      ZMod.natCast_mod] <;> ring

theorem emod_eq_zero_of_cast {p : ℕ} {u : ℤ} {v : ℕ} (h : (u : ZMod p) = v) : u % p = 0 ↔ Nat.mod v p = 0 := by
  rw [emod_eq_natCast_mod h, Int.natCast_eq_zero]

theorem equivB_eq {p : ℕ} (hp : 0 < p) (P Q : T3N) : equivB p (toZ P) (toZ Q) = equivBN p P Q := by
  have h1 : (P.1 * Q.2.2 ^ 2 - Q.1 * P.2.2 ^ 2 : ℤ) % p = 0 ↔ _ :=
    emod_eq_zero_of_cast (v := P.1 * Q.2.2 ^ 2 + (p - Q.1 * P.2.2 ^ 2 % p)) (by simp [cast_sub_mod hp]; ring)
  have h2 : (P.2.1 * Q.2.2 ^ 3 - Q.2.1 * P.2.2 ^ 3 : ℤ) % p = 0 ↔ _ :=
    emod_eq_zero_of_cast (v := P.2.1 * Q.2.2 ^ 3 + (p - Q.2.1 * P.2.2 ^ 3 % p)) (by simp [cast_sub_mod hp]; ring)
  rw [Bool.eq_iff_iff]
  simp only [equivB, equivBN, toZ, Bool.and_eq_true, beq_iff_eq, Nat.beq_eq]
  exact and_congr h1 h2

theorem toZ_emod_eq_zero {p : ℕ} (t : T3N) : (toZ t).2.2 % (p : ℤ) = 0 ↔ Nat.mod t.2.2 p = 0 :=
  emod_eq_zero_of_cast (Int.cast_natCast _)

theorem add_eq {p : ℕ} (hp : 0 < p) (a : ℤ) (P Q : T3N) :
    add p a (toZ P) (toZ Q) = toZ (addN p (a % p).toNat P Q) := by
  simp only [add, addN, cond_eq_ite, Nat.beq_eq, apply_ite toZ, equivB_eq hp, dbl_eq hp, addNe_eq hp, toZ_emod_eq_zero]

theorem mulAux_eq {p : ℕ} (hp : 0 < p) (a : ℤ) (P : T3N) :
    ∀ fuel k, mulAux p a (toZ P) fuel k = toZ (mulAuxN p (a % p).toNat P fuel k)
  | 0, _ => by simp [mulAux, mulAuxN, toZ]
  | fuel + 1, k => by
    simp only [mulAux, mulAuxN, cond_eq_ite, Nat.beq_eq, apply_ite toZ, mulAux_eq hp a P fuel, dbl_eq hp, add_eq hp]
    rfl

theorem mulIsZero_eq {p : ℕ} (hp : 0 < p) (a : ℤ) (k x y : ℕ) :
    mulIsZero p a k x y = mulIsZeroN p (a % p).toNat k x y := by
  unfold mulIsZero mul mulIsZeroN
  rw [show ((x : ℤ), (y : ℤ), (1 : ℤ)) = toZ (x, y, 1) from rfl, mulAux_eq hp, Bool.eq_iff_iff, beq_iff_eq, beq_iff_eq]
  exact toZ_emod_eq_zero _


variable {p : ℕ} [hp : Fact p.Prime] {a b : ℤ}

/-- the triple is a nonsingular Jacobian representative (in MATHLIB's sense: only Z = 0 is the identity) of `g` -/
def Rep3 (p : ℕ) [Fact p.Prime] (a b : ℤ) (t : T3) (g : Grp (a : ZMod p) (b : ZMod p)) : Prop :=
  (shortW (a : ZMod p) (b : ZMod p)).Nonsingular (cast3 p t) ∧
    Point.toAffine (shortW (a : ZMod p) (b : ZMod p)) (cast3 p t) = g

theorem cast_dbl (t : T3) :
    cast3 p (dbl p a t) = dblF (a : ZMod p) (t.1 : ZMod p) (t.2.1 : ZMod p) (t.2.2 : ZMod p) := by
  simp only [cast3, dbl, dblF]
  push_cast [ZMod.intCast_mod]
  rfl

theorem cast_addNe (P Q : T3) :
    cast3 p (addNe p P Q) =
      addNeF (P.1 : ZMod p) (P.2.1 : ZMod p) (P.2.2 : ZMod p) (Q.1 : ZMod p) (Q.2.1 : ZMod p) (Q.2.2 : ZMod p) := by
  simp only [cast3, addNe, addNeF]
  push_cast [ZMod.intCast_mod]
  rfl

theorem rep3_zero : Rep3 p a b (1, 1, 0) 0 := by
  have : cast3 p (1, 1, 0) = ![1, 1, 0] := by simp [cast3]
  unfold Rep3; rw [this]
  exact ⟨nonsingular_zero, Point.toAffine_zero⟩

theorem rep3_smul_add {P Q R : T3} (nP : (shortW (a : ZMod p) (b : ZMod p)).Nonsingular (cast3 p P))
    (nQ : (shortW (a : ZMod p) (b : ZMod p)).Nonsingular (cast3 p Q)) {u : ZMod p} (hu : IsUnit u)
    (e : cast3 p R = u • (shortW (a : ZMod p) (b : ZMod p)).add (cast3 p P) (cast3 p Q)) :
    Rep3 p a b R (Point.toAffine _ (cast3 p P) + Point.toAffine _ (cast3 p Q)) := by
  unfold Rep3
  rw [e, nonsingular_smul _ hu, Point.toAffine_smul _ hu]
  exact ⟨nonsingular_add nP nQ, Point.toAffine_add nP nQ⟩

theorem dbl_rep_of_equiv {P Q : T3} (nP : (shortW (a : ZMod p) (b : ZMod p)).Nonsingular (cast3 p P))
    (nQ : (shortW (a : ZMod p) (b : ZMod p)).Nonsingular (cast3 p Q)) (heq : cast3 p P ≈ cast3 p Q) :
    Rep3 p a b (dbl p a P) (Point.toAffine _ (cast3 p P) + Point.toAffine _ (cast3 p Q)) :=
  rep3_smul_add nP nQ isUnit_one (by rw [cast_dbl, dblF_eq (b := (b : ZMod p)), add_of_equiv heq, one_smul]; rfl)

theorem dbl_rep {t : T3} {g} (h : Rep3 p a b t g) : Rep3 p a b (dbl p a t) (g + g) := by
  obtain ⟨nP, rfl⟩ := h
  exact dbl_rep_of_equiv nP nP (Setoid.refl _)

theorem emod_zero_iff (x : ℤ) : x % (p : ℤ) = 0 ↔ (x : ZMod p) = 0 := by
  rw [← fmod_eq_emod, fmod_eq_zero_iff]

theorem add_rep (hp2 : p ≠ 2) {P Q : T3} {g h} (hP : Rep3 p a b P g) (hQ : Rep3 p a b Q h) :
    Rep3 p a b (add p a P Q) (g + h) := by
  obtain ⟨nP, rfl⟩ := hP
  obtain ⟨nQ, rfl⟩ := hQ
  unfold add
  by_cases z1 : P.2.2 % (p : ℤ) = 0
  · rw [if_pos z1]
    have : (cast3 p P) 2 = 0 := (emod_zero_iff _).mp z1
    rw [Point.toAffine_of_Z_eq_zero this, zero_add]
    exact ⟨nQ, rfl⟩
  rw [if_neg z1]
  by_cases z2 : Q.2.2 % (p : ℤ) = 0
  · rw [if_pos z2]
    have : (cast3 p Q) 2 = 0 := (emod_zero_iff _).mp z2
    rw [Point.toAffine_of_Z_eq_zero this, add_zero]
    exact ⟨nP, rfl⟩
  rw [if_neg z2]
  have zP : (cast3 p P) 2 ≠ 0 := fun h0 => z1 ((emod_zero_iff _).mpr h0)
  have zQ : (cast3 p Q) 2 ≠ 0 := fun h0 => z2 ((emod_zero_iff _).mpr h0)
  have hcross : equivB p P Q = true ↔ cast3 p P ≈ cast3 p Q := by
    rw [equiv_iff_cross zP zQ]
    simp only [equivB, Bool.and_eq_true, beq_iff_eq, emod_zero_iff]
    simp only [cast3, Matrix.cons_val_zero, Matrix.cons_val_one, Matrix.cons_val_two, Matrix.head_cons,
      Matrix.tail_cons, Int.cast_sub, Int.cast_mul, Int.cast_pow, sub_eq_zero]
  by_cases he : equivB p P Q = true
  · rw [if_pos he]
    exact dbl_rep_of_equiv nP nQ (hcross.mp he)
  · rw [if_neg he]
    have hne : ¬ cast3 p P ≈ cast3 p Q := fun h0 => he (hcross.mpr h0)
    have hu : IsUnit (-2 * (P.2.2 : ZMod p) * (Q.2.2 : ZMod p)) :=
      IsUnit.mk0 _ (mul_ne_zero (mul_ne_zero (neg_ne_zero.mpr (two_ne_zero_of hp2)) zP) zQ)
    refine rep3_smul_add nP nQ hu ?_
    rw [cast_addNe, addNeF_eq_smul (a := (a : ZMod p)) (b := (b : ZMod p)) _ _ _ _ _ _
      ((nonsingular_iff _).mp nP).1 ((nonsingular_iff _).mp nQ).1, add_of_not_equiv hne]
    rfl

theorem mulAux_rep (hp2 : p ≠ 2) {P : T3} {g} (hP : Rep3 p a b P g) : ∀ (fuel k : ℕ), k < 2 ^ fuel →
    Rep3 p a b (mulAux p a P fuel k) (k • g)
  | 0, k, hk => by
    obtain rfl : k = 0 := by simpa using hk
    rw [zero_smul]; exact rep3_zero
  | f + 1, k, hk => by
    have hd := dbl_rep (mulAux_rep hp2 hP f (k / 2) (by rw [pow_succ] at hk; omega))
    have e : k • g = (k / 2) • g + (k / 2) • g + (k % 2) • g := by
      conv_lhs => rw [← Nat.div_add_mod k 2]
      rw [add_smul, mul_smul, two_smul]
    rw [mulAux]
    split_ifs with h0 hodd
    · rw [h0, zero_smul]; exact rep3_zero
    · rw [e, hodd, one_smul]; exact add_rep hp2 hd hP
    · rw [e, show k % 2 = 0 by omega, zero_smul, add_zero]; exact hd

theorem mulIsZero_sound (hp2 : p ≠ 2) (x y : ℤ)
    (hns : (shortW (a : ZMod p) (b : ZMod p)).toAffine.Nonsingular (x : ZMod p) (y : ZMod p)) (k : ℕ)
    (h : mulIsZero p a k x y = true) :
    k • (Affine.Point.some _ _ hns : Grp (a : ZMod p) (b : ZMod p)) = 0 := by
  have hc : cast3 p (x, y, 1) = ![(x : ZMod p), (y : ZMod p), 1] := by simp [cast3]
  have hns3 : (shortW (a : ZMod p) (b : ZMod p)).Nonsingular ![(x : ZMod p), (y : ZMod p), 1] :=
    (nonsingular_some _ _).mpr hns
  have hP : Rep3 p a b (x, y, 1) (Affine.Point.some _ _ hns) := by
    unfold Rep3; rw [hc]; exact ⟨hns3, Point.toAffine_some hns3⟩
  have hlt : k < 2 ^ (k.log2 + 1) := by
    rw [Nat.log2_eq_log_two]; exact Nat.lt_pow_succ_log_self (by decide) k
  obtain ⟨_, hval⟩ := mulAux_rep hp2 hP (k.log2 + 1) k hlt
  rw [← hval]
  apply Point.toAffine_of_Z_eq_zero
  simp only [mulIsZero, beq_iff_eq, mul] at h
  exact (emod_zero_iff _).mp h

end CertAff
