import Model.NumberTheory
import Proofs.NTInv
/-! the pre-3.8 fallback loop of `inverse_mod` (translated loop condition / body) agrees with the live variant (C15) -/
namespace NTProofs
open NT Gen.NT

theorem invFallbackLoop_spec (a m : Int) : ∀ (fuel : Nat) (lm low hm high : Int),
    0 ≤ low → low < high → low < fuel → 1 < high → m ∣ low - lm * a → m ∣ high - hm * a → Int.gcd low high = 1 →
    ∃ lm', invFallbackLoop fuel (lm, low, hm, high) = .ok lm' ∧ m ∣ 1 - lm' * a := by
  intro fuel
  induction fuel with
  | zero => intro lm low hm high h0 _ h2; simp at h2; omega
  | succ f ih =>
    intro lm low hm high h0 h1 h2 h3 h4 h5 h6
    rw [invFallbackLoop]
    simp only [inv_loop_cond, inv_loop_body, decide_eq_true_eq, gt_iff_lt]
    by_cases hc : 1 < low
    · have hlow : 0 < low := by omega
      have hmod : high - low * (high / low) = high % low := by
        have := Int.emod_add_mul_ediv high low; omega
      rw [if_pos hc, if_neg (by omega), Int.fdiv_eq_ediv_of_nonneg _ hlow.le, hmod]
      apply ih
      · exact Int.emod_nonneg _ hlow.ne'
      · exact Int.emod_lt_of_pos _ hlow
      · have := Int.emod_lt_of_pos high hlow; push_cast at h2; omega
      · exact hc
      · rw [mul_comm lm]; exact dvd_emod_sub h5 h4
      · exact h4
      · rw [Int.gcd_emod, Int.gcd_comm]; exact h6
    · -- `low ≤ 1` and `gcd(low, high) = 1` with `high > 1`: `low = 1`
      have hl1 : low = 1 := by
        rcases (show low = 0 ∨ low = 1 by omega) with h | h
        · rw [h, Int.gcd_zero_left] at h6; omega
        · exact h
      rw [if_neg hc]
      exact ⟨lm, rfl, hl1 ▸ h4⟩

theorem inverseModFallback_spec (a m : Int) (hm : 1 ≤ m) (hg : Int.gcd a m = 1) :
    ∃ i, inverseModFallback a m = .ok i ∧ 0 ≤ i ∧ i < m ∧ m ∣ a * i - 1 := by
  have hmpos : 0 < m := by omega
  rw [inverseModFallback]
  by_cases ha : a = 0
  · subst ha
    rw [eq_one_of_gcd_zero hm hg]
    exact ⟨0, rfl, le_refl _, by decide, by decide⟩
  · rw [if_neg ha, if_neg (by omega)]
    simp only [inv_init, inv_result, Int.fmod_eq_emod_of_nonneg _ hmpos.le]
    by_cases hm1 : m = 1
    · subst hm1
      exact ⟨0, by simp [invFallbackLoop, inv_loop_cond, bind, Except.bind], le_refl _, by decide, one_dvd _⟩
    · obtain ⟨lm', h1, h2⟩ := invFallbackLoop_spec a m (m.natAbs + 1) 1 (a % m) 0 m
        (Int.emod_nonneg _ hmpos.ne') (Int.emod_lt_of_pos _ hmpos)
        (by have := Int.emod_lt_of_pos a hmpos; omega) (by omega)
        ⟨-(a / m), by linear_combination Int.emod_add_mul_ediv a m⟩
        (by simp) (by rw [Int.gcd_emod]; exact hg)
      rw [h1]
      exact ⟨lm' % m, rfl, Int.emod_nonneg _ hmpos.ne', Int.emod_lt_of_pos _ hmpos, dvd_mul_emod_sub_one h2⟩

theorem inverse_unique (a m i j : Int) (hg : Int.gcd a m = 1) (hi0 : 0 ≤ i) (hi1 : i < m) (hj0 : 0 ≤ j) (hj1 : j < m)
    (hi : m ∣ a * i - 1) (hj : m ∣ a * j - 1) : i = j := by
  have h : m ∣ a * (i - j) := by
    rw [show a * (i - j) = (a * i - 1) - (a * j - 1) by ring]; exact Int.dvd_sub hi hj
  have h' : m ∣ i - j := Int.dvd_of_dvd_mul_right_of_gcd_one h (by rw [Int.gcd_comm]; exact hg)
  have := Int.emod_eq_emod_iff_emod_sub_eq_zero.mpr (Int.emod_eq_zero_of_dvd h')
  rwa [Int.emod_eq_of_lt hi0 hi1, Int.emod_eq_of_lt hj0 hj1] at this

end NTProofs
