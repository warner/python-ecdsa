import Generated.RandSlices
import Model.Rand
/-!
# Proofs.RandSource — the model makes the integer decisions of the source text

`Gen.Rand.*` (Generated/RandSlices.lean) is re-translated from `util.py` / `keys.py` on every run.  A generated test
is an indicator `if <test> then 1 else 0`.
-/
namespace Rand

/-- `util.bit_length` as a function on Python integers (only used on `x ≥ 0`) -/
def bitLengthInt (x : Int) : Int := (bitLength1 x.toNat : Nat)

theorem ind_eq_one {b : Bool} : (if b then (1 : Int) else 0) = 1 ↔ b = true := by
  cases b <;> decide

theorem ite_iff {α : Type} {p q : Prop} [Decidable p] [Decidable q] (h : p ↔ q) (a b : α) :
    (if p then a else b) = if q then a else b := by
  by_cases hp : p
  · rw [if_pos hp, if_pos (h.1 hp)]
  · rw [if_neg hp, if_neg (mt h.2 hp)]

theorem src_precondition (order : Int) : (order > 1) ↔ Gen.Rand.randrange_precondition order = 1 := by
  unfold Gen.Rand.randrange_precondition
  rw [ind_eq_one, decide_eq_true_eq]

theorem src_accept (r : Nat) (order : Int) :
    (0 < r + 1 ∧ ((r + 1 : Nat) : Int) < order) ↔ Gen.Rand.randrange_accept (Gen.Rand.randrange_rand_num r) order = 1 := by
  unfold Gen.Rand.randrange_accept Gen.Rand.randrange_rand_num
  rw [ind_eq_one, Bool.and_eq_true, decide_eq_true_eq, decide_eq_true_eq]
  omega

/-- the three range tests `1 <= x < order` (`trytryagain`, `overshoot_modulo`, `sign_number`) are the same generated text -/
theorem src_in_range (k order : Int) : (1 ≤ k ∧ k < order) ↔ Gen.Rand.sign_number_assert k order = 1 := by
  unfold Gen.Rand.sign_number_assert
  rw [ind_eq_one, Bool.and_eq_true, decide_eq_true_eq, decide_eq_true_eq]

end Rand
