import Model.NumberTheory
import Proofs.NTGcd
import Proofs.NTTable
import Proofs.NTPrime
import Proofs.NTNext
import Proofs.NTFact
import Proofs.NTReview
import Proofs.NTGuards
import Proofs.NTSmallExact
/-!
# C16 — primality, next prime, factorisation, gcd, lcm match their definitions

The model is `Model/NumberTheory.lean` (`NT.*`), built over the definitions regenerated from
`src/ecdsa/numbertheory.py` on every run (`Gen.NT.smallprimes`, the Miller–Rabin round table and tests, `lcm2`).
`lg : Int → Int` stands for `int(math.log(n, 2))` (float-derived): the theorems hold for every `lg`, except where a hypothesis
`hlg` bounds what it may report (the `_partial` statements under ψ₁₂ need at least 12 rounds, i.e. fewer than 300 bits reported).
-/
namespace C16
open NT NTProofs

/-! ## the table -/

/-- the generated `smallprimes` table is exactly the strictly ascending list of all primes ≤ 1229 -/
theorem smallprimes_exact :
    (∀ n : Int, n ∈ Gen.NT.smallprimes ↔ 0 ≤ n ∧ n.toNat.Prime ∧ n ≤ 1229) ∧
    Gen.NT.smallprimes.Pairwise (· < ·) ∧ Gen.NT.smallprimes.getLast? = some 1229 :=
  ⟨mem_smallprimes, smallprimes_sorted, smallprimes_getLast⟩

/-- non-vacuity: 1229 is in the table, 1227 = 3·409 is not -/
example : (1229 : Int) ∈ Gen.NT.smallprimes ∧ (1227 : Int) ∉ Gen.NT.smallprimes := by decide +kernel

/-- `is_prime` is exact for every integer up to the end of the table — in particular it answers `False` for
everything below 2 — whatever the float-derived `lg` is -/
theorem is_prime_exact_small (lg : Int → Int) (n : Int) (hn : n ≤ 1229) :
    ∃ b, isPrime lg n = .ok b ∧ (b = true ↔ 0 ≤ n ∧ n.toNat.Prime) :=
  isPrime_exact_small lg n hn

theorem is_prime_false_below_two (lg : Int → Int) (n : Int) (hn : n < 2) : isPrime lg n = .ok false := by
  obtain ⟨b, hb, hiff⟩ := is_prime_exact_small lg n (by omega)
  rw [hb]
  cases b with
  | false => rfl
  | true =>
    have := (hiff.mp rfl)
    have h2 := this.2.two_le
    omega

example : isPrime (fun _ => 0) 1223 = .ok true ∧ isPrime (fun _ => 0) 1227 = .ok false ∧ isPrime (fun _ => 0) (-7) = .ok false := by
  decide +kernel

/-! ## Miller–Rabin part -/

/-- `is_prime` returns a boolean for every integer: none of `IndexError` (`smallprimes[i]`, `smallprimes[-1]`) or the
loop budget is reachable -/
theorem is_prime_total (lg : Int → Int) (n : Int) : ∃ b, isPrime lg n = .ok b := isPrime_total' lg n

/-- **`is_prime` never rejects a prime**, of any size, for every round count the table can choose and every value of
the float-derived `lg` (Fermat + "x² = 1 ⇒ x = ±1" in the field `ZMod n`; the gcd pre-filter cannot reject a prime
above 1229) -/
theorem is_prime_complete (lg : Int → Int) (n : Nat) (hp : n.Prime) : isPrime lg n = .ok true :=
  isPrime_complete lg n hp

/-- `NTProofs.SPRP n a`: `n − 1 = 2^s·r`, `r` odd, and `a^r ≡ 1` or `a^(2^j·r) ≡ −1 (mod n)` for some `j < s`.
`True` above the table means: no factor 2, 3, 5, 7, 11 and a strong probable prime to each of the first `t` primes,
`t` = the round count chosen from the bit-length table (between 2 and 40) -/
theorem is_prime_true_is_sprp (lg : Int → Int) (n : Nat) (h : 1229 < n) (ht : isPrime lg n = .ok true) :
    Nat.gcd n 2310 = 1 ∧ (∀ a ∈ Gen.NT.smallprimes.take (mrRounds (Gen.NT.mr_n_bits (lg n))).toNat, SPRP n a) ∧
    2 ≤ (mrRounds (Gen.NT.mr_n_bits (lg n))).toNat ∧ (mrRounds (Gen.NT.mr_n_bits (lg n))).toNat ≤ 40 := by
  obtain ⟨h1, h2⟩ := isPrime_true_sprp lg n h ht
  have := mrRounds_range (Gen.NT.mr_n_bits (lg n))
  exact ⟨h1, h2, by omega, by omega⟩

/-- the first 12 bases are the primes 2 … 37 -/
example : Gen.NT.smallprimes.take 12 = [2, 3, 5, 7, 11, 13, 17, 19, 23, 29, 31, 37] := by decide +kernel

/-- **PARTIAL — exactness below 2^64.**  Full statement wanted: for every `n < 2^64`, `is_prime(n) ⇔ n prime`.
Proved here under two explicit hypotheses (NOT axioms):
* `ψ` — no composite `1229 < m < 2^64` is a strong probable prime to all of the first 12 prime bases.  This is the
  cited computational result ψ₁₂ = 318665857834031151167461 > 2^64 (Sorenson–Webster 2015, "Strong pseudoprimes to
  twelve prime bases"); it cannot be re-derived by kernel evaluation (≈ 40 integers/s, DESIGN.md C16);
* `hlg` — the float-derived `int(math.log(n, 2))` is below 299 for `n < 2^64` (true value ≤ 63), so that the round
  table yields at least 12 rounds (it yields 40 when `lg n < 99`).
What is missing for the unconditional statement is exactly `ψ`. -/
theorem is_prime_exact_below_bound_partial (B : Nat) (lg : Int → Int)
    (ψ : ∀ m : Nat, 1229 < m → m < B → (∀ a ∈ Gen.NT.smallprimes.take 12, SPRP m a) → m.Prime)
    (hlg : ∀ n : Int, 1229 < n → n < B → lg n < 299)
    (n : Int) (hn : n < B) :
    ∃ b, isPrime lg n = .ok b ∧ (b = true ↔ 0 ≤ n ∧ n.toNat.Prime) :=
  isPrime_exact_of_psi lg B 12 (fun m h1 h2 _ => ψ m h1 h2) n hn fun h => by
    have := mrRounds_ge_12 (Gen.NT.mr_n_bits (lg n)) (by have := hlg n h hn; simp only [Gen.NT.mr_n_bits]; omega)
    omega

/-- the instance `B = 2⁶⁴` (ψ₁₂ > 2⁶⁴, Sorenson–Webster) -/
theorem is_prime_exact_below_2_64_partial (lg : Int → Int)
    (ψ : ∀ m : Nat, 1229 < m → m < 2 ^ 64 → (∀ a ∈ Gen.NT.smallprimes.take 12, SPRP m a) → m.Prime)
    (hlg : ∀ n : Int, 1229 < n → n < 2 ^ 64 → lg n < 299)
    (n : Int) (hn : n < 2 ^ 64) :
    ∃ b, isPrime lg n = .ok b ∧ (b = true ↔ 0 ≤ n ∧ n.toNat.Prime) :=
  is_prime_exact_below_bound_partial (2 ^ 64) lg ψ (by exact_mod_cast hlg) n (by exact_mod_cast hn)

/-- **exact below 65536 = 2¹⁶, UNCONDITIONALLY** (`NTSmall.isPrime_exact_below_65536`): bases 2 and 3 are always among the
rounds run, and no composite below 2¹⁶ without a factor 2, 3, 5, 7, 11 is a strong probable prime to both — a finite fact the
kernel checks by a sweep over the composites `q·c`, `13 ≤ q ≤ c` (`NTSmall.psi2`).  So no ψ is needed on this range, and the
conclusion holds for every `lg`: the hypothesis `hlg` (fewer than 100 bits reported) is superfluous.  The property asks for 2⁶⁴;
everything above 2¹⁶ still rests on ψ₁₂ > 2⁶⁴ (`is_prime_exact_below_2_64_partial`). -/
theorem is_prime_exact_below_65536 (lg : Int → Int) (n : Int) (hn : n < 65536) (hlg : lg n < 99) :
    ∃ b, isPrime lg n = .ok b ∧ (b = true ↔ 0 ≤ n ∧ n.toNat.Prime) :=
  NTSmall.isPrime_exact_below_65536 lg n hn

theorem is_prime_exact_below_4096 (lg : Int → Int) (n : Int) (hn : n < 4096) (hlg : lg n < 99) :
    ∃ b, isPrime lg n = .ok b ∧ (b = true ↔ 0 ≤ n ∧ n.toNat.Prime) :=
  NTSmall.isPrime_exact_below_65536 lg n (by omega)

/-- non-vacuity of `hlg`: the exact ⌊log₂ n⌋ satisfies it -/
example : ∀ n : Int, 1229 < n → n < 2 ^ 64 → (fun n : Int => ((n.toNat.log2 : Nat) : Int)) n < 299 := by
  intro n h1 h2
  have : n.toNat.log2 < 64 := by
    apply (Nat.log2_lt (by omega)).mpr
    omega
  simp only; omega

/-- non-vacuity of the Miller–Rabin theorems: a prime and a strong pseudoprime to base 2 above the table, a Carmichael
number; `lg` = exact ⌊log₂⌋ -/
example : isPrime (fun n => n.toNat.log2) 1231 = .ok true ∧ isPrime (fun n => n.toNat.log2) 2047 = .ok false ∧
    isPrime (fun n => n.toNat.log2) 1373653 = .ok false ∧ isPrime (fun n => n.toNat.log2) 8911 = .ok false ∧
    isPrime (fun n => n.toNat.log2) 2305843009213693951 = .ok true := by decide +kernel

/-! ## next_prime -/

/-- `next_prime(n)` for every `n` and every `lg`: it terminates (Bertrand's postulate bounds the scan), returns 2 below
2, otherwise a value `r > n` that `is_prime` accepts, and **no prime is skipped**: there is no prime strictly between
`n` and `r` (unconditional, by `is_prime_complete`) -/
theorem next_prime_no_prime_skipped (lg : Int → Int) (n : Int) :
    (n < 2 → nextPrime lg n = .ok 2) ∧
    (2 ≤ n → ∃ r : Nat, nextPrime lg n = .ok (r : Int) ∧ n < r ∧ isPrime lg r = .ok true ∧
      ∀ q : Nat, n < q → q < r → ¬ q.Prime) := by
  refine ⟨nextPrime_small lg n, fun h => ?_⟩
  obtain ⟨N, rfl⟩ : ∃ N : Nat, n = N := ⟨n.toNat, by omega⟩
  obtain ⟨r, h1, h2, h3, h4⟩ := nextPrime_spec lg N (by omega)
  exact ⟨r, h1, by exact_mod_cast h2, h3, fun q hq => h4 q (by exact_mod_cast hq)⟩

/-- **PARTIAL — `next_prime(n)` is the smallest prime greater than `n`.**  Proved under the hypothesis that `is_prime`
is sound at the returned value (`hsound`; below 2^64 this follows from `is_prime_exact_below_2_64_partial`, i.e. from ψ).
Missing for the unconditional statement: soundness of the fixed-base Miller–Rabin test at the returned value. -/
theorem next_prime_minimal_partial (lg : Int → Int) (n : Int)
    (hsound : ∀ r : Nat, nextPrime lg n = .ok (r : Int) → isPrime lg r = .ok true → r.Prime) :
    ∃ r : Nat, nextPrime lg n = .ok (r : Int) ∧ r.Prime ∧ n < r ∧ ∀ q : Nat, q.Prime → n < q → r ≤ q := by
  by_cases h : n < 2
  · refine ⟨2, (next_prime_no_prime_skipped lg n).1 h, Nat.prime_two, by omega, fun q hq _ => hq.two_le⟩
  · obtain ⟨r, h1, h2, h3, h4⟩ := (next_prime_no_prime_skipped lg n).2 (by omega)
    refine ⟨r, h1, hsound r h1 h3, h2, fun q hq hnq => ?_⟩
    by_contra hlt
    exact h4 q hnq (by omega) hq

/-- non-vacuity of `hsound`: at `n = 1229` the returned value is 1231, which is prime -/
example : ∀ r : Nat, nextPrime (fun n => n.toNat.log2) 1229 = .ok (r : Int) →
    isPrime (fun n => n.toNat.log2) r = .ok true → r.Prime := by
  intro r hr _
  have h : nextPrime (fun n => n.toNat.log2) 1229 = .ok 1231 := by decide +kernel
  rw [h] at hr
  have : (r : Int) = 1231 := by injection hr with h'; exact h'.symm
  have : r = 1231 := by omega
  subst this; norm_num

theorem prime_of_exact {lg : Int → Int} {m : Int}
    (h : ∃ b, isPrime lg m = .ok b ∧ (b = true ↔ 0 ≤ m ∧ m.toNat.Prime)) (hp : isPrime lg m = .ok true) :
    m.toNat.Prime := by
  obtain ⟨b, hb, hiff⟩ := h
  rw [hp] at hb; cases hb
  exact (hiff.mp rfl).2

/-- wherever `is_prime` is exact below `B`, `next_prime(n)` is the smallest prime greater than `n` as long as `2(n + 2) < B`:
the scan stops at or before `2(n + 2)` (Bertrand's postulate, `nextPrime_spec_bound`) -/
theorem next_prime_minimal_of_exact (lg : Int → Int) (B : Int)
    (hex : ∀ m : Int, m < B → ∃ b, isPrime lg m = .ok b ∧ (b = true ↔ 0 ≤ m ∧ m.toNat.Prime))
    (n : Int) (hn : 2 * (n + 2) < B) :
    ∃ r : Nat, nextPrime lg n = .ok (r : Int) ∧ r.Prime ∧ n < r ∧ ∀ q : Nat, q.Prime → n < q → r ≤ q :=
  next_prime_minimal_partial lg n fun r hr hp => by
    by_cases h2 : n < 2
    · rw [(next_prime_no_prime_skipped lg n).1 h2] at hr
      injection hr with hr
      obtain rfl : r = 2 := by omega
      exact Nat.prime_two
    · obtain ⟨N, rfl⟩ : ∃ N : Nat, n = N := ⟨n.toNat, by omega⟩
      obtain ⟨r', h1, _, hle, _⟩ := nextPrime_spec_bound lg N (by omega)
      rw [h1] at hr
      injection hr with hr
      obtain rfl : r = r' := by omega
      simpa using prime_of_exact (hex r (by omega)) hp

/-- `next_prime(n)` is the smallest prime greater than `n` **under ψ**, for every `n < 2⁶²` (then the result is below 2⁶⁴ by
Bertrand's postulate, where `is_prime` is exact under ψ) -/
theorem next_prime_minimal_below_2_62_partial (lg : Int → Int)
    (ψ : ∀ m : Nat, 1229 < m → m < 2 ^ 64 → (∀ a ∈ Gen.NT.smallprimes.take 12, SPRP m a) → m.Prime)
    (hlg : ∀ n : Int, 1229 < n → n < 2 ^ 64 → lg n < 299) (n : Int) (hn : n < 2 ^ 62) :
    ∃ r : Nat, nextPrime lg n = .ok (r : Int) ∧ r.Prime ∧ n < r ∧ ∀ q : Nat, q.Prime → n < q → r ≤ q :=
  next_prime_minimal_of_exact lg (2 ^ 64) (is_prime_exact_below_2_64_partial lg ψ hlg) n (by omega)

/-- for `n < 32760` minimality holds unconditionally: the result is below 2¹⁶, where `is_prime` is exact
(`is_prime_exact_below_65536`) — `next_prime(n)` IS the smallest prime greater than `n` -/
theorem next_prime_minimal_below_32760 (lg : Int → Int) (hlg : ∀ m : Int, lg m < 99) (n : Int) (hn : n < 32760) :
    ∃ r : Nat, nextPrime lg n = .ok (r : Int) ∧ r.Prime ∧ n < r ∧ ∀ q : Nat, q.Prime → n < q → r ≤ q :=
  next_prime_minimal_of_exact lg 65536 (NTSmall.isPrime_exact_below_65536 lg) n (by omega)

theorem next_prime_minimal_small (lg : Int → Int) (hlg : ∀ m : Int, lg m < 99) (n : Int) (hn : n < 2040) :
    ∃ r : Nat, nextPrime lg n = .ok (r : Int) ∧ r.Prime ∧ n < r ∧ ∀ q : Nat, q.Prime → n < q → r ≤ q :=
  next_prime_minimal_below_32760 lg hlg n (by omega)

example : nextPrime (fun n => n.toNat.log2) 1229 = .ok 1231 ∧ nextPrime (fun n => n.toNat.log2) (-5) = .ok 2 ∧
    nextPrime (fun n => n.toNat.log2) 2046 = .ok 2053 := by decide +kernel

/-! ## factorization -/

/-- `factorization(n)` for every integer `n` and every `lg`: `[]` below 2; otherwise `[(p₁,e₁),…]` with `∏ pᵢ^eᵢ = n`,
strictly ascending bases `≥ 2`, exponents `≥ 1`, and every base prime **unconditionally** (least-divisor argument for the
small-prime loop, the odd-divisor loop and its leftover) — except the single last entry `(n', 1)`, `n' > 1229`, appended
by the shortcut `if is_prime(n): result.append((n, 1))`, which is as prime as `is_prime` says (second disjunct). -/
theorem factorization_spec (lg : Int → Int) (n : Int) :
    (n < 2 → factorization lg n = .ok []) ∧
    (2 ≤ n → ∃ fs, factorization lg n = .ok fs ∧
        (fs.map (fun f => f.1 ^ f.2.toNat)).prod = n ∧
        (fs.map Prod.fst).Pairwise (· < ·) ∧
        (∀ f ∈ fs, 1 ≤ f.2) ∧
        (∀ f ∈ fs, 2 ≤ f.1) ∧
        (∀ f ∈ fs, f.1.toNat.Prime ∨
          (1229 < f.1 ∧ f.2 = 1 ∧ isPrime lg f.1 = .ok true ∧ f = fs.getLast?.getD f))) :=
  NTProofs.factorization_spec lg n

/-- every base is prime as soon as `is_prime` is sound **on the numbers up to `n`** (it is only ever applied to one cofactor
`≤ n`).  This hypothesis is satisfiable: below 2⁶⁴ it follows from ψ (`factorization_all_prime_below_2_64_partial`), below
2¹⁶ it holds outright (`factorization_all_prime_below_65536`).  (An unbounded `∀ m` version would be vacuous: for every `lg` some
strong pseudoprime to the finitely many bases exists.) -/
theorem factorization_all_prime (lg : Int → Int) (n : Int) (hn : 2 ≤ n)
    (hsound : ∀ m, 1229 < m → m ≤ n → isPrime lg m = .ok true → m.toNat.Prime) :
    ∃ fs, factorization lg n = .ok fs ∧ ∀ f ∈ fs, f.1.toNat.Prime := by
  obtain ⟨fs, h1, _, _, _, _, h6⟩ := NTProofs.factorization_all_prime_bounded lg n hn hsound
  exact ⟨fs, h1, h6⟩

/-- wherever `is_prime` is exact below `B`, the list returned for `2 ≤ n < B` is THE prime factorisation — product `n`,
strictly ascending bases, exponents ≥ 1, every base prime (the cofactor shortcut is the only place `is_prime` is asked) -/
theorem factorization_all_prime_of_exact (lg : Int → Int) (B : Int)
    (hex : ∀ m : Int, m < B → ∃ b, isPrime lg m = .ok b ∧ (b = true ↔ 0 ≤ m ∧ m.toNat.Prime))
    (n : Int) (hn : 2 ≤ n) (hn' : n < B) :
    ∃ fs, factorization lg n = .ok fs ∧ (fs.map (fun f => f.1 ^ f.2.toNat)).prod = n ∧
      (fs.map Prod.fst).Pairwise (· < ·) ∧ (∀ f ∈ fs, 1 ≤ f.2) ∧ ∀ f ∈ fs, f.1.toNat.Prime := by
  obtain ⟨fs, h1, h2, h3, h4, _, h6⟩ := NTProofs.factorization_all_prime_bounded lg n hn
    fun m _ hmn hp => prime_of_exact (hex m (by omega)) hp
  exact ⟨fs, h1, h2, h3, h4, h6⟩

/-- below 2¹⁶ the factorisation is THE prime factorisation, unconditionally -/
theorem factorization_all_prime_below_65536 (lg : Int → Int) (hlg : ∀ m : Int, lg m < 99) (n : Int) (hn : 2 ≤ n) (hn' : n < 65536) :
    ∃ fs, factorization lg n = .ok fs ∧ (fs.map (fun f => f.1 ^ f.2.toNat)).prod = n ∧
      (fs.map Prod.fst).Pairwise (· < ·) ∧ (∀ f ∈ fs, 1 ≤ f.2) ∧ ∀ f ∈ fs, f.1.toNat.Prime :=
  factorization_all_prime_of_exact lg 65536 (NTSmall.isPrime_exact_below_65536 lg) n hn hn'

theorem factorization_all_prime_small (lg : Int → Int) (hlg : ∀ m : Int, lg m < 99) (n : Int) (hn : 2 ≤ n) (hn' : n < 4096) :
    ∃ fs, factorization lg n = .ok fs ∧ (fs.map (fun f => f.1 ^ f.2.toNat)).prod = n ∧
      (fs.map Prod.fst).Pairwise (· < ·) ∧ (∀ f ∈ fs, 1 ≤ f.2) ∧ ∀ f ∈ fs, f.1.toNat.Prime :=
  factorization_all_prime_below_65536 lg hlg n hn (by omega)

/-- the instance `B = 2⁶⁴` of the property's own range: from ψ₁₂ > 2⁶⁴ (the cited computation, the only hypothesis besides the
reading of `math.log`) the list returned for every 2 ≤ n < 2⁶⁴ is THE prime factorisation — product n, strictly ascending
bases, exponents ≥ 1, every base prime -/
theorem factorization_all_prime_below_2_64_partial (lg : Int → Int)
    (ψ : ∀ m : Nat, 1229 < m → m < 2 ^ 64 → (∀ a ∈ Gen.NT.smallprimes.take 12, SPRP m a) → m.Prime)
    (hlg : ∀ n : Int, 1229 < n → n < 2 ^ 64 → lg n < 299)
    (n : Int) (hn : 2 ≤ n) (hn' : n < 2 ^ 64) :
    ∃ fs, factorization lg n = .ok fs ∧ (fs.map (fun f => f.1 ^ f.2.toNat)).prod = n ∧
      (fs.map Prod.fst).Pairwise (· < ·) ∧ (∀ f ∈ fs, 1 ≤ f.2) ∧ ∀ f ∈ fs, f.1.toNat.Prime :=
  factorization_all_prime_of_exact lg (2 ^ 64) (is_prime_exact_below_2_64_partial lg ψ hlg) n hn hn'

example : factorization (fun _ => 0) 360 = .ok [(2, 3), (3, 2), (5, 1)] ∧
    factorization (fun _ => 0) (1231 * 1231) = .ok [(1231, 2)] ∧
    factorization (fun _ => 20) (2 * 1231 * 1237) = .ok [(2, 1), (1231, 1), (1237, 1)] ∧
    factorization (fun _ => 10) (4 * 1231) = .ok [(2, 2), (1231, 1)] ∧ factorization (fun _ => 0) (-7) = .ok [] := by
  decide +kernel

/-! ## gcd / lcm: any number (≥ 1) of natural arguments, both calling conventions -/

/-- `gcd(x, y, …)` and `gcd([x, y, …])` both return a common divisor that every common divisor divides -/
theorem gcd_spec (l : List Nat) (hl : l ≠ []) :
    ∃ g : Nat, NT.gcd (.sep (l.map Nat.cast)) = .ok (g : Int) ∧ NT.gcd (.iter (l.map Nat.cast)) = .ok (g : Int) ∧
      (∀ x ∈ l, g ∣ x) ∧ (∀ d : Nat, (∀ x ∈ l, d ∣ x) → d ∣ g) :=
  ⟨gcdList l, (gcd_both l hl).1, (gcd_both l hl).2, gcdList_dvd l, dvd_gcdList l⟩

/-- `lcm(x, y, …)` and `lcm([x, y, …])` both return a common multiple that divides every common multiple
(after fix F8: 0 as soon as an argument is 0 — the only common multiple) -/
theorem lcm_spec (l : List Nat) (hl : l ≠ []) :
    ∃ m : Nat, NT.lcm (.sep (l.map Nat.cast)) = .ok (m : Int) ∧ NT.lcm (.iter (l.map Nat.cast)) = .ok (m : Int) ∧
      (∀ x ∈ l, x ∣ m) ∧ (∀ c : Nat, (∀ x ∈ l, x ∣ c) → m ∣ c) :=
  ⟨lcmList l, (lcm_both l hl).1, (lcm_both l hl).2, dvd_lcmList l, lcmList_dvd l⟩

/-- **arbitrary INTEGER arguments** (the quantifier of the property says "integer tuples"; the specification above is
claimed on ℕ because "greatest"/"least" fix no sign — DESIGN §2): what the code returns.  `gcd2 = math.gcd` is the gcd of
the absolute values (non-negative); `lcm2(a, b)` is 0 if an argument is 0, else `(a·b) // gcd(a, b)`: magnitude
`lcm(|a|, |b|)`, sign of `a·b` (so it can be negative); with ≥ 2 arguments `gcd` folds `gcd2` (result ≥ 0) and a single
argument is returned unchanged (possibly negative) -/
theorem gcd_lcm_int_behaviour (a b : Int) (l : List Int) (x : Int) :
    gcd2 a b = (Nat.gcd a.natAbs b.natAbs : Nat) ∧
    (∃ v : Int, NT.lcm2 a b = .ok v ∧ v.natAbs = Nat.lcm a.natAbs b.natAbs ∧ (0 < a * b → 0 < v) ∧ (a * b < 0 → v < 0) ∧
      (a * b = 0 → v = 0)) ∧
    NT.gcd (.sep [x]) = .ok x ∧ NT.lcm (.sep [x]) = .ok x ∧ NT.gcd (.iter [x]) = .ok x ∧
    NT.gcd (.sep (a :: b :: l)) = .ok ((b :: l).foldl gcd2 a) ∧ 0 ≤ (b :: l).foldl gcd2 a := by
  refine ⟨rfl, lcm2_int a b, rfl, rfl, rfl, rfl, ?_⟩
  have : ∀ (l : List Int) (y : Int), 0 ≤ y → 0 ≤ l.foldl gcd2 y := by
    intro l
    induction l with
    | nil => intro y hy; exact hy
    | cons c t ih => intro y _; exact ih _ (Int.natCast_nonneg _)
  exact this l (gcd2 a b) (Int.natCast_nonneg _)

example : NT.gcd (.sep [-4, 6]) = .ok 2 ∧ NT.lcm (.sep [-4, 6]) = .ok (-12) ∧ NT.lcm (.sep [-4, -6]) = .ok 12 ∧
    NT.gcd (.sep [-4]) = .ok (-4) := by decide +kernel

/-- the calls with no argument / an empty iterable fail as in Python (`a[0]` on `()`, `reduce` of an empty sequence) -/
theorem gcd_lcm_empty :
    NT.gcd (.sep []) = .error .indexError ∧ NT.gcd (.iter []) = .error .typeError ∧
    NT.lcm (.sep []) = .error .indexError ∧ NT.lcm (.iter []) = .error .typeError := by
  simp [NT.gcd, NT.lcm, dispatch, reduce1, reduce1E]

/-- non-vacuity, including the F8 witness `lcm(0, 0) = 0` -/
example : NT.gcd (.sep [12, 18, 8]) = .ok 2 ∧ NT.lcm (.iter [4, 6, 10]) = .ok 60 ∧ NT.lcm (.sep [0, 0]) = .ok 0 ∧
    NT.lcm (.sep [0, 5]) = .ok 0 := by decide +kernel

/-! ## guard ties (translator `gen_rest.py`, `Generated/RestGuards.lean`) -/

/-- `is_prime`: the tests and expressions the model is built from (`gen_nt.py`) are the guards `gen_rest.py` extracts
independently from the source on every run -/
theorem is_prime_guard_tie (y n j s r g lg : Int) :
    Gen.NT.mr_enter y n = Gen.Rest.numbertheory_is_prime_if4 y n ∧
    Gen.NT.mr_loop_cond j s y n = Gen.Rest.numbertheory_is_prime_while1 j s y n ∧
    Gen.NT.mr_final_fail y n = Gen.Rest.numbertheory_is_prime_if6 y n ∧
    Gen.NT.mr_gcd_const = Gen.Rest.numbertheory_is_prime_e1 ∧
    Gen.NT.mr_n_bits lg = Gen.Rest.numbertheory_is_prime_let2 lg ∧
    (decide (g ≠ 1) = Gen.Rest.numbertheory_is_prime_if2 g) ∧
    (n - 1 = Gen.Rest.numbertheory_is_prime_let5 n) ∧
    (decide (pmod r 2 = 0) = Gen.Rest.numbertheory_is_prime_while0 r) ∧
    (s + 1 = Gen.Rest.numbertheory_is_prime_let6 s) ∧ (pdiv r 2 = Gen.Rest.numbertheory_is_prime_let7 r) ∧
    (decide (y = 1) = Gen.Rest.numbertheory_is_prime_if5 y) ∧ (j + 1 = Gen.Rest.numbertheory_is_prime_let13 j) :=
  NTGuards.is_prime_guard_tie y n j s r g lg

/-- `factorization` (and the deprecated helpers): the models' tests are the generated guards -/
theorem factorization_guard_tie (lg : Int → Int) (n count : Int) :
    (factorization lg n = if Gen.Rest.numbertheory_factorization_if0 n then .ok [] else factorization lg n) ∧
    (count + 1 = Gen.Rest.numbertheory_factorization_let5 count) ∧
    (count + 1 = Gen.Rest.numbertheory_factorization_let13 count) ∧
    (decide (n > 1) = Gen.Rest.numbertheory_factorization_if9 n) :=
  ⟨(NTGuards.models_use_guards lg n 0 0 0 0).1, rfl, rfl, rfl⟩

end C16
