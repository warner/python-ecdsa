import Proofs.UncondBase
import Props.C09
/-!
# UncondC09 — C09: key serialisation round trips on the named curves with NO primality hypothesis

For every curve of `NamedPrimes.unconditionalCurves` (all 17 curves of the table: p and n carry kernel-checked Pocklington certificates, the
order of the base point is checked by kernel evaluation) the headline statements of C09 hold without any hypothesis about the
curve, except `#E(𝔽_p) = n` where stated.
-/
namespace UncondC09
open Uncond Named NamedPrimes Ecdsa GroupInterface Jac
open Keys KeysP Asn1Spec
variable {r : Gen.CurveRow}

/-- every d ∈ [1, n−1] × every point encoding × both private formats × raw string, DER, PEM: the key pair exists, its public
point is valid, and every serialisation of both keys loads back to the same key -/
theorem all_round_trips (hr : r ∈ unconditionalCurves) (d : Nat) (h1 : 1 ≤ d) (h2 : d < r.n) :
    ∃ k : SK, SK.fromSecretExponent KeysWire.modelExt r d = .ok k ∧ k.curve = r ∧ k.d = d ∧ k.vk.curve = r ∧
      ValidPoint KeysWire.modelExt r k.vk.x k.vk.y ∧
      (∃ bs, k.toString = .ok bs ∧ SK.fromString KeysWire.modelExt r bs = .ok k) ∧
      (∀ enc, ∃ bs, k.vk.toString enc = .ok bs ∧ VK.fromString KeysWire.modelExt r bs true = .ok k.vk) ∧
      (∀ enc, enc ≠ .raw →
        (∃ bs, k.vk.toDer enc = .ok bs ∧ VK.fromDer KeysWire.modelExt bs = .ok k.vk ∧
          ∃ pem, k.vk.toPem enc = .ok pem ∧ VK.fromPem KeysWire.modelExt pem = .ok k.vk) ∧
        (∀ fmt, ∃ bs, k.toDer enc fmt = .ok bs ∧ SK.fromDer KeysWire.modelExt bs = .ok k ∧
          ∃ pem, k.toPem enc fmt = .ok pem ∧ SK.fromPem KeysWire.modelExt pem = .ok k)) :=
  C09.all_round_trips_model r (mem_table hr) (primeP hr) (primeN hr) d h1 h2

end UncondC09
