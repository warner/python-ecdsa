import Proofs.KeysPem
import Proofs.KeysInstPub
import Proofs.KeysEcdh
import Props.C12
import Props.C02
/-!
# C10 — decoders of external data fail only with their documented exceptions (key loaders)

`f_total : ∀ bs, f bs = ok _ ∨ (f bs = error e ∧ e ∈ documented f)`; termination is the totality of the Lean
definitions (structural recursion, no fuel).  Documented for the key loaders: `UnexpectedDER`,
`MalformedPointError`, `UnknownCurveError`.

The signature decoders, verification through each decoder and the ECDH loaders are composed below from `Props/C12`
(`sigdecode_*_errors`), `Props/C02` (`verify_digest_outcomes*`) and `Model/Ecdh.lean` with its key constructors
instantiated by the Keys model (`Proofs/KeysEcdh.lean`).
-/
namespace C10
open Keys KeysP

theorem documented_iff (e : PyErr) : Documented e ↔ (e = .unexpectedDER ∨ e = .malformedPoint ∨ e = .unknownCurve) :=
  Iff.rfl

/-- hypotheses on the external functions, for every curve of the generated table: `square_root_mod_prime` returns a
root or raises `SquareRootError` (C15); `d·G` has reduced coordinates for `1 ≤ d < n` (C07).  Only the first is used:
since F14 the private-key loaders fail only with documented errors whatever `d·G` is (`sk_loaders_total_unconditional`),
so the second conjunct, and `hpub` of `sk_from_string_total`, are hypotheses the proofs below do not need.
`base64.b64decode` can only fail with `binascii.Error` by its type (`Option`), which `unpem` maps to `UnexpectedDER` (F7). -/
def ExtOK (E : Ext) : Prop :=
  (∀ c ∈ Gen.curveTable, SqrtSpec E.sqrtModP c.p) ∧ (∀ c ∈ Gen.curveTable, PubSpec E c)

theorem total_of_err {α : Type} {P : PyErr → Prop} (r : Res α) (h : ∀ e, r = .error e → P e) :
    (∃ v, r = .ok v) ∨ (∃ e, r = .error e ∧ P e) := by
  cases hr : r with
  | ok v => exact Or.inl ⟨v, rfl⟩
  | error e => exact Or.inr ⟨e, rfl, h e hr⟩

theorem total_of_err_eq {α : Type} (r : Res α) (e₀ : PyErr) (h : ∀ e, r = .error e → e = e₀) :
    (∃ v, r = .ok v) ∨ r = .error e₀ :=
  (total_of_err r h).imp id fun ⟨_, hr, he⟩ => he ▸ hr

/-- `VerifyingKey.from_string`: only `MalformedPointError`.  Hypothesis: `square_root_mod_prime` returns a root or
raises `SquareRootError` (C15's `sqrt_spec` for the model of the routine: every odd prime). -/
theorem vk_from_string_total (E : Ext) (c : Curve) (hp : 0 < c.p) (hsqrt : SqrtSpec E.sqrtModP c.p) (bs : Bytes)
    (validate : Bool) :
    (∃ k, VK.fromString E c bs validate = .ok k) ∨ (VK.fromString E c bs validate = .error .malformedPoint) :=
  total_of_err_eq _ _ (fromString_err E c hp hsqrt bs validate)

/-- `SigningKey.from_string`: only `MalformedPointError` (`hpub` is not needed, see `ExtOK`) -/
theorem sk_from_string_total (E : Ext) (c : Curve) (hpub : PubSpec E c) (bs : Bytes) :
    (∃ k, SK.fromString E c bs = .ok k) ∨ (SK.fromString E c bs = .error .malformedPoint) :=
  total_of_err_eq _ _ (sk_fromString_err E c bs)

theorem vk_from_der_total (E : Ext) (hE : ExtOK E) (bs : Bytes) :
    (∃ k, VK.fromDer E bs = .ok k) ∨ (∃ e, VK.fromDer E bs = .error e ∧ Documented e) :=
  total_of_err _ (vk_fromDer_err E hE.1 bs)

theorem vk_from_pem_total (E : Ext) (hE : ExtOK E) (bs : Bytes) :
    (∃ k, VK.fromPem E bs = .ok k) ∨ (∃ e, VK.fromPem E bs = .error e ∧ Documented e) :=
  total_of_err _ (vk_fromPem_err E hE.1 bs)

/-- `SigningKey.from_der` (this is where F6 mattered: the `indexError` of the octet-string / constructed / bit-string
readers is gone from the model because it is gone from the code, and C11 proves the readers' only error is
`UnexpectedDER`) -/
theorem sk_from_der_total (E : Ext) (hE : ExtOK E) (bs : Bytes) :
    (∃ k, SK.fromDer E bs = .ok k) ∨ (∃ e, SK.fromDer E bs = .error e ∧ Documented e) :=
  total_of_err _ (sk_fromDer_err E bs)

/-- `SigningKey.from_pem` (F7: no `binascii.Error`, no `ValueError` from a missing header) -/
theorem sk_from_pem_total (E : Ext) (hE : ExtOK E) (bs : Bytes) :
    (∃ k, SK.fromPem E bs = .ok k) ∨ (∃ e, SK.fromPem E bs = .error e ∧ Documented e) :=
  total_of_err _ (sk_fromPem_err E bs)

/-- with `square_root_mod_prime` instantiated by its model (`NT.squareRootModPrime`, contract = `C15.sqrt_spec`), the
public-key loaders need only the primality of the table's field primes (SEC 2 / FIPS / RFC 5639 fact) -/
theorem vk_loaders_total_model (hprime : ∀ c ∈ Gen.curveTable, c.p.Prime) (bs : Bytes) :
    (∀ e, VK.fromDer KeysWire.modelExt bs = .error e → Documented e) ∧
    (∀ e, VK.fromPem KeysWire.modelExt bs = .error e → Documented e) ∧
    (∀ c ∈ Gen.curveTable, ∀ v e, VK.fromString KeysWire.modelExt c bs v = .error e → e = .malformedPoint) := by
  have hsq := sqrtSpec_table hprime
  exact ⟨vk_fromDer_err _ hsq bs, vk_fromPem_err _ hsq bs, fun c hc => fromString_err _ c (hprime c hc).pos (hsq c hc) bs⟩

/-- **all six loaders on the composed model**, hypotheses: only `p` and `n` prime for the curves of the table (`ExtOK`
is discharged: square root by C15, `d·G` by C07 with the base-point order checked by the kernel) -/
theorem all_loaders_total_model (hprime : ∀ c ∈ Gen.curveTable, c.p.Prime ∧ c.n.Prime) :
    ExtOK KeysWire.modelExt ∧ ∀ bs : Bytes,
      (∀ e, VK.fromDer KeysWire.modelExt bs = .error e → Documented e) ∧
      (∀ e, VK.fromPem KeysWire.modelExt bs = .error e → Documented e) ∧
      (∀ e, SK.fromDer KeysWire.modelExt bs = .error e → Documented e) ∧
      (∀ e, SK.fromPem KeysWire.modelExt bs = .error e → Documented e) ∧
      (∀ c ∈ Gen.curveTable, ∀ v e, VK.fromString KeysWire.modelExt c bs v = .error e → e = .malformedPoint) ∧
      (∀ c ∈ Gen.curveTable, ∀ e, SK.fromString KeysWire.modelExt c bs = .error e → e = .malformedPoint) := by
  have hsq := sqrtSpec_table fun c hc => (hprime c hc).1
  have hpub : ∀ c ∈ Gen.curveTable, PubSpec KeysWire.modelExt c := by
    intro c hc
    have := Fact.mk (hprime c hc).1
    exact pubSpec_model c hc (hprime c hc).2
  refine ⟨⟨hsq, hpub⟩, fun bs => ?_⟩
  obtain ⟨hder, hpem, hstr⟩ := vk_loaders_total_model (fun c hc => (hprime c hc).1) bs
  exact ⟨hder, hpem, sk_fromDer_err _ bs, sk_fromPem_err _ bs, hstr, fun c _ => sk_fromString_err _ c bs⟩

/-- **the three private-key loaders need no hypothesis at all** (any `Ext`, any byte string): since the repair F14 an
INFINITY product `generator * d` is `MalformedPointError` as well, so whatever the point arithmetic does, `from_string`
fails only with `MalformedPointError` and `from_der` / `from_pem` only with the documented three -/
theorem sk_loaders_total_unconditional (E : Ext) (bs : Bytes) :
    (∀ c e, SK.fromString E c bs = .error e → e = .malformedPoint) ∧
    (∀ e, SK.fromDer E bs = .error e → Documented e) ∧
    (∀ e, SK.fromPem E bs = .error e → Documented e) :=
  ⟨fun c => sk_fromString_err E c bs, sk_fromDer_err E bs, sk_fromPem_err E bs⟩

/-- in particular none of the internal exception classes escapes any of the six loaders -/
theorem no_internal_exception (E : Ext) (hE : ExtOK E) (bs : Bytes) (e : PyErr)
    (h : VK.fromDer E bs = .error e ∨ VK.fromPem E bs = .error e ∨ SK.fromDer E bs = .error e ∨ SK.fromPem E bs = .error e) :
    e ≠ .indexError ∧ e ≠ .typeError ∧ e ≠ .valueError ∧ e ≠ .binasciiError ∧ e ≠ .assertionError ∧ e ≠ .other
      ∧ e ≠ .runtimeError ∧ e ≠ .squareRoot ∧ e ≠ .jacobiError := by
  have hd : Documented e := by
    rcases h with h | h | h | h
    · exact vk_fromDer_err E hE.1 bs e h
    · exact vk_fromPem_err E hE.1 bs e h
    · exact sk_fromDer_err E bs e h
    · exact sk_fromPem_err E bs e h
  rcases hd with h | h | h <;> subst h <;> decide

/-- non-vacuity: the F6 witness `30 06 02 01 01 04 20 01` (declared octet-string length beyond the buffer) is
`UnexpectedDER` in the model (it was `IndexError` before a7b3e40), and a PEM without header is `UnexpectedDER` -/
def ext0 : Ext :=
  { subgroupOk := fun _ _ _ => true, sqrtModP := fun _ _ => .error .squareRoot,
    pubPoint := fun _ _ => none, b64decode := b64decodeCPython }

example : SK.fromDer ext0 [0x30, 0x06, 0x02, 0x01, 0x01, 0x04, 0x20, 0x01] = .error .unexpectedDER := by decide +kernel

example : SK.fromPem ext0 [110, 111, 32, 104, 101, 97, 100, 101, 114] = .error .unexpectedDER := by decide +kernel

/-- F14 witness: the point at infinity as a point object, and as the product `generator * d`, is `MalformedPointError` -/
example : fromPublicPointObj ext0 Gen.curve_NIST256p none true = .error .malformedPoint
    ∧ SK.fromSecretExponent ext0 Gen.curve_NIST256p 5 = .error .malformedPoint := by decide +kernel

/-! ## signature decoders (composition of `C12.sigdecode_*_errors`) -/

/-- `sigdecode_string`, `sigdecode_strings`, `sigdecode_der`: for every byte string / list of byte strings and every
order, the decoder returns a pair or raises `MalformedSignature` (raw forms) resp. `UnexpectedDER` (DER) — nothing else -/
theorem sig_decoders_total (sig : Bytes) (sigs : List Bytes) (n : Nat) :
    ((∃ rs, Util.sigdecodeString sig n = .ok rs) ∨ Util.sigdecodeString sig n = .error .malformedSignature) ∧
    ((∃ rs, Util.sigdecodeStrings sigs n = .ok rs) ∨ Util.sigdecodeStrings sigs n = .error .malformedSignature) ∧
    ((∃ rs, Util.sigdecodeDer sig n = .ok rs) ∨ Util.sigdecodeDer sig n = .error .unexpectedDER) :=
  ⟨total_of_err_eq _ _ fun e h => ((C12.sigdecode_string_errors sig n).2 e h).1,
    total_of_err_eq _ _ (C12.sigdecode_strings_errors sigs n).2, total_of_err_eq _ _ (C12.sigdecode_der_errors sig n).2⟩

/-! ## verification through every decoder (composition of `C02.verify_digest_outcomes`) -/

section Verify
open Ecdsa
variable {P : Type} {𝔾 : Type} [AddCommGroup 𝔾]
variable {ops : PointOps P} {G : 𝔾} {den : P → 𝔾} {xc : 𝔾 → Option ℤ} {valid : P → Prop}

def VerifyOutcome (r : Res Bool) : Prop := r = .ok true ∨ r = .error .badSignature ∨ r = .error .badDigest

/-- `verify_digest` and `verify` through `sigdecode_string`, `sigdecode_strings` and `sigdecode_der`: for every byte string
(list of byte strings) offered as a signature, every non-empty digest / every hash function with non-empty output and
both settings of `allow_truncate`, the call returns `True` or raises `BadSignatureError` / `BadDigestError` — never a
false value, never `MalformedSignature`, `UnexpectedDER`, `TypeError` (F4) or anything else.  `C` = the point layer is
correct (instantiated for the named curves below). -/
theorem verify_total_all_decoders (C : PointOpsCorrect ops G den xc valid) (Q : P) (hQ : valid Q)
    (sig : Bytes) (sigs : List Bytes) (dg : Bytes) (hne : dg ≠ []) (H : Bytes → Bytes) (hH : ∀ m, H m ≠ [])
    (data : Bytes) (allow : Bool) :
    VerifyOutcome (verifyDigest ops Q Util.sigdecodeString sig dg allow) ∧
    VerifyOutcome (verifyDigest ops Q Util.sigdecodeStrings sigs dg allow) ∧
    VerifyOutcome (verifyDigest ops Q Util.sigdecodeDer sig dg allow) ∧
    VerifyOutcome (verify ops Q H Util.sigdecodeString sig data allow) ∧
    VerifyOutcome (verify ops Q H Util.sigdecodeStrings sigs data allow) ∧
    VerifyOutcome (verify ops Q H Util.sigdecodeDer sig data allow) :=
  ⟨C02.verify_digest_outcomes_string C Q hQ sig dg hne allow,
   C02.verify_digest_outcomes_strings C Q hQ sigs dg hne allow,
   C02.verify_digest_outcomes_der C Q hQ sig dg hne allow,
   C02.verify_outcomes C Q hQ H hH _ sigdecodeString_errors sig data allow,
   C02.verify_outcomes C Q hQ H hH _ sigdecodeStrings_errors sigs data allow,
   C02.verify_outcomes C Q hQ H hH _ derErrorsCaught sig data allow⟩

/-- the same on the point-arithmetic model for every row of the generated curve table (all 17 curves; hypotheses: `p`,
`n` prime; the base-point order is checked by the kernel, `Proofs/NamedCurves`), for any key object `Q` that denotes an
element of ⟨G⟩ -/
theorem verify_total_all_decoders_named (r : Gen.CurveRow) (hr : r ∈ Gen.curveTable) [Fact r.p.Prime] (hn : r.n.Prime)
    (Q : Curve.Pt) (hQ : OnCurve.Valid (Named.baseCtx r (Named.checked_of_mem hr)) Q)
    (sig : Bytes) (sigs : List Bytes) (dg : Bytes) (hne : dg ≠ []) (H : Bytes → Bytes) (hH : ∀ m, H m ≠ [])
    (data : Bytes) (allow : Bool) :
    VerifyOutcome (verifyDigest (OnCurve.ops (Named.crvOf r)) Q Util.sigdecodeString sig dg allow) ∧
    VerifyOutcome (verifyDigest (OnCurve.ops (Named.crvOf r)) Q Util.sigdecodeStrings sigs dg allow) ∧
    VerifyOutcome (verifyDigest (OnCurve.ops (Named.crvOf r)) Q Util.sigdecodeDer sig dg allow) ∧
    VerifyOutcome (verify (OnCurve.ops (Named.crvOf r)) Q H Util.sigdecodeString sig data allow) ∧
    VerifyOutcome (verify (OnCurve.ops (Named.crvOf r)) Q H Util.sigdecodeStrings sigs data allow) ∧
    VerifyOutcome (verify (OnCurve.ops (Named.crvOf r)) Q H Util.sigdecodeDer sig data allow) :=
  verify_total_all_decoders
    (OnCurve.pointOpsCorrect (Named.crvOf r) _ (Named.matches_row (Named.checked_of_mem hr) hn)) Q hQ
    sig sigs dg hne H hH data allow

end Verify

/-! ## the ECDH loaders (`Model/Ecdh.lean` with the Keys model as key constructors) -/

theorem ecdh_documented_iff (e : PyErr) :
    EcdhDocumented e ↔ (e = .unexpectedDER ∨ e = .malformedPoint ∨ e = .unknownCurve) ∨ e = .invalidCurve := Iff.rfl

/-- `ECDH.load_private_key_bytes/_der/_pem` and `load_received_public_key_bytes/_der/_pem` on the state machine of
`Model/Ecdh.lean`, for ANY environment whose six key constructors are the Keys model's loaders (`LoadersAreKeys`; the
point operations and `generate` are arbitrary): each call returns, or raises `MalformedPointError` / `UnexpectedDER` /
`UnknownCurveError` / `InvalidCurveError`; the byte-string loaders need a curve (of the table) to be set, and
`load_private_key_bytes` without a curve raises `NoCurveError`.  (`load_received_public_key_bytes` without a curve is
`AttributeError` in code and model — an ECDH object without curve is outside the property, DESIGN §2 observations.) -/
theorem ecdh_loaders_total {Pt Ent : Type} (E : Ext) (hE : ExtOK E) (mkPt : Curve → Nat → Nat → Pt)
    (env : Ecdh.Env Curve Pt Ent) (hk : LoadersAreKeys E mkPt env) (s : Ecdh.State Curve Pt) (b : Bytes) :
    (∀ op ∈ [Ecdh.Op.loadPrivDer b, .loadPrivPem b, .loadPubDer b, .loadPubPem b],
      ∀ e, (Ecdh.step env s op).2 = .error e → EcdhDocumented e) ∧
    (∀ c, s.curve = some c → c ∈ Gen.curveTable → ∀ op ∈ [Ecdh.Op.loadPrivBytes b, .loadPubBytes b],
      ∀ e, (Ecdh.step env s op).2 = .error e → EcdhDocumented e) ∧
    (s.curve = none → (Ecdh.step env s (.loadPrivBytes b)).2 = .error .noCurve) := by
  refine ⟨?_, ?_, ?_⟩
  · exact step_der_pem_err env s b
      (fun e he => sk_fromDer_err E b e (Res.map_err (hk.skFromDer b ▸ he)))
      (fun e he => sk_fromPem_err E b e (Res.map_err (hk.skFromPem b ▸ he)))
      (fun e he => vk_fromDer_err E hE.1 b e (Res.map_err (hk.vkFromDer b ▸ he)))
      (fun e he => vk_fromPem_err E hE.1 b e (Res.map_err (hk.vkFromPem b ▸ he)))
  · intro c hc hmem op hop e h
    simp only [List.mem_cons, List.not_mem_nil, or_false] at hop
    rcases hop with rfl | rfl
    · simp only [Ecdh.step, hc, hk.skFromString] at h
      exact viaLoader_err s _ _ (fun e he => .inr (.inl (sk_fromString_err E c b e (Res.map_err he)))) loadPrivate_err e h
    · simp only [Ecdh.step, hc, hk.vkFromString] at h
      exact viaLoader_err s _ _
        (fun e he => .inr (.inl (fromString_err E c (table_p_pos c hmem) (hE.1 c hmem) b true e (Res.map_err he))))
        loadPublic_err e h
  · intro hc
    simp only [Ecdh.step, hc]

/-- the one state in which an ECDH loader of the model leaves the documented set — stated, not hidden:
`load_received_public_key_bytes` on an object WITHOUT a curve evaluates `None.verifying_key_length` → `AttributeError`,
for every byte string (code and model agree; the private twin raises the documented `NoCurveError`).  C10 is claimed for
ECDH objects with a curve set. -/
theorem ecdh_pub_bytes_without_curve {Pt Ent : Type} (env : Ecdh.Env Curve Pt Ent) (s : Ecdh.State Curve Pt) (b : Bytes)
    (h : s.curve = none) : Ecdh.step env s (.loadPubBytes b) = (s, .error .attributeError) := by
  simp only [Ecdh.step, h]

/-- the instantiation: an `Ecdh.Env` built from the composed Keys model (`KeysWire.modelExt`) for any point operations
satisfies `LoadersAreKeys`, and `ExtOK` holds for it given only `p`, `n` prime on the table — so `ecdh_loaders_total`
applies with no other hypothesis -/
theorem ecdh_loaders_total_model {Pt Ent : Type} (hprime : ∀ c ∈ Gen.curveTable, c.p.Prime ∧ c.n.Prime)
    (mkPt : Curve → Nat → Nat → Pt) (mul : Pt → Int → Res Pt) (isInf : Pt → Bool) (xOf : Pt → Res Int)
    (generate : Curve → Ent → Res (Ecdh.SKey Curve Pt)) :
    LoadersAreKeys KeysWire.modelExt mkPt (ecdhEnv KeysWire.modelExt mkPt mul isInf xOf generate) ∧
      ExtOK KeysWire.modelExt :=
  ⟨ecdhEnv_loaders _ _ _ _ _ _, (all_loaders_total_model hprime).1⟩

/-- **the environment the model driver runs** (`EcdhWire.env cs`, `Model/EcdhWire.lean`: curve objects are indices
into the history's list `cs`, DER / PEM keys located in `cs`): the six loaders fail only with the documented errors.  Its
curve type is `Nat`, so it is not an instance of `LoadersAreKeys`; the statement is proved for it directly.  Hypotheses: the
table's field primes are prime, the history's curve objects are table rows and every table row is in the history
(otherwise `locate` answers the driver artefact `.other`). -/
theorem ecdh_loaders_total_driver (cs : Array EcdhWire.CParams) (hprime : ∀ c ∈ Gen.curveTable, c.p.Prime)
    (hrows : ∀ i, i < cs.size → cs[i]! ∈ Gen.curveTable) (hcov : CoversTable cs)
    (s : Ecdh.State Nat EcdhWire.WPt) (b : Bytes) :
    (∀ op ∈ [Ecdh.Op.loadPrivDer b, .loadPrivPem b, .loadPubDer b, .loadPubPem b],
      ∀ e, (Ecdh.step (EcdhWire.env cs) s op).2 = .error e → EcdhDocumented e) ∧
    (∀ c, s.curve = some c → ∀ e, (Ecdh.step (EcdhWire.env cs) s (.loadPrivBytes b)).2 = .error e → EcdhDocumented e) ∧
    (∀ c, s.curve = some c → c < cs.size →
      ∀ e, (Ecdh.step (EcdhWire.env cs) s (.loadPubBytes b)).2 = .error e → EcdhDocumented e) ∧
    (s.curve = none → (Ecdh.step (EcdhWire.env cs) s (.loadPrivBytes b)).2 = .error .noCurve) := by
  have hsq := sqrtSpec_table hprime
  refine ⟨?_, ?_, ?_, ?_⟩
  · exact step_der_pem_err (EcdhWire.env cs) s b
      (locate_err cs hcov _ _ _ (sk_fromDer_curve_mem _ b) (sk_fromDer_err _ b))
      (locate_err cs hcov _ _ _ (sk_fromPem_curve_mem _ b) (sk_fromPem_err _ b))
      (locate_err cs hcov _ _ _ (vk_fromDer_curve_mem _ b) (vk_fromDer_err _ hsq b))
      (locate_err cs hcov _ _ _ (vk_fromPem_curve_mem _ b) (vk_fromPem_err _ hsq b))
  · intro c hc e h
    simp only [Ecdh.step, hc, EcdhWire.env] at h
    exact viaLoader_err s _ _ (fun e he => .inr (.inl (sk_fromString_err _ _ b e (Res.map_err he)))) loadPrivate_err e h
  · intro c hc hlt e h
    simp only [Ecdh.step, hc, EcdhWire.env, if_pos hlt] at h
    have hm := hrows c hlt
    exact viaLoader_err s _ _
      (fun e he => .inr (.inl (fromString_err _ _ (table_p_pos _ hm) (hsq _ hm) b true e (Res.map_err he))))
      loadPublic_err e h
  · intro hc
    simp only [Ecdh.step, hc]

/-- non-vacuity: the history consisting of the whole generated table satisfies the two structural hypotheses -/
example : (∀ i, i < Gen.curveTable.toArray.size → Gen.curveTable.toArray[i]! ∈ Gen.curveTable) ∧
    CoversTable Gen.curveTable.toArray := by
  constructor
  · decide +kernel
  · unfold CoversTable; decide +kernel

end C10
