import Generated.RestGuards
import Proofs.RestSkel
/-!
# CtDer — translator tie of the parts of `der.py` that no other generator covers

`Tie.skel_mod`: the module-level skeleton re-extracted from the working tree by `gen_rest.py` (imports, constants,
dispatch `if`s with the definitions inside them, class-level statements; functions / methods by header) equals the
recorded one (`Proofs/RestSkel.lean`); `Tie.skel_<function>`: likewise for each function of the module that
`harness/tiecoverage.py` found outside every other generator.  Core Lean only; every proof is `rfl`.
-/
namespace CtDer.Tie
open Gen.Rest

theorem skel_mod : skel_mod_der = Rest.Skel.mod_der := rfl

/-- `der.oid_to_text` (fix F15): the text of the helper that keeps error messages from raising on oversized integers; its
threshold is 2^64 on both sides -/
theorem skel_oid_to_text : skel_der_oid_to_text = Rest.Skel.der_oid_to_text := rfl
theorem oid_to_text_threshold : der_oid_to_text_e0 = -(2 : Int) ^ 64 ∧ der_oid_to_text_e1 = (2 : Int) ^ 64 := ⟨rfl, rfl⟩

end CtDer.Tie
