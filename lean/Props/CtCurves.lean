import Generated.RestGuards
import Proofs.RestSkel
/-!
# CtCurves — translator tie of the parts of `curves.py` that no other generator covers

`Tie.skel_mod`: the module-level skeleton re-extracted from the working tree by `gen_rest.py` (imports, constants,
dispatch `if`s with the definitions inside them, class-level statements; functions / methods by header) equals the
transcribed one (`Proofs/RestSkel.lean`); `Tie.skel_<function>`: likewise for each function of the module that
`harness/tiecoverage.py` found outside every other generator.
-/
namespace CtCurves.Tie
open Gen.Rest

theorem skel_mod : skel_mod_curves = Rest.Skel.mod_curves := rfl

end CtCurves.Tie
