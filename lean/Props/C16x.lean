import Model.NumberTheoryExtra
import Proofs.NTExtra
import Proofs.NTExtraOrder
import Proofs.NTExtraLambda
import Proofs.NTExtraLfrp
import Proofs.NTReview
import Proofs.NTSmallExact
/-!
# C16x — the deprecated but still shipped helpers that no property anchors

Model: `Model/NumberTheoryExtra.lean` (`NTX.*`), tied to the real functions by the `extra` correspondence stream of
`harness/props/C16.py`.  Specifications: Mathlib's `Nat.totient`, `ArithmeticFunction.carmichael` (the exponent of
`(ZMod n)ˣ`), `orderOf` in `ZMod m`.  Stated exactly: which inputs raise, which never return
(`largest_factor_relatively_prime(0, b)`, `|b| ≥ 2`), which return a wrong value (`order_mod` on an unreduced `x ≡ 1`).
-/
namespace C16x
open NT NTX NTProofs NTXProofs

/-- negative exponent: `NegativeExponentError`; modulus 0: `ValueError` (from `pow`); otherwise `base^e mod m` with the
sign of the modulus -/
theorem modular_exp_spec (b e m : Int) :
    (e < 0 → modularExp b e m = .negativeExponent) ∧
    (0 ≤ e → m = 0 → modularExp b e m = .err .valueError) ∧
    (0 ≤ e → 0 < m → modularExp b e m = .ok (b ^ e.toNat % m)) ∧
    (0 ≤ e → m < 0 → ∃ r, modularExp b e m = .ok r ∧ m < r ∧ r ≤ 0 ∧ (r - b ^ e.toNat) % m = 0) := by
  refine ⟨fun h => by rw [modularExp, if_pos h], fun h hm => ?_, fun h hm => ?_, fun h hm => ?_⟩
  · rw [modularExp, if_neg (by omega), pow3, if_pos hm]
  all_goals
    -- `pow` reduces modulo `|m|` and then moves the residue into the range of the sign of `m`
    have hc : (0 : Int) < m.natAbs := by omega
    have hz0 := Int.emod_nonneg (b ^ e.toNat) hc.ne'
    obtain ⟨f1, f2, f3⟩ := signFix_spec hz0 (Int.emod_lt_of_pos (b ^ e.toNat) hc)
    rw [modularExp, if_neg (by omega), pow3, if_neg (by omega)]
    dsimp only
    rw [powMod_eq _ _ _ hc]
  · rw [(f2 hm).1, show ((m.natAbs : Nat) : Int) = m by omega]
  · refine ⟨_, rfl, (f3 hm).1, (f3 hm).2, Int.emod_eq_zero_of_dvd ?_⟩
    have := Int.dvd_add f1 ((Int.dvd_natAbs.mpr dvd_rfl).trans (Int.dvd_sub_self_of_emod_eq (a := b ^ e.toNat) rfl))
    rwa [sub_add_sub_cancel] at this

example : modularExp 3 4 5 = .ok 1 ∧ modularExp 3 (-1) 5 = .negativeExponent ∧ modularExp 3 2 (-5) = .ok (-1) ∧
    modularExp 3 2 0 = .err .valueError := by decide +kernel

/-- the factorisation returned for `n ≥ 2`, when every base is prime (unconditional except for the `is_prime` shortcut
entry, see `C16.factorization_spec`; `hsound` = soundness of `is_prime` on (1229, n] — it is only applied to a cofactor ≤ n;
satisfiable: from ψ below 2⁶⁴, outright below 2¹⁶; `phi_carmichael_small` is the instance below 4096), is a prime factorisation -/
theorem factorization_pf (lg : Int → Int) (n : Int) (hn : 2 ≤ n)
    (hsound : ∀ m, 1229 < m → m ≤ n → isPrime lg m = .ok true → m.toNat.Prime) :
    ∃ fs, factorization lg n = .ok fs ∧ PF fs ∧ natProd fs = n.toNat := by
  obtain ⟨fs, h1, h2, h3, h4, h5, h6⟩ := NTProofs.factorization_all_prime_bounded lg n hn hsound
  refine ⟨fs, h1, ⟨h6, h5, h4, h3.imp (fun h => ne_of_lt h)⟩, ?_⟩
  · have : ((natProd fs : ℕ) : ℤ) = n := by
      rw [← h2]
      unfold natProd
      clear h1 h2 h3 h4 h6
      induction fs with
      | nil => simp
      | cons f r ih =>
        simp only [List.map_cons, List.prod_cons]
        rw [Nat.cast_mul, ih (fun g hg => h5 g (by simp [hg])), Nat.cast_pow,
          Int.toNat_of_nonneg (by have := h5 f (by simp); omega)]
    omega

/-- **`phi(n)` is Euler's totient** for `n ≥ 3` (and 1 for every `n < 3`, including `n ≤ 0` where φ is not 1) -/
theorem phi_spec (lg : Int → Int) (n : Int) :
    (n < 3 → phi lg n = .ok 1) ∧
    (3 ≤ n → (∀ m, 1229 < m → m ≤ n → isPrime lg m = .ok true → m.toNat.Prime) → phi lg n = .ok (Nat.totient n.toNat : ℕ)) := by
  refine ⟨fun h => by simp [phi, h], fun h hsound => ?_⟩
  obtain ⟨fs, h1, hpf, hprod⟩ := factorization_pf lg n (by omega) hsound
  unfold phi
  rw [if_neg (by omega), h1]
  simp only [bind, Except.bind]
  have := foldl_phi fs 1 hpf (fun g _ => Nat.coprime_one_left _)
  rw [Nat.totient_one] at this
  rw [show ((1 : ℕ) : ℤ) = 1 from rfl] at this
  rw [this, one_mul, hprod]

/-- `carmichael_of_ppower((p, a))` is Mathlib's λ(p^a) for a prime `p` and `a ≥ 1`; for `a ≤ 0` the code leaves the
integers (`p ** (a - 1)` is a float, or `ZeroDivisionError` for `p = 0`) -/
theorem carmichael_of_ppower_spec (p a : ℕ) (hp : p.Prime) (ha : 1 ≤ a) :
    carmichaelOfPpower p a = .ok ((ArithmeticFunction.carmichael (p ^ a) : ℕ) : ℤ) :=
  ppower_eq p a hp ha

theorem carmichael_of_ppower_nonpositive (p a : Int) (ha : a ≤ 0) :
    carmichaelOfPpower p a = if p = 0 then .error .zeroDivision else .error .other := by
  unfold carmichaelOfPpower
  rw [if_neg (by omega), if_pos (by omega)]

/-- `carmichael_of_factorized` on a list of (pairwise different prime, exponent ≥ 1) pairs is λ of the number it denotes -/
theorem carmichael_of_factorized_spec (fs : List (Int × Int)) (h : PF fs) :
    carmichaelOfFactorized fs = .ok ((ArithmeticFunction.carmichael (natProd fs) : ℕ) : ℤ) := by
  cases fs with
  | nil =>
    have : ArithmeticFunction.carmichael 1 = 1 := by
      rw [ArithmeticFunction.carmichael_eq_exponent' 1]; exact Monoid.exp_eq_one_of_subsingleton
    rw [carmichaelOfFactorized, natProd, List.map_nil, List.prod_nil, this]; rfl
  | cons f r =>
    rw [carmichaelOfFactorized, ppower_of_mem h List.mem_cons_self, natProd_cons]
    exact foldl_carmichael r _ h.tail h.coprime_head

/-- **`carmichael(n)` is the Carmichael function** λ(n) = exponent of `(ZMod n)ˣ` for `n ≥ 2`; it is 1 for every `n < 2` -/
theorem carmichael_spec (lg : Int → Int) (n : Int) :
    (n < 2 → carmichael lg n = .ok 1) ∧
    (2 ≤ n → (∀ m, 1229 < m → m ≤ n → isPrime lg m = .ok true → m.toNat.Prime) →
      carmichael lg n = .ok ((ArithmeticFunction.carmichael n.toNat : ℕ) : ℤ) ∧
      ArithmeticFunction.carmichael n.toNat = Monoid.exponent (ZMod n.toNat)ˣ) := by
  constructor
  · intro h
    unfold carmichael
    rw [(NTProofs.factorization_spec lg n).1 h]
    rfl
  · intro h hsound
    obtain ⟨fs, h1, hpf, hprod⟩ := factorization_pf lg n h hsound
    refine ⟨?_, ArithmeticFunction.carmichael_eq_exponent (by omega)⟩
    unfold carmichael
    rw [h1]
    simp only [bind, Except.bind]
    rw [carmichael_of_factorized_spec fs hpf, hprod]

/-- decided instance (no hypothesis on `is_prime`): below 4096 `phi` IS Euler's totient and `carmichael` IS the Carmichael
function -/
theorem phi_carmichael_small (lg : Int → Int) (hlg : ∀ m : Int, lg m < 99) (n : Int) (hn : 3 ≤ n) (hn' : n < 4096) :
    phi lg n = .ok (Nat.totient n.toNat : ℕ) ∧
    carmichael lg n = .ok ((ArithmeticFunction.carmichael n.toNat : ℕ) : ℤ) := by
  have hs : ∀ m, 1229 < m → m ≤ n → isPrime lg m = .ok true → m.toNat.Prime := by
    intro m _ hmn hp
    obtain ⟨b, hb, hiff⟩ := NTSmall.isPrime_exact_below_65536 lg m (by omega)
    rw [hp] at hb; cases hb
    exact (hiff.mp rfl).2
  exact ⟨(phi_spec lg n).2 hn hs, ((carmichael_spec lg n).2 (by omega) hs).1⟩

example : phi (fun _ => 0) 360 = .ok 96 ∧ carmichael (fun _ => 0) 360 = .ok 12 ∧ carmichael (fun _ => 0) 8 = .ok 2 ∧
    phi (fun _ => 0) (-4) = .ok 1 := by decide +kernel

/-- **`order_mod(x, m)`**: 0 for `m ≤ 1`; `AssertionError` when `gcd(x, m) ≠ 1`; otherwise the order of `x` in `(ℤ/m)ˣ` —
EXCEPT for an unreduced argument `x ≡ 1 (mod m)`, `x ≠ 1`, where the code answers 2 instead of 1 (the loop compares the
raw `x` with 1 before reducing; e.g. `order_mod(8, 7) = 2`).  It always terminates. -/
theorem order_mod_spec (x m : Int) :
    (m ≤ 1 → orderMod x m = .ok 0) ∧
    (2 ≤ m → Int.gcd x m ≠ 1 → orderMod x m = .error .assertionError) ∧
    (2 ≤ m → Int.gcd x m = 1 →
      orderMod x m = .ok (if x ≠ 1 ∧ x % m = 1 then 2 else (orderOf (x : ZMod m.toNat) : ℤ))) := by
  refine ⟨(orderMod_other x m).1, (orderMod_other x m).2, fun h hg => ?_⟩
  obtain ⟨M, rfl⟩ : ∃ M : ℕ, m = M := ⟨m.toNat, by omega⟩
  have := orderMod_coprime (M := M) (by omega) x hg
  simpa using this

/-- the wrong value, concretely (a defect of the deprecated helper outside the scope of every property): 8 ≡ 1 (mod 7)
has order 1 -/
example : orderMod 8 7 = .ok 2 ∧ orderOf ((8 : ℤ) : ZMod 7) = 1 := by
  refine ⟨by decide +kernel, ?_⟩
  rw [orderOf_eq_one_iff]; decide

/-- **`largest_factor_relatively_prime(a, b)`** for `a ≥ 1`, `b ≥ 0`: the largest divisor of `a` coprime to `b` -/
theorem largest_factor_relatively_prime_spec (a b : ℕ) (ha : 1 ≤ a) :
    ∃ r : ℕ, largestFactorRelativelyPrime a b = .ok (r : ℤ) ∧ 1 ≤ r ∧ r ∣ a ∧ Nat.Coprime r b ∧
      ∀ e : ℕ, e ∣ a → Nat.Coprime e b → e ∣ r := by
  unfold largestFactorRelativelyPrime
  apply lfrpOuter_spec _ a b ha
  have := Nat.le_of_dvd (by omega) (Nat.gcd_dvd_left a b)
  simp; omega

/-- **non-termination**: `largest_factor_relatively_prime(0, b)` returns 0 for `|b| ≤ 1` and NEVER returns for `|b| ≥ 2`
(the inner `while 1` has no exit from `a = 0`: no budget suffices) -/
theorem largest_factor_relatively_prime_zero (b : Int) :
    (b.natAbs ≤ 1 → largestFactorRelativelyPrime 0 b = .ok 0) ∧
    (2 ≤ b.natAbs → largestFactorRelativelyPrime 0 b = .error .other ∧ ∀ fuel, lfrpInner (b.natAbs : ℤ) fuel 0 = none) :=
  ⟨fun h => lfrpOuter_zero_small _ b h, fun h => ⟨lfrpOuter_zero_big _ b h, lfrpInner_zero _⟩⟩

/-- `kinda_order_mod(x, m)` for `m ≥ 1`, `x ≥ 0`: `order_mod(x, m')`, `m'` the largest factor of `m` coprime to `x` -/
theorem kinda_order_mod_spec (x m : ℕ) (hm : 1 ≤ m) :
    ∃ m' : ℕ, 1 ≤ m' ∧ m' ∣ m ∧ Nat.Coprime m' x ∧ (∀ e : ℕ, e ∣ m → Nat.Coprime e x → e ∣ m') ∧
      kindaOrderMod x m = orderMod x m' := by
  obtain ⟨r, h1, h2, h3, h4, h5⟩ := largest_factor_relatively_prime_spec m x hm
  refine ⟨r, h2, h3, h4, h5, ?_⟩
  unfold kindaOrderMod
  rw [h1]; rfl

example : largestFactorRelativelyPrime 360 6 = .ok 5 ∧ kindaOrderMod 2 12 = .ok 2 ∧
    largestFactorRelativelyPrime 0 3 = .error .other := by decide +kernel

/-- `int_to_string(x)`: `AssertionError` for `x < 0`; otherwise the minimal big-endian bytes (`b"\\0"` for 0, no leading zero
byte otherwise), and `string_to_int` inverts it -/
theorem int_to_string_spec (x : Int) :
    (x < 0 → intToString x = .error .assertionError) ∧
    (0 ≤ x → ∃ s, intToString x = .ok s ∧ stringToInt s = x ∧ s ≠ [] ∧ (x = 0 → s = [0]) ∧
      (0 < x → s = beMin x.toNat ∧ s.head? ≠ some 0)) :=
  intToString_spec x

/-- `digest_integer(m)` is the big-endian value of `sha1(int_to_string(m))`, for every function `sha1` -/
theorem digest_integer_spec (sha1 : Bytes → Bytes) (m : Int) (hm : 0 ≤ m) :
    ∃ s, intToString m = .ok s ∧ digestInteger sha1 m = .ok (beVal (sha1 s) : ℕ) := by
  obtain ⟨s, h1, _⟩ := (intToString_spec m).2 hm
  exact ⟨s, h1, by simp [digestInteger, h1, stringToInt, bind, Except.bind]⟩

example : intToString 256 = .ok [1, 0] ∧ intToString 0 = .ok [0] ∧ stringToInt [1, 0] = 256 ∧
    intToString (-1) = .error .assertionError := by decide +kernel

/-- for EVERY seed, every hash function and every value of the float-derived bit count: `ValueError` (math domain) for
`order ≤ 1`, otherwise `TypeError` (`str + bytes`) — no input yields a number (the observation of DESIGN §2) -/
theorem randrange_from_seed_truncate_never_returns (hash : Bytes → Bytes) (bitsF : Int → Int) (seed : Bytes) (order : Int) :
    truncateBytes hash bitsF seed order = (if order ≤ 1 then .error .valueError else .error .typeError) ∧
    truncateBits hash bitsF seed order = (if order ≤ 1 then .error .valueError else .error .typeError) :=
  ⟨truncateBytes_never hash bitsF seed order, truncateBits_never hash bitsF seed order⟩

end C16x
