import Proofs.KeysString
import Proofs.KeysPem
import Proofs.KeysInstPub
/-!
# C08 — public keys are accepted iff they encode a valid point of the right group

Model: `Keys.VK.fromString` / `Keys.fromPublicPoint` (`Model/Keys.lean`), tied to `/repo` by the correspondence run
(`harness/props/C08.py`) and by the translated curve table / `contains_point` (`Generated/Curves.lean`).

`Encodes l s x y` (Proofs/KeysString) is the SEC 1 format predicate: exact length `2l` (raw), `2l+1` with prefix `04`
(uncompressed) or `06/07` matching the parity of `y` (hybrid), `l+1` with prefix `02/03` matching the parity of `y`
(compressed), big-endian coordinates.  `ValidPoint E c x y` is: `x, y < p`, the curve equation (the generated text of
`CurveFp.contains_point`), and — for cofactor ≠ 1 — the subgroup test.

PARTIAL (K2): the subgroup clause is *the code's* test `n * point == INFINITY` (`E.subgroupOk`, a parameter; instantiated
below with the point-arithmetic model).  The full statement would have `n • P = 0` in the
Mathlib group instead; the two agree only when no point of order 2 is involved (N2T), and on SECP112r2 they
differ exactly on the points of order 2 and 2n (open known finding K2, reproduced by the search).  For cofactor 1
the clause is vacuous and the statement is the full one given `#E(F_p) = n` (SEC 2 fact, a hypothesis of
`from_string_accepts_iff_subgroup_cofactor_one`).
The square-root routine is the parameter `E.sqrtModP` with contract `SqrtSpec` (C15's theorem).
-/
namespace C08
open Keys KeysP Asn1Spec

theorem table_p_odd : ∀ c ∈ Gen.curveTable, c.p % 2 = 1 ∧ c.n ≠ 0 :=
  fun c hc => ⟨(table_sanity c hc).1, (table_sanity c hc).2.1⟩

/-- accepted ⇔ one of the exact lengths with a matching prefix, coordinates in `[0, p-1]`, curve equation, parity
rule, subgroup test (the code's); and the accepted key denotes exactly the encoded point -/
theorem from_string_accepts_iff_partial (E : Ext) (c : Curve) (hp : c.p.Prime) (hodd : c.p % 2 = 1) (hn : c.n ≠ 0)
    (hsqrt : SqrtSpec E.sqrtModP c.p) (s : Bytes) (k : VK) :
    VK.fromString E c s true = .ok k ↔
      k.curve = c ∧ Encodes (Util.orderlen c.p) s k.x k.y ∧
        k.x < c.p ∧ k.y < c.p ∧ onCurve c k.x k.y = true ∧ (c.h ≠ 1 → E.subgroupOk c k.x k.y = true) :=
  fromString_ok_iff E c hp hodd hn hsqrt s k

/-- cofactor 1: no subgroup clause at all — accepted ⇔ encoding of a point of the curve -/
theorem from_string_accepts_iff_cofactor_one (E : Ext) (c : Curve) (hp : c.p.Prime) (hodd : c.p % 2 = 1) (hn : c.n ≠ 0)
    (hh : c.h = 1) (hsqrt : SqrtSpec E.sqrtModP c.p) (s : Bytes) (k : VK) :
    VK.fromString E c s true = .ok k ↔
      k.curve = c ∧ Encodes (Util.orderlen c.p) s k.x k.y ∧ k.x < c.p ∧ k.y < c.p ∧ onCurve c k.x k.y = true := by
  rw [from_string_accepts_iff_partial E c hp hodd hn hsqrt]
  constructor
  · rintro ⟨a, b, c1, d, e, _⟩; exact ⟨a, b, c1, d, e⟩
  · rintro ⟨a, b, c1, d, e⟩; exact ⟨a, b, c1, d, e, fun h => absurd hh h⟩

/-- every other input raises `MalformedPointError` (with or without validation) -/
theorem from_string_rejects_malformed (E : Ext) (c : Curve) (hp : 0 < c.p) (hsqrt : SqrtSpec E.sqrtModP c.p)
    (s : Bytes) (validate : Bool) (e : PyErr) (h : VK.fromString E c s validate = .error e) : e = .malformedPoint :=
  fromString_err E c hp hsqrt s validate e h

/-- a point object with validation on -/
theorem from_public_point_accepts_iff_partial (E : Ext) (c : Curve) (hn : c.n ≠ 0) (x y : Int) (k : VK) :
    fromPublicPoint E c x y true = .ok k ↔
      0 ≤ x ∧ 0 ≤ y ∧ x < c.p ∧ y < c.p ∧ onCurve c x y = true ∧ (c.h ≠ 1 → E.subgroupOk c x.toNat y.toNat = true) ∧
        k = ⟨c, x.toNat, y.toNat⟩ := by
  constructor
  · intro h
    obtain ⟨hx, hy, hc, _, hs, hk⟩ := (fromPublicPoint_post E c x y true).ok h
    exact ⟨hx.1, hy.1, hx.2, hy.2, hc rfl, hs rfl, hk⟩
  · rintro ⟨hx, hy, hx', hy', hc, hs, rfl⟩
    exact fromPublicPoint_of_checks E c x y true ⟨hx, hx'⟩ ⟨hy, hy'⟩ (fun _ => hc) hn fun _ => hs

theorem from_public_point_rejects_malformed (E : Ext) (c : Curve) (x y : Int) (validate : Bool) (e : PyErr)
    (h : fromPublicPoint E c x y validate = .error e) : e = .malformedPoint :=
  fromPublicPoint_err E c x y validate e h

/-- **point OBJECTS** (`Keys.fromPublicPointObj`: `none` = `ellipticcurve.INFINITY`, `some (x, y)` = a `PointJacobi` or
legacy `Point` reporting these affine coordinates): INFINITY is refused with `MalformedPointError` with or without
validation (repair F14, /repo 08e8dc9 — it was a `TypeError` before), every refusal is `MalformedPointError`, and
acceptance is the coordinate criterion above.  (The object's own `curve()` attribute is not inspected by the code; the
property constrains the coordinates — DESIGN §2 observations.) -/
theorem from_public_point_object (E : Ext) (c : Curve) (hn : c.n ≠ 0) (validate : Bool) :
    fromPublicPointObj E c none validate = .error .malformedPoint ∧
    (∀ pt e, fromPublicPointObj E c pt validate = .error e → e = .malformedPoint) ∧
    (∀ x y k, fromPublicPointObj E c (some (x, y)) true = .ok k ↔
      0 ≤ x ∧ 0 ≤ y ∧ x < c.p ∧ y < c.p ∧ onCurve c x y = true ∧ (c.h ≠ 1 → E.subgroupOk c x.toNat y.toNat = true) ∧
        k = ⟨c, x.toNat, y.toNat⟩) := by
  refine ⟨rfl, ?_, fun x y k => from_public_point_accepts_iff_partial E c hn x y k⟩
  intro pt e h
  cases pt with
  | none => simp only [fromPublicPointObj] at h; injection h with h; exact h.symm
  | some xy => exact fromPublicPoint_err E c xy.1 xy.2 validate e h

/-- **point objects of the point-arithmetic model** (`KeysWire.fromPublicPointPt` on `Curve.Pt`; the correspondence drives it
with real `PointJacobi(X, Y, Z)` objects, Z ≠ 1 included): acceptance with validation on ⇔ the object is not INFINITY, its
`x()` and `y()` (the Curve model's `pjX` / `pjY`: an inversion of Z for a Jacobian representative; the stored coordinates
of a legacy `Point`) return integers x, y, and these satisfy the coordinate criterion (range, curve equation, subgroup
test); the key then holds (x, y).  A refusal is `MalformedPointError`, or the exception `x()` / `y()` themselves raise
(only possible for a `PointJacobi` whose Z is a non-zero multiple of p: `inverse_mod` → `ValueError`). -/
theorem from_public_point_via_xy (E : Ext) (c : Curve) (hn : c.n ≠ 0) (pt : Curve.Pt) (k : VK) :
    (KeysWire.fromPublicPointPt E c pt true = .ok k ↔
      ∃ x y : Int, KeysWire.pointCoords pt = .ok (x, y) ∧
        0 ≤ x ∧ 0 ≤ y ∧ x < c.p ∧ y < c.p ∧ onCurve c x y = true ∧ (c.h ≠ 1 → E.subgroupOk c x.toNat y.toNat = true) ∧
        k = ⟨c, x.toNat, y.toNat⟩) ∧
    (∀ v e, KeysWire.fromPublicPointPt E c pt v = .error e → e = .malformedPoint ∨ KeysWire.pointCoords pt = .error e) ∧
    (KeysWire.pointCoords .infinity = .error .malformedPoint) ∧
    (∀ A : Curve.AffPt, KeysWire.pointCoords (.aff A) = .ok (A.x, A.y)) ∧
    (∀ P : Curve.PJ, P.z = 1 → KeysWire.pointCoords (.jac P) = .ok (P.x, P.y)) := by
  refine ⟨?_, ?_, rfl, fun _ => rfl, ?_⟩
  · unfold KeysWire.fromPublicPointPt
    cases hc : KeysWire.pointCoords pt with
    | error e =>
      simp only
      constructor
      · intro h; cases h
      · rintro ⟨x, y, h, _⟩; cases h
    | ok xy =>
      obtain ⟨x0, y0⟩ := xy
      simp only
      rw [from_public_point_accepts_iff_partial E c hn]
      constructor
      · rintro ⟨a, b, c1, d, e1, f, g⟩; exact ⟨x0, y0, rfl, a, b, c1, d, e1, f, g⟩
      · rintro ⟨x, y, h, rest⟩
        injection h with h; injection h with hx hy; subst hx hy; exact rest
  · intro v e h
    unfold KeysWire.fromPublicPointPt at h
    cases hc : KeysWire.pointCoords pt with
    | error e' => rw [hc] at h; simp only at h; injection h with h; subst h; exact Or.inr rfl
    | ok xy =>
      rw [hc] at h; simp only at h
      exact Or.inl (fromPublicPoint_err E c xy.1 xy.2 v e h)
  · intro P hz
    simp [KeysWire.pointCoords, Curve.pjX, Curve.pjY, hz, bind, Except.bind]

/-- the encoder's output is accepted and denotes the same point: completeness of the four forms -/
theorem to_string_is_accepted (E : Ext) (k : VK) (hp : k.curve.p.Prime) (hodd : k.curve.p % 2 = 1) (hn : k.curve.n ≠ 0)
    (hsqrt : SqrtSpec E.sqrtModP k.curve.p) (hv : ValidPoint E k.curve k.x k.y) (enc : PointEnc)
    (hl1 : enc = .compressed → Util.orderlen k.curve.p ≠ 1) :
    ∃ bs, k.toString enc = .ok bs ∧ VK.fromString E k.curve bs true = .ok k :=
  fromString_toString E k hp hodd hn hsqrt hv enc hl1

/-- aliased coordinates are never accepted: an accepted key has both coordinates below `p`, whatever the bytes -/
theorem accepted_coordinates_reduced (E : Ext) (c : Curve) (s : Bytes) (v : Bool) (k : VK)
    (h : VK.fromString E c s v = .ok k) : k.x < c.p ∧ k.y < c.p :=
  (fromString_ok_fields E c s v k h).2

/-! ### instantiated with the executable models of the other layers (`KeysWire.modelExt`)

`modelExt`, `subgroupOkModel`, `pubPointModel`, `fromPublicPointPt` are defined in `Model/KeysWire.lean`, next to the
driver's line handler that runs them: they need the models of all layers, which `Model/Keys.lean` does not import.
`sqrtModP := NT.squareRootModPrime` (contract: `C15.sqrt_spec`, so the hypothesis disappears); `subgroupOk :=
KeysWire.subgroupOkModel` = `Curve.ptEq (Curve.pjMul ⟨curve, x, y, 1, n⟩ n) INFINITY` (the clause stays the code's test: K2). -/

/-- the acceptance theorem for the composed model: only `p` prime is assumed -/
theorem from_string_accepts_iff_model_partial (c : Curve) (hc : c ∈ Gen.curveTable) (hp : c.p.Prime) (s : Bytes) (k : VK) :
    VK.fromString KeysWire.modelExt c s true = .ok k ↔
      k.curve = c ∧ Encodes (Util.orderlen c.p) s k.x k.y ∧
        k.x < c.p ∧ k.y < c.p ∧ onCurve c k.x k.y = true ∧ (c.h ≠ 1 → KeysWire.subgroupOkModel c k.x k.y = true) := by
  have hodd : c.p % 2 = 1 := (table_p_odd _ hc).1
  exact from_string_accepts_iff_partial KeysWire.modelExt c hp hodd (table_p_odd _ hc).2
    (sqrtSpec_modelExt c.p hp (by omega)) s k

theorem from_string_rejects_malformed_model (c : Curve) (hc : c ∈ Gen.curveTable) (hp : c.p.Prime) (s : Bytes)
    (validate : Bool) (e : PyErr) (h : VK.fromString KeysWire.modelExt c s validate = .error e) : e = .malformedPoint := by
  have hodd : c.p % 2 = 1 := (table_p_odd _ hc).1
  exact from_string_rejects_malformed KeysWire.modelExt c hp.pos (sqrtSpec_modelExt c.p hp (by omega)) s validate e h

/-! ### the subgroup clause in group terms (`InSubgroup` = "(x, y) is a point of ⟨G⟩" in Mathlib's point group)

FULL statement of C08 for `from_string`, validation on: `accepted ⇔ Encodes ∧ x, y < p ∧ InSubgroup`.
* `from_string_accepts_iff_subgroup_cofactor_one`: PROVED for the 16 cofactor-1 curves (hypotheses: p, n prime, #E(𝔽_p) = n).
* `from_string_accepts_subgroup_points`: the ⇐ half PROVED for all 17 curves (cofactor 4 included; no #E hypothesis).
* the ⇒ half for cofactor ≠ 1 is FALSE on the unchanged code (open known finding K2: the `example` below exhibits
  accepted points of order 2 and 2n on SECP112r2); there only `from_string_accepts_iff_model_partial` is available. -/

theorem from_string_accepts_subgroup_points (c : Curve) (hc : c ∈ Gen.curveTable) [Fact c.p.Prime] (hn : c.n.Prime)
    (s : Bytes) (x y : Nat) (henc : Encodes (Util.orderlen c.p) s x y) (hx : x < c.p) (hy : y < c.p)
    (hsub : InSubgroup c (Named.checked_of_mem hc) x y) :
    VK.fromString KeysWire.modelExt c s true = .ok ⟨c, x, y⟩ := by
  have hp : c.p.Prime := Fact.out
  exact (from_string_accepts_iff_partial KeysWire.modelExt c hp (table_p_odd _ hc).1 (table_p_odd _ hc).2
    (sqrtSpec_modelExt c.p hp (by have := (table_p_odd _ hc).1; omega)) s ⟨c, x, y⟩).mpr
    ⟨rfl, henc, validPoint_of_inSubgroup c (Named.checked_of_mem hc) hn x y hx hy hsub⟩

theorem from_string_accepts_iff_subgroup_cofactor_one (c : Curve) (hc : c ∈ Gen.curveTable) [Fact c.p.Prime]
    (hn : c.n.Prime) (hh : c.h = 1)
    (hcard : Nat.card (Jac.Grp ((c.a : ℤ) : ZMod c.p) ((c.b : ℤ) : ZMod c.p)) = c.n) (s : Bytes) (k : VK) :
    VK.fromString KeysWire.modelExt c s true = .ok k ↔
      k.curve = c ∧ Encodes (Util.orderlen c.p) s k.x k.y ∧ k.x < c.p ∧ k.y < c.p ∧
        InSubgroup c (Named.checked_of_mem hc) k.x k.y := by
  have hp : c.p.Prime := Fact.out
  rw [from_string_accepts_iff_model_partial c hc hp]
  constructor
  · rintro ⟨h1, h2, h3, h4, h5, h6⟩
    exact ⟨h1, h2, h3, h4, inSubgroup_of_validPoint c (Named.checked_of_mem hc) hn hcard k.x k.y ⟨h3, h4, h5, h6⟩⟩
  · rintro ⟨h1, h2, h3, h4, h5⟩
    obtain ⟨_, _, v3, v4⟩ := validPoint_of_inSubgroup c (Named.checked_of_mem hc) hn k.x k.y h3 h4 h5
    exact ⟨h1, h2, h3, h4, v3, v4⟩

/-- `VerifyingKey.from_der` accepts `s` ⇔ `s` is byte for byte the canonical DER (spec encoder of `Proofs/Asn1.lean`) of
`SubjectPublicKeyInfo { { id-ecPublicKey, OID of a curve of the table }, BIT STRING with 0 unused bits }`, the bit-string
payload is not of the raw length, and `from_string` (validation on) accepts the payload — the key is then the one
`from_string` returns (characterised by `from_string_accepts_iff_partial`, whence the `_partial`). -/
theorem from_der_accepts_iff_partial (E : Ext) (s : Bytes) (k : VK) :
    VK.fromDer E s = .ok k ↔
      ∃ c : Curve, c ∈ Gen.curveTable ∧ ∃ pt : Bytes, s = (spki c.oid pt).enc ∧ pt.length ≠ c.vkLen ∧
        VK.fromString E c pt true = .ok k := by
  constructor
  · intro h
    obtain ⟨c, hc, pt, ⟨hs, hraw, _⟩, hfs⟩ := (vk_fromDer_outcome E s).ok h
    exact ⟨c, hc, pt, hs, hraw, hfs⟩
  · rintro ⟨c, hc, pt, hs, hraw, hfs⟩
    have hptl : pt.length ≤ 133 := by
      have := fromString_ok_length E c pt true k hfs
      have := (table_orderlen_le _ hc).1
      omega
    rw [hs, vk_fromDer_spec E c hc pt hptl hraw]
    exact hfs

/-- every other DER input raises `UnexpectedDER` (bad wrapper), `UnknownCurveError` (unknown OID) or
`MalformedPointError` (bad point inside a good wrapper) -/
theorem from_der_rejects_documented (E : Ext) (hsq : ∀ c ∈ Gen.curveTable, SqrtSpec E.sqrtModP c.p) (s : Bytes) (e : PyErr)
    (h : VK.fromDer E s = .error e) : e = .unexpectedDER ∨ e = .malformedPoint ∨ e = .unknownCurve :=
  vk_fromDer_err E hsq s e h

/-- a `MalformedPointError` from `from_der` means the wrapper was a canonical SPKI of a table curve and only the point
was refused; so a bad wrapper is always `UnexpectedDER` / `UnknownCurveError` -/
theorem from_der_malformed_point_only_for_good_wrapper (E : Ext) (s : Bytes)
    (h : VK.fromDer E s = .error .malformedPoint) :
    ∃ c : Curve, c ∈ Gen.curveTable ∧ ∃ pt : Bytes, ∃ rest : Bytes, Der.removeBitstring rest (.some 0) = .ok (pt, none, []) ∧
      pt.length ≠ c.vkLen ∧ VK.fromString E c pt true = .error .malformedPoint := by
  rcases vk_fromDer_outcome E s with h' | h' | ⟨c, hc, pt, ⟨_, hraw, bits, hb⟩, h'⟩
  · cases h.symm.trans h'
  · cases h.symm.trans h'
  · exact ⟨c, hc, pt, bits, hb, hraw, h'.symm.trans h⟩

/-- `from_pem` is `from_der` of the armour's payload (so the same characterisation applies); a bad armour is
`UnexpectedDER` -/
theorem from_pem_is_from_der_of_unpem (E : Ext) (pem : Bytes) :
    VK.fromPem E pem = (match unpem E pem with | .error _ => .error .unexpectedDER | .ok d => VK.fromDer E d) := by
  unfold VK.fromPem
  cases h : unpem E pem with
  | error e => rw [unpem_err E pem e h]
  | ok d => rfl

/-! ### non-vacuity: the generator of NIST P-192, uncompressed, is an `Encodes`-encoding of a `ValidPoint` -/

def noExt : Ext := { subgroupOk := fun _ _ _ => true, sqrtModP := fun _ _ => .error .squareRoot,
                     pubPoint := fun _ _ => none, b64decode := fun _ => none }

example : ValidPoint noExt Gen.curve_NIST192p Gen.curve_NIST192p.gx Gen.curve_NIST192p.gy := by
  unfold ValidPoint; decide +kernel

example : Gen.curve_NIST192p.p % 2 = 1 ∧ Gen.curve_NIST192p.n ≠ 0 ∧ Gen.curve_NIST192p.h = 1 := by decide +kernel

/-- the model really accepts it (kernel evaluation of the executable model), and rejects the alias `x + p` -/
example :
    VK.fromString noExt Gen.curve_NIST192p
      (0x04 :: (beFixed 24 Gen.curve_NIST192p.gx ++ beFixed 24 Gen.curve_NIST192p.gy)) true
      = .ok ⟨Gen.curve_NIST192p, Gen.curve_NIST192p.gx, Gen.curve_NIST192p.gy⟩ := by decide +kernel

example :
    VK.fromString noExt Gen.curve_SECP112r1
      (0x04 :: (beFixed 14 (Gen.curve_SECP112r1.gx + Gen.curve_SECP112r1.p) ++ beFixed 14 Gen.curve_SECP112r1.gy)) true
      = .error .malformedPoint := by decide +kernel

/-- the DER wrapper on a concrete key: the spec-encoded SPKI of the NIST P-192 base point is accepted by the model -/
example :
    VK.fromDer noExt (spki Gen.curve_NIST192p.oid
      (0x04 :: (beFixed 24 Gen.curve_NIST192p.gx ++ beFixed 24 Gen.curve_NIST192p.gy))).enc
      = .ok ⟨Gen.curve_NIST192p, Gen.curve_NIST192p.gx, Gen.curve_NIST192p.gy⟩ := by decide +kernel

/-- **K2 (open known finding) reproduced in the composed model by kernel evaluation**: on SECP112r2 (cofactor 4) the point
of order 2 (y = 0) and the point x = 0 of order 2n are ACCEPTED by `from_string` with the point-arithmetic model as
subgroup test (`n * point` is INFINITY at once when y = 0, and lands on the order-2 point, which the code treats as the
identity), although they are not multiples of G; a point of order 4 is rejected, as it should be.  The replay on the
real code is the search of `harness/props/C08.py`. -/
example :
    VK.fromString KeysWire.modelExt Gen.curve_SECP112r2
      (0x04 :: (beFixed 14 0xb1fd8de127d4656b573eb513984d ++ beFixed 14 0)) true
      = .ok ⟨Gen.curve_SECP112r2, 0xb1fd8de127d4656b573eb513984d, 0⟩
    ∧ VK.fromString KeysWire.modelExt Gen.curve_SECP112r2 (0x02 :: beFixed 14 0) true
      = .ok ⟨Gen.curve_SECP112r2, 0, 4068388951543491789236932070092414⟩
    ∧ VK.fromString KeysWire.modelExt Gen.curve_SECP112r2
      (0x04 :: (beFixed 14 3610075134545239076002374364665932 ++ beFixed 14 964432197919735907550954472026594)) true
      = .error .malformedPoint := by decide +kernel

/-- K2 in the model's terms: the order-2 point of SECP112r2 passes every check except the subgroup clause — whatever
the instantiated `subgroupOk` answers for it is what `from_string` answers -/
example : onCurve Gen.curve_SECP112r2 0xb1fd8de127d4656b573eb513984d 0 = true
    ∧ (0xb1fd8de127d4656b573eb513984d : Nat) < Gen.curve_SECP112r2.p ∧ Gen.curve_SECP112r2.h = 4 := by decide +kernel

end C08
