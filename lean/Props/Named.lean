import Proofs.NamedCurves
import Props.C01
import Props.C02
import Props.C03
import Props.C13b
import Props.C14
/-!
# Named — the ECDSA theorems instantiated on the 17 named curves of the generated table

`Gen.curveTable` is rewritten from `curves.py` / `ecdsa.py` on every run.  For every row `r` the kernel evaluates
(`Named.all_rows_checked`, `Proofs/NamedChecks.lean`): p > 2, n odd, base point reduced and on the curve, discriminant ≠ 0 and
**`n • (Gx, Gy) = ∞`** (certified reference multiplication, proved equal to Mathlib's `•` with no 2-torsion hypothesis).
So the order of every base point is CHECKED, not assumed.  Remaining hypotheses of the statements below, all explicit:
`Nat.Prime r.p` (as the instance `Fact`, needed for `ZMod p` to be a field), `Nat.Prime r.n`, and — only for recovery —
the SEC 2 / FIPS fact `#E(𝔽_p) = n` (cofactor 1).  The 34 primality hypotheses are themselves discharged by certificates in
`Props/NamedPrimes.lean`.

The model objects are `Ecdsa.OnCurve.ops (Named.crvOf r)` (= `Model/Curve.lean`, `ellipticcurve.py` as written, driven
against the real code by the correspondence runs of C01–C03/C06/C07), the group is Mathlib's
`WeierstrassCurve.Affine.Point` of y² = x³ + ax + b over `ZMod p`, `Named.baseCtx r _` bundles ⟦G⟧ = (Gx, Gy) and `n`.
-/
namespace Named
open Ecdsa GroupInterface Jac

variable {r : Gen.CurveRow} [Fact (Nat.Prime r.p)]

/-- **order of the base point, checked per run**: `n • ⟦G⟧ = 0` in Mathlib's group and ⟨G⟩ has no element of order 2
(N2T, the hypothesis of C06/C07, discharged) — for every row of the generated table, no hypothesis besides `p` prime -/
theorem order_of_G_checked (hr : r ∈ Gen.curveTable) :
    (r.n : ℤ) • (baseCtx r (checked_of_mem hr)).G = 0 ∧ NoOrder2 (baseCtx r (checked_of_mem hr)).H ∧
    (baseCtx r (checked_of_mem hr)).n = r.n ∧
    ∃ hns, (baseCtx r (checked_of_mem hr)).G = WeierstrassCurve.Affine.Point.some ((r.gx : ℤ) : ZMod r.p) ((r.gy : ℤ) : ZMod r.p) hns :=
  ⟨nG_eq_zero (checked_of_mem hr), (baseCtx r (checked_of_mem hr)).n2t, rfl, G_nonsingular (checked_of_mem hr), rfl⟩

theorem matches_named (hr : r ∈ Gen.curveTable) (hn : Nat.Prime r.n) :
    OnCurve.Matches (crvOf r) (baseCtx r (checked_of_mem hr)) :=
  matches_row _ hn

theorem matchesRec_named (hr : r ∈ Gen.curveTable) (hn : Nat.Prime r.n)
    (hcard : Nat.card (Grp (r.a : ZMod r.p) (r.b : ZMod r.p)) = r.n) :
    OnCurve.MatchesRec (crvOf r) (baseCtx r (checked_of_mem hr)) :=
  matchesRec_row _ hn hcard

/-- consequence for the model's OWN multiplication (`PointJacobi.__mul__` with the generator table): `n * G` is the
object INFINITY — a theorem (from `GroupInterface.mul`), not an evaluation; `n` need not be prime for it -/
theorem n_times_G_is_infinity (hr : r ∈ Gen.curveTable) :
    Curve.pjMul ⟨OnCurve.crvOf (crvOf r), r.gx, r.gy, 1, some r.n, true⟩ r.n = .ok .infinity := by
  have K := checked_of_mem hr
  obtain ⟨R, e, hR⟩ := GroupInterface.mul (p_ne_two K) (baseCtx r K) (genRep_row K) (Or.inl rfl) (r.n : ℤ)
  rw [e]
  rcases result_cases hR with ⟨h, _⟩ | ⟨J, _, _, hne⟩ | ⟨A, _, _, hne⟩
  · rw [h]
  · exact absurd (nG_eq_zero K) hne
  · exact absurd (nG_eq_zero K) hne

/-- the same under the hypotheses the other statements of this file carry -/
theorem model_n_times_G_is_infinity (hr : r ∈ Gen.curveTable) (hn : Nat.Prime r.n) :
    Curve.pjMul ⟨OnCurve.crvOf (crvOf r), r.gx, r.gy, 1, some r.n, true⟩ r.n = .ok .infinity :=
  n_times_G_is_infinity hr

/-- C02 on the named curves: `Public_key.verifies` returns a boolean and says `True` exactly by the FIPS 186-4 rule -/
theorem verifies_iff_fips (hr : r ∈ Gen.curveTable) (hn : Nat.Prime r.n) (Q : Curve.Pt)
    (hQ : OnCurve.Valid (baseCtx r (checked_of_mem hr)) Q) (e r' s : ℤ) :
    (verifies (OnCurve.ops (crvOf r)) Q e r' s = .ok true ∨ verifies (OnCurve.ops (crvOf r)) Q e r' s = .ok false) ∧
    (verifies (OnCurve.ops (crvOf r)) Q e r' s = .ok true ↔
      Fips r.n (baseCtx r (checked_of_mem hr)).G (OnCurve.den (baseCtx r (checked_of_mem hr)) Q) OnCurve.xcOf e r' s) :=
  C02.verifies_iff_fips_on_curve (crvOf r) _ (matches_named hr hn) Q hQ e r' s

/-- C03 on the named curves: `Private_key.sign` returns the standard pair `r = x(kG) mod n`, `s = k⁻¹(e + r d) mod n` -/
theorem sign_eq_standard (hr : r ∈ Gen.curveTable) (hn : Nat.Prime r.n) (d e k : ℤ) (hk : 1 ≤ k ∧ k < r.n) :
    ∃ x, OnCurve.xcOf (k • (baseCtx r (checked_of_mem hr)).G) = some x ∧
      sign (OnCurve.ops (crvOf r)) d e k =
        (let r' := x % (r.n : ℤ)
         let s := invZ r.n k * (e + r' * d) % (r.n : ℤ)
         if r' = 0 ∨ s = 0 then .error .rsZero else .ok (r', s)) :=
  C03.sign_eq_standard_on_curve (crvOf r) _ (matches_named hr hn) d e k hk

/-- C03: the public point of a secret `d ∈ [1, n−1]` denotes `d • G` -/
theorem pubkey_eq_dG (hr : r ∈ Gen.curveTable) (hn : Nat.Prime r.n) (d : ℤ) (hd : 1 ≤ d ∧ d < r.n) :
    ∃ A, fromSecretExponent (OnCurve.ops (crvOf r)) d = .ok A ∧ OnCurve.Valid (baseCtx r (checked_of_mem hr)) A ∧
      OnCurve.den (baseCtx r (checked_of_mem hr)) A = d • (baseCtx r (checked_of_mem hr)).G :=
  (C03.pubkey_eq_dG_on_curve (crvOf r) _ (matches_named hr hn) d).1 hd

/-- C01 on the named curves: whatever `sign_digest` returns verifies under the key of the same secret, for every
round-tripping encoder/decoder pair, nonce source and truncation flag -/
theorem sign_then_verify {β σ : Type} (hr : r ∈ Gen.curveTable) (hn : Nat.Prime r.n)
    (d : ℤ) (hd : 1 ≤ d ∧ d < r.n) (dg : Bytes) (k : Option ℤ) (rand : ℤ → Res ℤ)
    (enc : ℤ → ℤ → ℤ → Res β) (wrap : β → σ) (dec : σ → ℕ → Res (ℕ × ℕ)) (hcodec : Codec enc wrap dec r.n)
    (allow : Bool) (sig : β) (hsig : signDigest (OnCurve.ops (crvOf r)) d dg k rand enc allow = .ok sig) :
    ∃ Q, fromSecretExponent (OnCurve.ops (crvOf r)) d = .ok Q ∧
      verifyDigest (OnCurve.ops (crvOf r)) Q dec (wrap sig) dg allow = .ok true :=
  C01.sign_then_verify_on_curve (crvOf r) _ (matches_named hr hn) d hd dg k rand enc wrap dec hcodec allow sig hsig

/-- C13 (group half) on the named curves: `(r, n − s)` verifies iff `(r, s)` does -/
theorem verifies_neg_s (hr : r ∈ Gen.curveTable) (hn : Nat.Prime r.n) (Q : Curve.Pt)
    (hQ : OnCurve.Valid (baseCtx r (checked_of_mem hr)) Q) (e r' s : ℤ) :
    verifies (OnCurve.ops (crvOf r)) Q e r' ((r.n : ℤ) - s) = verifies (OnCurve.ops (crvOf r)) Q e r' s :=
  C13b.verifies_neg_s_on_curve (crvOf r) _ (matches_named hr hn) Q hQ e r' s

/-- C14 on the named curves with cofactor 1 (hypothesis #E(𝔽_p) = n): recovery from an honest signature returns at most
two keys, among them the signer's, all verifying -/
theorem recovery (hr : r ∈ Gen.curveTable) (hn : Nat.Prime r.n)
    (hcard : Nat.card (Grp (r.a : ZMod r.p) (r.b : ZMod r.p)) = r.n)
    (d e k r' s x0 : ℤ)
    (H : Honest (OnCurve.ops (crvOf r)) (baseCtx r (checked_of_mem hr)).G OnCurve.xcOf d e k r' s x0) :
    ∃ l, recoverPublicKeys (OnCurve.ops (crvOf r)) NT.squareRootModPrime r' s e = .ok l ∧ l.length ≤ 2 ∧
      (∃ A ∈ l, OnCurve.Valid (baseCtx r (checked_of_mem hr)) A ∧
        OnCurve.den (baseCtx r (checked_of_mem hr)) A = d • (baseCtx r (checked_of_mem hr)).G) ∧
      ∀ A ∈ l, verifies (OnCurve.ops (crvOf r)) A e r' s = .ok true :=
  C14.recovery_on_curve (crvOf r) _ (matchesRec_named hr hn hcard) d e k r' s x0 H

/-! ### per-curve corollaries: `OnCurve.Matches` from `p`, `n` prime only (order of G checked by kernel evaluation) -/

theorem mem_NIST192p : Gen.curve_NIST192p ∈ Gen.curveTable := by simp [Gen.curveTable]

theorem matches_NIST192p [Fact (Nat.Prime Gen.curve_NIST192p.p)] (hn : Nat.Prime Gen.curve_NIST192p.n) :
    OnCurve.Matches (crvOf Gen.curve_NIST192p) (baseCtx Gen.curve_NIST192p (checked_of_mem mem_NIST192p)) :=
  matches_named mem_NIST192p hn

theorem mem_NIST224p : Gen.curve_NIST224p ∈ Gen.curveTable := by simp [Gen.curveTable]

theorem matches_NIST224p [Fact (Nat.Prime Gen.curve_NIST224p.p)] (hn : Nat.Prime Gen.curve_NIST224p.n) :
    OnCurve.Matches (crvOf Gen.curve_NIST224p) (baseCtx Gen.curve_NIST224p (checked_of_mem mem_NIST224p)) :=
  matches_named mem_NIST224p hn

theorem mem_NIST256p : Gen.curve_NIST256p ∈ Gen.curveTable := by simp [Gen.curveTable]

theorem matches_NIST256p [Fact (Nat.Prime Gen.curve_NIST256p.p)] (hn : Nat.Prime Gen.curve_NIST256p.n) :
    OnCurve.Matches (crvOf Gen.curve_NIST256p) (baseCtx Gen.curve_NIST256p (checked_of_mem mem_NIST256p)) :=
  matches_named mem_NIST256p hn

theorem mem_NIST384p : Gen.curve_NIST384p ∈ Gen.curveTable := by simp [Gen.curveTable]

theorem matches_NIST384p [Fact (Nat.Prime Gen.curve_NIST384p.p)] (hn : Nat.Prime Gen.curve_NIST384p.n) :
    OnCurve.Matches (crvOf Gen.curve_NIST384p) (baseCtx Gen.curve_NIST384p (checked_of_mem mem_NIST384p)) :=
  matches_named mem_NIST384p hn

theorem mem_NIST521p : Gen.curve_NIST521p ∈ Gen.curveTable := by simp [Gen.curveTable]

theorem matches_NIST521p [Fact (Nat.Prime Gen.curve_NIST521p.p)] (hn : Nat.Prime Gen.curve_NIST521p.n) :
    OnCurve.Matches (crvOf Gen.curve_NIST521p) (baseCtx Gen.curve_NIST521p (checked_of_mem mem_NIST521p)) :=
  matches_named mem_NIST521p hn

theorem mem_SECP256k1 : Gen.curve_SECP256k1 ∈ Gen.curveTable := by simp [Gen.curveTable]

theorem matches_SECP256k1 [Fact (Nat.Prime Gen.curve_SECP256k1.p)] (hn : Nat.Prime Gen.curve_SECP256k1.n) :
    OnCurve.Matches (crvOf Gen.curve_SECP256k1) (baseCtx Gen.curve_SECP256k1 (checked_of_mem mem_SECP256k1)) :=
  matches_named mem_SECP256k1 hn

theorem mem_BRAINPOOLP160r1 : Gen.curve_BRAINPOOLP160r1 ∈ Gen.curveTable := by simp [Gen.curveTable]

theorem matches_BRAINPOOLP160r1 [Fact (Nat.Prime Gen.curve_BRAINPOOLP160r1.p)] (hn : Nat.Prime Gen.curve_BRAINPOOLP160r1.n) :
    OnCurve.Matches (crvOf Gen.curve_BRAINPOOLP160r1) (baseCtx Gen.curve_BRAINPOOLP160r1 (checked_of_mem mem_BRAINPOOLP160r1)) :=
  matches_named mem_BRAINPOOLP160r1 hn

theorem mem_BRAINPOOLP192r1 : Gen.curve_BRAINPOOLP192r1 ∈ Gen.curveTable := by simp [Gen.curveTable]

theorem matches_BRAINPOOLP192r1 [Fact (Nat.Prime Gen.curve_BRAINPOOLP192r1.p)] (hn : Nat.Prime Gen.curve_BRAINPOOLP192r1.n) :
    OnCurve.Matches (crvOf Gen.curve_BRAINPOOLP192r1) (baseCtx Gen.curve_BRAINPOOLP192r1 (checked_of_mem mem_BRAINPOOLP192r1)) :=
  matches_named mem_BRAINPOOLP192r1 hn

theorem mem_BRAINPOOLP224r1 : Gen.curve_BRAINPOOLP224r1 ∈ Gen.curveTable := by simp [Gen.curveTable]

theorem matches_BRAINPOOLP224r1 [Fact (Nat.Prime Gen.curve_BRAINPOOLP224r1.p)] (hn : Nat.Prime Gen.curve_BRAINPOOLP224r1.n) :
    OnCurve.Matches (crvOf Gen.curve_BRAINPOOLP224r1) (baseCtx Gen.curve_BRAINPOOLP224r1 (checked_of_mem mem_BRAINPOOLP224r1)) :=
  matches_named mem_BRAINPOOLP224r1 hn

theorem mem_BRAINPOOLP256r1 : Gen.curve_BRAINPOOLP256r1 ∈ Gen.curveTable := by simp [Gen.curveTable]

theorem matches_BRAINPOOLP256r1 [Fact (Nat.Prime Gen.curve_BRAINPOOLP256r1.p)] (hn : Nat.Prime Gen.curve_BRAINPOOLP256r1.n) :
    OnCurve.Matches (crvOf Gen.curve_BRAINPOOLP256r1) (baseCtx Gen.curve_BRAINPOOLP256r1 (checked_of_mem mem_BRAINPOOLP256r1)) :=
  matches_named mem_BRAINPOOLP256r1 hn

theorem mem_BRAINPOOLP320r1 : Gen.curve_BRAINPOOLP320r1 ∈ Gen.curveTable := by simp [Gen.curveTable]

theorem matches_BRAINPOOLP320r1 [Fact (Nat.Prime Gen.curve_BRAINPOOLP320r1.p)] (hn : Nat.Prime Gen.curve_BRAINPOOLP320r1.n) :
    OnCurve.Matches (crvOf Gen.curve_BRAINPOOLP320r1) (baseCtx Gen.curve_BRAINPOOLP320r1 (checked_of_mem mem_BRAINPOOLP320r1)) :=
  matches_named mem_BRAINPOOLP320r1 hn

theorem mem_BRAINPOOLP384r1 : Gen.curve_BRAINPOOLP384r1 ∈ Gen.curveTable := by simp [Gen.curveTable]

theorem matches_BRAINPOOLP384r1 [Fact (Nat.Prime Gen.curve_BRAINPOOLP384r1.p)] (hn : Nat.Prime Gen.curve_BRAINPOOLP384r1.n) :
    OnCurve.Matches (crvOf Gen.curve_BRAINPOOLP384r1) (baseCtx Gen.curve_BRAINPOOLP384r1 (checked_of_mem mem_BRAINPOOLP384r1)) :=
  matches_named mem_BRAINPOOLP384r1 hn

theorem mem_BRAINPOOLP512r1 : Gen.curve_BRAINPOOLP512r1 ∈ Gen.curveTable := by simp [Gen.curveTable]

theorem matches_BRAINPOOLP512r1 [Fact (Nat.Prime Gen.curve_BRAINPOOLP512r1.p)] (hn : Nat.Prime Gen.curve_BRAINPOOLP512r1.n) :
    OnCurve.Matches (crvOf Gen.curve_BRAINPOOLP512r1) (baseCtx Gen.curve_BRAINPOOLP512r1 (checked_of_mem mem_BRAINPOOLP512r1)) :=
  matches_named mem_BRAINPOOLP512r1 hn

theorem mem_SECP112r1 : Gen.curve_SECP112r1 ∈ Gen.curveTable := by simp [Gen.curveTable]

theorem matches_SECP112r1 [Fact (Nat.Prime Gen.curve_SECP112r1.p)] (hn : Nat.Prime Gen.curve_SECP112r1.n) :
    OnCurve.Matches (crvOf Gen.curve_SECP112r1) (baseCtx Gen.curve_SECP112r1 (checked_of_mem mem_SECP112r1)) :=
  matches_named mem_SECP112r1 hn

theorem mem_SECP112r2 : Gen.curve_SECP112r2 ∈ Gen.curveTable := by simp [Gen.curveTable]

theorem matches_SECP112r2 [Fact (Nat.Prime Gen.curve_SECP112r2.p)] (hn : Nat.Prime Gen.curve_SECP112r2.n) :
    OnCurve.Matches (crvOf Gen.curve_SECP112r2) (baseCtx Gen.curve_SECP112r2 (checked_of_mem mem_SECP112r2)) :=
  matches_named mem_SECP112r2 hn

theorem mem_SECP128r1 : Gen.curve_SECP128r1 ∈ Gen.curveTable := by simp [Gen.curveTable]

theorem matches_SECP128r1 [Fact (Nat.Prime Gen.curve_SECP128r1.p)] (hn : Nat.Prime Gen.curve_SECP128r1.n) :
    OnCurve.Matches (crvOf Gen.curve_SECP128r1) (baseCtx Gen.curve_SECP128r1 (checked_of_mem mem_SECP128r1)) :=
  matches_named mem_SECP128r1 hn

theorem mem_SECP160r1 : Gen.curve_SECP160r1 ∈ Gen.curveTable := by simp [Gen.curveTable]

theorem matches_SECP160r1 [Fact (Nat.Prime Gen.curve_SECP160r1.p)] (hn : Nat.Prime Gen.curve_SECP160r1.n) :
    OnCurve.Matches (crvOf Gen.curve_SECP160r1) (baseCtx Gen.curve_SECP160r1 (checked_of_mem mem_SECP160r1)) :=
  matches_named mem_SECP160r1 hn

/-- non-vacuity: the table has 17 rows, all pass the kernel checks; e.g. on NIST256p `n • G = ∞` by evaluation while
`(n + 1) • G ≠ ∞` -/
example : Gen.curveTable.length = 17 ∧ (∀ r ∈ Gen.curveTable, rowChecks r = true) := ⟨table_length, all_rows_checked⟩
example : CertAff.mulIsZero Gen.curve_NIST256p.p Gen.curve_NIST256p.a (Gen.curve_NIST256p.n + 1) Gen.curve_NIST256p.gx
    Gen.curve_NIST256p.gy = false := by rw [CertAff.mulIsZero_eq (by decide)]; decide +kernel

end Named
