import Proofs.EcdsaInstLegacy
import Proofs.EcdsaCodec
import Proofs.EcdsaInstNamed
import Proofs.EcdsaInstToy
import Proofs.EcdsaInstCurve
import Proofs.EcdsaEntry
import Proofs.EcdsaKeys
import Proofs.EcdsaToy
/-!
# C01 — every signature the library makes verifies under the matching public key

For every secret `d` with public point `Q` denoting `d • G`, every digest / message, every nonce source, every
encoder/decoder pair that round-trips (`Codec`: the decoder returns `r` and `s` or `n − s` — the facts C12 / C13
prove about the six encoders of `util.py`), every entry point, and equal truncation flags on both sides:
if signing returns a signature, verification returns `True`.

Nonce sources: an explicit `k`, or `randrange(order, entropy)` (any function: `sign_number` asserts `1 ≤ k < n`),
or RFC 6979's `generate_k` (any function of the retry counter; the `RSZeroError` retry loop is modelled with fuel,
the theorem covers every run that returns).  Hash functions are arbitrary (`H`), of any output length.
-/
namespace C01
open Ecdsa

variable {P : Type} {𝔾 : Type} [AddCommGroup 𝔾]
variable {ops : PointOps P} {G : 𝔾} {den : P → 𝔾} {xc : 𝔾 → Option ℤ} {valid : P → Prop}

/-- integer level (`Private_key.sign` → `Public_key.verifies`), every nonce not divisible by `n`.
Algebra: `u₁ + u₂ d ≡ s⁻¹(e + r d) ≡ k (mod n)`, so `R = k • G`. -/
theorem sign_then_verifies (C : PointOpsCorrect ops G den xc valid) (d e k r s : ℤ) (hk : ¬ ops.order ∣ k)
    (hsig : sign ops d e k = .ok (r, s)) (Q : P) (hQ : valid Q) (hQd : den Q = d • G) :
    verifies ops Q e r s = .ok true :=
  sign_verifies C d e k r s hk hsig Q hQ hQd

/-- entry point `sign_number` (+ manual encoding): explicit nonce or `randrange` -/
theorem sign_number_then_verifies (C : PointOpsCorrect ops G den xc valid) (d e : ℤ) (k : Option ℤ) (rand : ℤ → Res ℤ)
    (r s : ℤ) (hsig : signNumber ops d e k rand = .ok (r, s)) (Q : P) (hQ : valid Q) (hQd : den Q = d • G) :
    verifies ops Q e r s = .ok true :=
  (signNumber_verifies C d e k rand r s hsig Q hQ hQd).1

/-- entry point `sign_digest` → `verify_digest` -/
theorem sign_then_verify {β σ : Type} (C : PointOpsCorrect ops G den xc valid) (d : ℤ) (Q : P) (hQ : valid Q)
    (hQd : den Q = d • G) (dg : Bytes) (k : Option ℤ) (rand : ℤ → Res ℤ)
    (enc : ℤ → ℤ → ℤ → Res β) (wrap : β → σ) (dec : σ → ℕ → Res (ℕ × ℕ)) (hcodec : Codec enc wrap dec ops.order)
    (allow : Bool) (sig : β) (hsig : signDigest ops d dg k rand enc allow = .ok sig) :
    verifyDigest ops Q dec (wrap sig) dg allow = .ok true :=
  signDigest_verifies C d Q hQ hQd dg k rand enc wrap dec hcodec allow sig hsig

/-- entry point `sign` (hashing) → `verify` -/
theorem sign_data_then_verify {β σ : Type} (C : PointOpsCorrect ops G den xc valid) (d : ℤ) (Q : P) (hQ : valid Q)
    (hQd : den Q = d • G) (H : Bytes → Bytes) (data : Bytes) (k : Option ℤ) (rand : ℤ → Res ℤ)
    (enc : ℤ → ℤ → ℤ → Res β) (wrap : β → σ) (dec : σ → ℕ → Res (ℕ × ℕ)) (hcodec : Codec enc wrap dec ops.order)
    (allow : Bool) (sig : β) (hsig : signData ops d H data k rand enc allow = .ok sig) :
    verify ops Q H dec (wrap sig) data allow = .ok true :=
  signDigest_verifies C d Q hQ hQd (H data) k rand enc wrap dec hcodec allow sig hsig

/-- entry point `sign_digest_deterministic` → `verify_digest` (every run of the retry loop that returns) -/
theorem sign_digest_deterministic_then_verify {β σ : Type} (C : PointOpsCorrect ops G den xc valid) (d : ℤ) (Q : P)
    (hQ : valid Q) (hQd : den Q = d • G) (dg : Bytes) (genK : ℕ → Res ℤ)
    (enc : ℤ → ℤ → ℤ → Res β) (wrap : β → σ) (dec : σ → ℕ → Res (ℕ × ℕ)) (hcodec : Codec enc wrap dec ops.order)
    (allow : Bool) (fuel : ℕ) (sig : β)
    (hsig : signDigestDeterministic ops d dg genK enc allow fuel 0 = some (.ok sig)) :
    verifyDigest ops Q dec (wrap sig) dg allow = .ok true :=
  signDigestDeterministic_verifies C d Q hQ hQd dg genK enc wrap dec hcodec allow fuel 0 sig hsig

/-- entry point `sign_deterministic` (hashing, always truncating) → `verify` with its default `allow_truncate=True` -/
theorem sign_deterministic_then_verify {β σ : Type} (C : PointOpsCorrect ops G den xc valid) (d : ℤ) (Q : P)
    (hQ : valid Q) (hQd : den Q = d • G) (H : Bytes → Bytes) (data : Bytes) (genK : Bytes → ℕ → Res ℤ)
    (enc : ℤ → ℤ → ℤ → Res β) (wrap : β → σ) (dec : σ → ℕ → Res (ℕ × ℕ)) (hcodec : Codec enc wrap dec ops.order)
    (fuel : ℕ) (sig : β) (hsig : signDeterministic ops d H data genK enc fuel = some (.ok sig)) :
    verify ops Q H dec (wrap sig) data true = .ok true :=
  signDigestDeterministic_verifies C d Q hQ hQd (H data) (genK (H data)) enc wrap dec hcodec true fuel 0 sig hsig

/-- **the six encoders of `util.py`** (`sigencode_string`, `_strings`, `_der` and their `_canonize` variants) with
their decoders are codec pairs in the sense required above, for every order `2 ≤ n` (DER: `n ≤ 256^126 = 2^1008`, the
real bound of `der.encode_length`; every curve order is below `2^521`).  From the round-trip theorems of C12 and
`C13.model_canonize`. -/
theorem six_encoders_are_codecs (n : ℤ) (hn : 2 ≤ n) (hbig : n ≤ 256 ^ 126) :
    Codec encString id Util.sigdecodeString n
    ∧ Codec encStrings (fun p : Bytes × Bytes => [p.1, p.2]) Util.sigdecodeStrings n
    ∧ Codec encDer id Util.sigdecodeDer n
    ∧ Codec encStringCanonize id Util.sigdecodeString n
    ∧ Codec encStringsCanonize (fun p : Bytes × Bytes => [p.1, p.2]) Util.sigdecodeStrings n
    ∧ Codec encDerCanonize id Util.sigdecodeDer n :=
  ⟨codec_string n hn, codec_strings n hn, codec_der n hn hbig, codec_string_canonize n hn,
   codec_strings_canonize n hn, codec_der_canonize n hn hbig⟩

/-- hence, concretely: `sign_digest` with any of the six encoders, then `verify_digest` with the matching decoder -/
theorem sign_then_verify_six_encoders (C : PointOpsCorrect ops G den xc valid) (hbig : ops.order ≤ 256 ^ 126)
    (d : ℤ) (Q : P) (hQ : valid Q) (hQd : den Q = d • G) (dg : Bytes) (k : Option ℤ) (rand : ℤ → Res ℤ) (allow : Bool) :
    (∀ sig, signDigest ops d dg k rand encString allow = .ok sig →
        verifyDigest ops Q Util.sigdecodeString sig dg allow = .ok true)
    ∧ (∀ sig, signDigest ops d dg k rand encStrings allow = .ok sig →
        verifyDigest ops Q Util.sigdecodeStrings [sig.1, sig.2] dg allow = .ok true)
    ∧ (∀ sig, signDigest ops d dg k rand encDer allow = .ok sig →
        verifyDigest ops Q Util.sigdecodeDer sig dg allow = .ok true)
    ∧ (∀ sig, signDigest ops d dg k rand encStringCanonize allow = .ok sig →
        verifyDigest ops Q Util.sigdecodeString sig dg allow = .ok true)
    ∧ (∀ sig, signDigest ops d dg k rand encStringsCanonize allow = .ok sig →
        verifyDigest ops Q Util.sigdecodeStrings [sig.1, sig.2] dg allow = .ok true)
    ∧ (∀ sig, signDigest ops d dg k rand encDerCanonize allow = .ok sig →
        verifyDigest ops Q Util.sigdecodeDer sig dg allow = .ok true) := by
  obtain ⟨c1, c2, c3, c4, c5, c6⟩ := six_encoders_are_codecs ops.order C.two_le hbig
  exact ⟨fun sig h => sign_then_verify C d Q hQ hQd dg k rand _ id _ c1 allow sig h,
    fun sig h => sign_then_verify C d Q hQ hQd dg k rand _ _ _ c2 allow sig h,
    fun sig h => sign_then_verify C d Q hQ hQd dg k rand _ id _ c3 allow sig h,
    fun sig h => sign_then_verify C d Q hQ hQd dg k rand _ id _ c4 allow sig h,
    fun sig h => sign_then_verify C d Q hQ hQd dg k rand _ _ _ c5 allow sig h,
    fun sig h => sign_then_verify C d Q hQ hQd dg k rand _ id _ c6 allow sig h⟩

/-- the public point made by `from_secret_exponent` is a legitimate `Q` for all of the above -/
theorem key_pair_ok (C : PointOpsCorrect ops G den xc valid) (d : ℤ) (hd : 1 ≤ d ∧ d < ops.order) :
    ∃ Q, fromSecretExponent ops d = .ok Q ∧ valid Q ∧ den Q = d • G :=
  (fromSecretExponent_spec C d).1 hd

/-! ### non-vacuity (toy group of order 7): d = 3, digest a0 (e = 5), k = 2, raw-string encoding -/
example : fromSecretExponent Toy.ops 3 = .ok (3 : ZMod 7)
    ∧ signDigest Toy.ops 3 [0xa0] (some 2) (fun _ => .error .other) encString true = .ok [2, 2]
    ∧ verifyDigest Toy.ops (3 : ZMod 7) Util.sigdecodeString [2, 2] [0xa0] true = .ok true
    -- the retry loop: digest 20 (e = 1), generate_k yields 2 (s = 0: RSZeroError, retry) then 3
    ∧ sign Toy.ops 3 1 2 = .error .rsZero
    ∧ signDigestDeterministic Toy.ops 3 [0x20] (fun i => .ok (i + 2 : ℕ)) encString true 5 0 = some (.ok [3, 1])
    ∧ verifyDigest Toy.ops (3 : ZMod 7) Util.sigdecodeString [3, 1] [0x20] true = .ok true := by
  decide +kernel

/-! ### the same, for the model of the real point classes
`OnCurve.ops c` under `OnCurve.Matches c C` (Proofs/EcdsaInstCurve.lean: what they are, and the proof of the interface
`PointOpsCorrect` for them); the key is the one `from_secret_exponent` makes. -/
section OnCurve
open GroupInterface
variable {p : ℕ} [Fact p.Prime] {a b : ℤ}

theorem sign_then_verify_on_curve {β σ : Type} (c : Affine.Crv) (C : Ctx p a b) (M : OnCurve.Matches c C)
    (d : ℤ) (hd : 1 ≤ d ∧ d < c.n) (dg : Bytes) (k : Option ℤ) (rand : ℤ → Res ℤ)
    (enc : ℤ → ℤ → ℤ → Res β) (wrap : β → σ) (dec : σ → ℕ → Res (ℕ × ℕ)) (hcodec : Codec enc wrap dec c.n)
    (allow : Bool) (sig : β) (hsig : signDigest (OnCurve.ops c) d dg k rand enc allow = .ok sig) :
    ∃ Q, fromSecretExponent (OnCurve.ops c) d = .ok Q ∧
      verifyDigest (OnCurve.ops c) Q dec (wrap sig) dg allow = .ok true := by
  obtain ⟨Q, hQ, vQ, dQ⟩ := key_pair_ok (OnCurve.pointOpsCorrect c C M) d hd
  exact ⟨Q, hQ, sign_then_verify (OnCurve.pointOpsCorrect c C M) d Q vQ dQ dg k rand enc wrap dec hcodec allow sig hsig⟩

example : ∃ C : Ctx 11 1 6, OnCurve.Matches OnCurve.toyCrv C := OnCurve.toy_matches

end OnCurve

/-! ### the named curves
The 16 rows with cofactor 1, under **p prime, n prime, #E(𝔽_p) = n**.  Neither the last hypothesis nor the restriction to
these rows is needed: `Named.sign_then_verify` (Props/Named.lean) has the same conclusion for every row of the table
from p, n prime alone. -/
section Named
open GroupInterface

theorem sign_then_verify_named (row : Gen.CurveRow) (hrow : row ∈ [Gen.curve_NIST192p, Gen.curve_NIST224p, Gen.curve_NIST256p, Gen.curve_NIST384p,
      Gen.curve_NIST521p, Gen.curve_SECP256k1, Gen.curve_BRAINPOOLP160r1, Gen.curve_BRAINPOOLP192r1,
      Gen.curve_BRAINPOOLP224r1, Gen.curve_BRAINPOOLP256r1, Gen.curve_BRAINPOOLP320r1, Gen.curve_BRAINPOOLP384r1,
      Gen.curve_BRAINPOOLP512r1, Gen.curve_SECP112r1, Gen.curve_SECP128r1, Gen.curve_SECP160r1])
    [Fact row.p.Prime] (hnp : row.n.Prime)
    (hcard : Nat.card (Jac.Grp ((row.a : ℤ) : ZMod row.p) ((row.b : ℤ) : ZMod row.p)) = row.n)
    {β σ : Type} (d : ℤ) (hd : 1 ≤ d ∧ d < row.n) (dg : Bytes) (k : Option ℤ) (rand : ℤ → Res ℤ)
    (enc : ℤ → ℤ → ℤ → Res β) (wrap : β → σ) (dec : σ → ℕ → Res (ℕ × ℕ)) (hcodec : Codec enc wrap dec row.n)
    (allow : Bool) (sig : β)
    (hsig : signDigest (OnCurve.ops (OnCurve.crvOfRow row)) d dg k rand enc allow = .ok sig) :
    ∃ Q, fromSecretExponent (OnCurve.ops (OnCurve.crvOfRow row)) d = .ok Q ∧
      verifyDigest (OnCurve.ops (OnCurve.crvOfRow row)) Q dec (wrap sig) dg allow = .ok true := by
  obtain ⟨C, M, hn⟩ := OnCurve.matchesRec_of_row row hnp hcard (OnCurve.named_sublist.subset hrow)
  exact sign_then_verify_on_curve _ C M.toMatches d hd dg k rand enc wrap dec hcodec allow sig hsig

end Named

/-! ### user-built curves whose generator is a legacy affine `Point` (no `mul_add`)
`OnCurve.MatchesL`, `OnCurve.ValidL` and the interface for them: Proofs/EcdsaInstLegacy.lean.  `verify_digest` then goes
through `u1 * G + u2 * Q` with `Point.__mul__`, `PointJacobi.__mul__` and the mixed `__add__` / `__radd__` dispatch. -/
section Legacy
open GroupInterface
variable {p : ℕ} [Fact p.Prime] {a b : ℤ}

theorem sign_then_verify_legacy {β σ : Type} (c : Affine.Crv) (C : Ctx p a b) (M : OnCurve.MatchesL c C)
    (d : ℤ) (hd : 1 ≤ d ∧ d < c.n) (dg : Bytes) (k : Option ℤ) (rand : ℤ → Res ℤ)
    (enc : ℤ → ℤ → ℤ → Res β) (wrap : β → σ) (dec : σ → ℕ → Res (ℕ × ℕ)) (hcodec : Codec enc wrap dec c.n)
    (allow : Bool) (sig : β) (hsig : signDigest (OnCurve.ops c) d dg k rand enc allow = .ok sig) :
    ∃ Q, fromSecretExponent (OnCurve.ops c) d = .ok Q ∧
      verifyDigest (OnCurve.ops c) Q dec (wrap sig) dg allow = .ok true := by
  obtain ⟨Q, hQ, vQ, dQ⟩ := key_pair_ok (OnCurve.pointOpsCorrect_legacy c C M) d hd
  exact ⟨Q, hQ, sign_then_verify (OnCurve.pointOpsCorrect_legacy c C M) d Q vQ dQ dg k rand enc wrap dec hcodec allow sig hsig⟩

example : ∃ C : Ctx 11 1 6, OnCurve.MatchesL OnCurve.toyCrvL C := OnCurve.toy_matchesL

end Legacy

/-! ### evaluated by the kernel on the model of the real point classes (toy curve y² = x³ + x + 6 over 𝔽₁₁, G = (2,7),
n = 13, driver token `11,1,6,2,7,13,1,j`; secret d = 3, public point Q = 3G = (8,3)) -/
set_option maxRecDepth 4000 in
example :
    let Q : Curve.Pt := .jac ⟨OnCurve.crvOf OnCurve.toyCrv, 8, 3, 1, some 13, false⟩
    fromSecretExponent (OnCurve.ops OnCurve.toyCrv) 3 = .ok Q
    ∧ signDigest (OnCurve.ops OnCurve.toyCrv) 3 [0x50] (some 2) (fun _ => .error .other) encDer true = .ok [48, 6, 2, 1, 5, 2, 1, 10]
    ∧ verifyDigest (OnCurve.ops OnCurve.toyCrv) Q Util.sigdecodeDer [48, 6, 2, 1, 5, 2, 1, 10] [0x50] true = .ok true
    -- low-S encoder: s = 10 > 13 // 2 is reflected to 3, and still verifies
    ∧ signDigest (OnCurve.ops OnCurve.toyCrv) 3 [0x50] (some 2) (fun _ => .error .other) encStringCanonize true = .ok [5, 3]
    ∧ verifyDigest (OnCurve.ops OnCurve.toyCrv) Q Util.sigdecodeString [5, 3] [0x50] true = .ok true :=
  ⟨OnCurve.toy_pubkey, OnCurve.toy_signDigest, OnCurve.toy_verifyDigest, by decide +kernel, by decide +kernel⟩

end C01
