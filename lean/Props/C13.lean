import Generated.UtilCanon
import Model.Util
/-!
# C13 — canonical (low-S) encoders always emit s' = min(s, n − s) ≤ ⌊n/2⌋

`Gen.Util.*` is regenerated from `src/ecdsa/util.py` on every run; the plain encoder is a parameter (`enc`), so the
statements say "exactly the bytes the plain encoder produces for (r, s')".  The group-level half of C13 (the reflected
signature verifies iff the original does) is `C13b.verifies_neg_s` on the ECDSA model.
-/
namespace C13

/-- what the property demands of the emitted `s'` -/
def LowS (s n s' : Int) : Prop := s' = min s (n - s) ∧ s' ≤ n / 2 ∧ 1 ≤ s' ∧ s' < n ∧ (s' = s ∨ s' = n - s)

theorem lowS_min (s n : Int) (h1 : 1 ≤ s) (h2 : s < n) : LowS s n (min s (n - s)) := by
  unfold LowS; omega

/-- for integers `s > ⌊n/2⌋` is `n − s < s` -/
theorem model_canonS (s n : Int) : Util.canonS s n = min s (n - s) := by
  unfold Util.canonS pdiv
  rw [Int.fdiv_eq_ediv_of_nonneg n (by decide)]
  split <;> omega

/-- the three generated canonical encoders are one text -/
theorem gen_canonize {α : Type} (enc : Int → Int → Int → α) (r s n : Int) :
    (if decide (s > Int.fdiv n 2) = true then enc r (n - s) n else enc r s n) = enc r (min s (n - s)) n := by
  rw [← model_canonS]
  unfold Util.canonS pdiv
  by_cases h : s > Int.fdiv n 2
  · rw [if_pos (decide_eq_true h), if_pos h]
  · rw [if_neg (mt of_decide_eq_true h), if_neg h]

theorem canonize_strings {α : Type} (enc : Int → Int → Int → α) (r s n : Int) (h1 : 1 ≤ s) (h2 : s < n) :
    Gen.Util.sigencode_strings_canonize r s n enc = enc r (min s (n - s)) n ∧ LowS s n (min s (n - s)) :=
  ⟨gen_canonize enc r s n, lowS_min s n h1 h2⟩

theorem canonize_string {α : Type} (enc : Int → Int → Int → α) (r s n : Int) (h1 : 1 ≤ s) (h2 : s < n) :
    Gen.Util.sigencode_string_canonize r s n enc = enc r (min s (n - s)) n ∧ LowS s n (min s (n - s)) :=
  ⟨gen_canonize enc r s n, lowS_min s n h1 h2⟩

theorem canonize_der {α : Type} (enc : Int → Int → Int → α) (r s n : Int) (h1 : 1 ≤ s) (h2 : s < n) :
    Gen.Util.sigencode_der_canonize r s n enc = enc r (min s (n - s)) n ∧ LowS s n (min s (n - s)) :=
  ⟨gen_canonize enc r s n, lowS_min s n h1 h2⟩

/-- the model's canonical encoders are the plain encoders at `min s (n - s)` (bytes included) -/
theorem model_canonize (r : Nat) (s n : Int) (h1 : 1 ≤ s) (h2 : s < n) :
    Util.sigencodeStringCanonize r s n = Util.sigencodeString r (min s (n - s)).toNat n.toNat
    ∧ Util.sigencodeStringsCanonize r s n = Util.sigencodeStrings r (min s (n - s)).toNat n.toNat
    ∧ Util.sigencodeDerCanonize r s n = Util.sigencodeDer r (min s (n - s)).toNat n.toNat := by
  have hs : ¬ (min s (n - s) < 0) := by omega
  have hsn : ¬ (min s (n - s) < 0 ∨ n < 0) := by omega
  unfold Util.sigencodeStringCanonize Util.sigencodeStringsCanonize Util.sigencodeDerCanonize
  simp only [model_canonS, if_neg hs, if_neg hsn, and_self]

/-- non-vacuity: the hypotheses are met, and the band value ⌊n/2⌋+1 of secp256k1 is reflected -/
example : (1 : Int) ≤ 57896044618658097711785492504343953926418782139537452191302581570759080747169 ∧
    (57896044618658097711785492504343953926418782139537452191302581570759080747169 : Int) <
      115792089237316195423570985008687907852837564279074904382605163141518161494337 ∧
    Gen.Util.sigencode_string_canonize 1 57896044618658097711785492504343953926418782139537452191302581570759080747169
      115792089237316195423570985008687907852837564279074904382605163141518161494337 (fun _ s _ => s)
      = 57896044618658097711785492504343953926418782139537452191302581570759080747168 := by
  decide +kernel

end C13
