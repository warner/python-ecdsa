import Proofs.EcdhTieProofs
import Proofs.Basic
/-!
# C05t — translator tie of `Model/Ecdh.lean` to the text of `src/ecdsa/ecdh.py`

`Gen.Ecdh.*` (Generated/EcdhSlices.lean) is class `ECDH`, re-translated from the working tree on every run by
`harness/translate/gen_ecdh.py` (every method, every statement; only docstrings and exception messages are dropped; any
construct outside the language raises `Unsupported`).  `EcdhTie.run` is the Python reading of that language.

The state machine that C05 reasons about **is** the execution of the generated programs, for every environment, state,
operation and history: the order of the checks, the exception each raises, the order in which arguments are evaluated and
every loader's delegation are those of the current source.  One of two independent ties of `ecdh.py` (see `Proofs/EcdhTie.lean`).
-/
namespace C05t
open Ecdh EcdhTie

variable {Crv Pt Ent : Type} [DecidableEq Crv]

theorem step_is_generated (env : Env Crv Pt Ent) (s : State Crv Pt) (op : Op Crv Pt Ent) :
    step env s op = stepSource env s op := by
  -- the public entry runs with fuel 40 = 21 + 19
  exact (stepSource_of_outcome (outcome_method (f := 21) op)).symm

/-- the constructor `ECDH(curve, private_key, public_key)` -/
theorem init_is_generated (env : Env Crv Pt Ent) (c : Option Crv) (sk : Option (SKey Crv Pt)) (vk : Option (VKey Crv Pt)) :
    Ecdh.init c sk vk = initSource env c sk vk := by
  have h : ∀ p, outcome (run env none 40 ⟨none, none, none⟩ [] (.m "__init__" [ofCrv c, ofSk sk, ofVk vk])) = p →
      initSource env c sk vk = match p with
        | (s, .ok _) => .ok s
        | (_, .error e) => .error e := by
    intro p hp
    subst hp
    unfold initSource outcome
    generalize run env none 40 _ _ _ = r
    obtain ⟨s, vs, _ | v⟩ := r <;> rfl
  rw [h _ (outcome_run_method Gen.Ecdh.m_init 0 rfl _)]
  unfold Ecdh.init
  simp only [Gen.Ecdh.m_init, ecdh_run]
  cases sk with
  | none =>
    simp only [ecdh_run]
    cases vk with
    | none => simp only [ecdh_run]
    | some k2 =>
      simp only [ecdh_run, outcome_load_received_public_key]
      rcases loadPublic _ k2 with ⟨s2, e | o⟩ <;> rfl
  | some k =>
    simp only [ecdh_run, outcome_load_private_key]
    rcases loadPrivate _ k with ⟨s1, e | o⟩
    · rfl
    · simp only [ecdh_run, asVal]
      cases vk with
      | none => simp only [ecdh_run]
      | some k2 =>
        simp only [ecdh_run, outcome_load_received_public_key]
        rcases loadPublic _ k2 with ⟨s2, e | o⟩ <;> rfl

def runSource (env : Env Crv Pt Ent) (s : State Crv Pt) : List (Op Crv Pt Ent) → State Crv Pt × List (Res (Out Crv Pt))
  | [] => (s, [])
  | op :: ops =>
    let r := stepSource env s op
    let rest := runSource env r.1 ops
    (rest.1, r.2 :: rest.2)

theorem history_is_generated (env : Env Crv Pt Ent) (s : State Crv Pt) (ops : List (Op Crv Pt Ent)) :
    (Ecdh.run env s ops, outputs env s ops) = runSource env s ops := by
  induction ops generalizing s with
  | nil => rfl
  | cons op ops ih =>
    simp only [Ecdh.run, outputs, runSource, step_is_generated]
    have := ih (stepSource env s op).1
    rw [Prod.ext_iff] at this
    simp only at this
    rw [← this.1, ← this.2]

/-- the class has exactly these methods, in this order, and `ecdh.py` imports the names the semantics interprets
(`SigningKey`, `VerifyingKey` from `.keys`, `number_to_string` from `.util`, `INFINITY` from `.ellipticcurve`) -/
theorem class_shape :
    Gen.Ecdh.methods.map (·.name) =
      ["__init__", "_get_shared_secret", "set_curve", "generate_private_key", "load_private_key", "load_private_key_bytes",
       "load_private_key_der", "load_private_key_pem", "get_public_key", "load_received_public_key",
       "load_received_public_key_bytes", "load_received_public_key_der", "load_received_public_key_pem",
       "generate_sharedsecret_bytes", "generate_sharedsecret"] ∧
    Gen.Ecdh.imports = ["from .ellipticcurve import INFINITY", "from .keys import SigningKey, VerifyingKey",
      "from .util import number_to_string"] := by
  exact ⟨rfl, rfl⟩

/-! non-vacuity: a toy environment (points are integers, curves are numbered) -/
namespace Toy
def env : Env Nat Int Unit where
  fieldP _ := 1009
  mul P k := .ok (k * P)
  isInf P := P == 0
  xOf P := .ok P
  generate c _ := .ok ⟨c, 2, ⟨c, 2⟩⟩
  skFromString c b := if b.isEmpty then .error .malformedPoint else .ok ⟨c, 3, ⟨c, 3⟩⟩
  skFromDer _ := .error .unexpectedDER
  skFromPem _ := .error .unexpectedDER
  vkFromString c b := if b.isEmpty then .error .malformedPoint else .ok ⟨c, 5⟩
  vkFromDer _ := .error .unexpectedDER
  vkFromPem _ := .error .unexpectedDER
end Toy

/-- a full exchange; then a peer key on another curve is refused and the curve check of the secret fires -/
example : (runSource Toy.env ⟨none, none, none⟩
      [.setCurve (some 0), .genPriv (), .loadPubBytes [1], .secret, .secretBytes, .loadPub ⟨1, 7⟩, .setCurve (some 1), .secret]).2
    = [.ok .none, .ok (.vk ⟨0, 2⟩), .ok .none, .ok (.int 10), .ok (.bytes [0, 10]), .error .invalidCurve, .ok .none, .error .invalidCurve] := by
  decide +kernel

example : initSource Toy.env (some 0) (some ⟨1, 2, ⟨1, 2⟩⟩) none = .error .invalidCurve ∧
    initSource Toy.env none (some ⟨1, 2, ⟨1, 2⟩⟩) (some ⟨1, 5⟩) = .ok ⟨some 1, some ⟨1, 2, ⟨1, 2⟩⟩, some ⟨1, 5⟩⟩ := by
  decide +kernel

end C05t
