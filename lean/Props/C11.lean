import Proofs.DerEnc
import Proofs.DerOid
import Proofs.DerBits
import Proofs.DerTie
import Proofs.DerTieFn
import Proofs.DerSpec
/-!
# C11 — DER codecs round-trip and accept only the unique canonical encoding

Model: `Model/Der.lean` (line-by-line transcription of `src/ecdsa/der.py`, tied to the working tree by the
correspondence run of `harness/props/C11.py`).  `encodeXPy` is the encoder as the code computes it (with
the failures of `assert` and of `six.int2byte`), `removeX` / `readX` the reader.  For every codec X:

* `decode_encode_X`    — on the encoder's domain the encoder returns `e` and the reader maps `e ++ rest` to
                          `(v, rest)`, for every `rest`;
* `decode_canonical_X` — if the reader accepts `s` with `(v, rest)` then the encoder, applied to `v`, returns
                          some `e` with `s = e ++ rest`: the remainder is exactly the unconsumed suffix, the declared
                          length never exceeds the bytes present, the accepted encoding of `v` is unique;
* `decode_error_X`     — a reader that does not accept raises `UnexpectedDER` and nothing else.

Tie to the source, besides the correspondence run: `C11.Tie.*`, in `Proofs/DerTie.lean` (tests and expressions) and
`Proofs/DerTieFn.lean` (`Tie.fn_*`, whole functions): control skeletons and every test / integer expression of the
model equal what is re-extracted from the working tree on every run (`Generated/DerGuards.lean`).

The length codec's domain is `l < 256^127` (`int2byte(0x80 | llen)` announces `llen` only for `llen ≤ 127`;
`encode_length_beyond_domain` shows the bound is sharp); every TLV codec inherits "content shorter than
`256^127` bytes".
-/
namespace C11
open Der

theorem decode_encode_length (l : Nat) (hl : l < 256 ^ 127) (rest : Bytes) :
    ∃ e, encodeLengthPy l = .ok e ∧ readLength (e ++ rest) = .ok (l, e.length) :=
  ⟨encodeLength l, encodeLengthPy_eq l hl, readLength_encodeLength l hl rest⟩

example : ∃ e, encodeLengthPy 300 = .ok e ∧ readLength (e ++ [0xff]) = .ok (300, e.length) :=
  decode_encode_length 300 (by decide) [0xff]

theorem decode_canonical_length {s : Bytes} {l k : Nat} (h : readLength s = .ok (l, k)) :
    ∃ e rest, encodeLengthPy l = .ok e ∧ s = e ++ rest ∧ k = e.length ∧ l < 256 ^ 127 := by
  obtain ⟨hl, hk, rest, hs⟩ := readLength_ok h
  exact ⟨encodeLength l, rest, encodeLengthPy_eq l hl, hs, hk, hl⟩

example : readLength [0x82, 0x01, 0x2c, 0xff] = .ok (300, 3) := by decide

theorem decode_error_length {s : Bytes} {e : PyErr} (h : readLength s = .error e) : e = .unexpectedDER :=
  readLength_err h

example : readLength [0x81, 0x05] = .error .unexpectedDER := by decide

theorem reject_length_indefinite (rest : Bytes) : readLength (0x80 :: rest) = .error .unexpectedDER := rfl

/-- the domain bound is sharp: `encode_length(256^127)` returns without error, and its output is rejected -/
theorem encode_length_beyond_domain :
    ∃ e, encodeLengthPy (256 ^ 127) = .ok e ∧ readLength e = .error .unexpectedDER := by
  -- `256^127` has 128 digits, and `0x80 | 128 = 0x80` is the first octet of the indefinite form
  have hlen : (hexBytes (256 ^ 127)).length = 128 := by
    have h1 := (hexBytes_length_le_iff (256 ^ 127) 128 (by decide)).mpr (Nat.pow_lt_pow_right (by decide) (by decide))
    have h2 := mt (hexBytes_length_le_iff (256 ^ 127) 127 (by decide)).mp (Nat.lt_irrefl _)
    omega
  refine ⟨0x80 :: hexBytes (256 ^ 127), ?_, reject_length_indefinite _⟩
  unfold encodeLengthPy
  rw [if_neg (by decide)]
  simp only [hlen]
  rfl

theorem decode_encode_integer (r : Nat) (hd : (intBody r).length < 256 ^ 127) (rest : Bytes) :
    ∃ e, encodeIntegerPy (r : Int) = .ok e ∧ removeInteger (e ++ rest) = .ok (r, rest) :=
  ⟨encodeInteger r, encodeIntegerPy_eq r hd, removeInteger_encode r rest hd⟩

theorem integer_domain (r : Nat) (h : r < 256 ^ 126) : (intBody r).length < 256 ^ 127 :=
  intBody_length_lt r h

example : ∃ e, encodeIntegerPy 128 = .ok e ∧ removeInteger (e ++ [0xff]) = .ok (128, [0xff]) :=
  decode_encode_integer 128 (integer_domain 128 (by decide)) [0xff]

theorem decode_canonical_integer {s rest : Bytes} {v : Nat} (h : removeInteger s = .ok (v, rest)) :
    ∃ e, encodeIntegerPy (v : Int) = .ok e ∧ s = e ++ rest := by
  obtain ⟨hs, hd⟩ := removeInteger_ok h
  exact ⟨encodeInteger v, encodeIntegerPy_eq v hd, hs⟩

example : removeInteger [0x02, 0x02, 0x00, 0x80, 0xff] = .ok (128, [0xff]) := by decide

theorem decode_error_integer {s : Bytes} {e : PyErr} (h : removeInteger s = .error e) : e = .unexpectedDER :=
  removeInteger_err h

example : removeInteger [0x02, 0x02, 0x00, 0x7f] = .error .unexpectedDER
    ∧ removeInteger [0x02, 0x01, 0x80] = .error .unexpectedDER
    ∧ removeInteger [0x02, 0x02, 0x01] = .error .unexpectedDER := by decide

theorem encode_integer_negative (r : Int) (h : r < 0) : encodeIntegerPy r = .error .assertionError := by
  unfold encodeIntegerPy; rw [if_pos (by omega)]

theorem decode_encode_octet_string (body : Bytes) (hd : body.length < 256 ^ 127) (rest : Bytes) :
    ∃ e, encodeOctetStringPy body = .ok e ∧ removeOctetString (e ++ rest) = .ok (body, rest) :=
  ⟨encodeOctetString body, encodeOctetStringPy_eq body hd, removeOctetString_encode body rest hd⟩

example : ∃ e, encodeOctetStringPy [1, 2, 3] = .ok e ∧ removeOctetString (e ++ [9]) = .ok ([1, 2, 3], [9]) :=
  decode_encode_octet_string [1, 2, 3] (by decide) [9]

theorem decode_canonical_octet_string {s body rest : Bytes} (h : removeOctetString s = .ok (body, rest)) :
    ∃ e, encodeOctetStringPy body = .ok e ∧ s = e ++ rest := by
  obtain ⟨hs, hd⟩ := removeOctetString_ok h
  exact ⟨encodeOctetString body, encodeOctetStringPy_eq body hd, hs⟩

example : removeOctetString [0x04, 0x02, 0x61, 0x62, 0x63] = .ok ([0x61, 0x62], [0x63]) := by decide

theorem decode_error_octet_string {s : Bytes} {e : PyErr} (h : removeOctetString s = .error e) :
    e = .unexpectedDER := removeOctetString_err h

/-- the F6 witnesses: empty input and a declared length longer than the buffer are `UnexpectedDER` -/
example : removeOctetString [] = .error .unexpectedDER
    ∧ removeOctetString [0x04, 0x05, 0x61, 0x62] = .error .unexpectedDER := by decide

theorem decode_encode_sequence (pieces : List Bytes) (hd : pieces.flatten.length < 256 ^ 127) (rest : Bytes) :
    ∃ e, encodeSequencePy pieces = .ok e ∧ removeSequence (e ++ rest) = .ok (pieces.flatten, rest) :=
  ⟨encodeSequence pieces, encodeSequencePy_eq pieces hd, removeSequence_encode pieces rest hd⟩

example : ∃ e, encodeSequencePy [[2, 1, 1], [2, 1, 2]] = .ok e
    ∧ removeSequence (e ++ [9]) = .ok ([2, 1, 1, 2, 1, 2], [9]) :=
  decode_encode_sequence [[2, 1, 1], [2, 1, 2]] (by decide) [9]

theorem decode_canonical_sequence {s body rest : Bytes} (h : removeSequence s = .ok (body, rest)) :
    ∃ e, encodeSequencePy [body] = .ok e ∧ s = e ++ rest := by
  obtain ⟨hs, hd⟩ := removeSequence_ok h
  exact ⟨encodeSequence [body], encodeSequencePy_eq [body] (by simpa using hd), hs⟩

example : removeSequence [0x30, 0x03, 0x02, 0x01, 0x05, 0x07] = .ok ([0x02, 0x01, 0x05], [0x07]) := by decide

theorem decode_error_sequence {s : Bytes} {e : PyErr} (h : removeSequence s = .error e) :
    e = .unexpectedDER := removeSequence_err h

example : removeSequence [0x30, 0x81, 0x01, 0x00] = .error .unexpectedDER := by decide

theorem decode_encode_constructed (tag : Nat) (body : Bytes) (ht : tag ≤ 0x1f) (hd : body.length < 256 ^ 127)
    (rest : Bytes) :
    ∃ e, encodeConstructedPy (tag : Int) body = .ok e ∧ removeConstructed (e ++ rest) = .ok (tag, body, rest) :=
  ⟨encodeConstructed tag body, encodeConstructedPy_eq tag body (by omega) hd,
    removeConstructed_encode tag body rest ht hd⟩

example : ∃ e, encodeConstructedPy 1 [3, 1, 0] = .ok e ∧ removeConstructed (e ++ [9]) = .ok (1, [3, 1, 0], [9]) :=
  decode_encode_constructed 1 [3, 1, 0] (by decide) (by decide) [9]

theorem decode_canonical_constructed {s body rest : Bytes} {tag : Nat}
    (h : removeConstructed s = .ok (tag, body, rest)) :
    tag ≤ 0x1f ∧ ∃ e, encodeConstructedPy (tag : Int) body = .ok e ∧ s = e ++ rest := by
  obtain ⟨hs, ht, hd⟩ := removeConstructed_ok h
  exact ⟨ht, encodeConstructed tag body, encodeConstructedPy_eq tag body (by omega) hd, hs⟩

example : removeConstructed [0xa1, 0x01, 0x00, 0x07] = .ok (1, [0x00], [0x07]) := by decide

theorem decode_error_constructed {s : Bytes} {e : PyErr} (h : removeConstructed s = .error e) :
    e = .unexpectedDER := removeConstructed_err h

example : removeConstructed [] = .error .unexpectedDER
    ∧ removeConstructed [0xa0, 0x05, 0x61] = .error .unexpectedDER
    ∧ removeConstructed [0x30, 0x00] = .error .unexpectedDER := by decide

/-- tags above `0x1f` do not round-trip: `encode_constructed(0x20, b"")` is `c0 00`, which the reader refuses -/
example : encodeConstructedPy 0x20 [] = .ok [0xc0, 0x00] ∧ removeConstructed [0xc0, 0x00] = .error .unexpectedDER := by
  decide +kernel

theorem decode_encode_number (n : Nat) (rest : Bytes) :
    readNumber (encodeNumber n ++ rest) = .ok (n, (encodeNumber n).length) :=
  readNumber_encode n rest

example : readNumber (encodeNumber 840 ++ [0x01]) = .ok (840, 2) := by decide +kernel

theorem decode_canonical_number {s : Bytes} {n ll : Nat} (h : readNumber s = .ok (n, ll)) :
    ∃ rest, s = encodeNumber n ++ rest ∧ ll = (encodeNumber n).length :=
  readNumber_ok h

example : readNumber [0x86, 0x48, 0x01] = .ok (840, 2) := by decide

/-- `read_number` raises `UnexpectedDER` and nothing else, on every input (the empty string included: F11, fixed by
23101b2 — before, `str_idx_as_int(b"", 0)` leaked `IndexError`) -/
theorem decode_error_number {s : Bytes} {e : PyErr} (h : readNumber s = .error e) : e = .unexpectedDER :=
  readNumber_err h

/-- the F11 witness -/
theorem read_number_empty : readNumber [] = .error .unexpectedDER := rfl

example : readNumber [0x80, 0x01] = .error .unexpectedDER ∧ readNumber [0x81, 0x82] = .error .unexpectedDER := by
  decide

/-- the encoder's domain: `assert 0 <= first < 2 and 0 <= second <= 39 or first == 2 and 0 <= second`, and content
octets shorter than `256^127` bytes -/
theorem decode_encode_oid (first second : Nat) (pieces : List Nat) (hd : OidDomain first second)
    (hl : (oidBody first second pieces).length < 256 ^ 127) (rest : Bytes) :
    ∃ e, encodeOidPy (first : Int) (second : Int) pieces = .ok e
      ∧ removeObject (e ++ rest) = .ok (first :: second :: pieces, rest) := by
  refine ⟨_, ?_, removeObject_encode first second pieces rest hd hl⟩
  rw [encodeOidPy_nat, encodeOid_eq first second pieces hd hl]

example : ∃ e, encodeOidPy 1 2 [840, 10045, 2, 1] = .ok e
    ∧ removeObject (e ++ [0x05, 0x00]) = .ok ([1, 2, 840, 10045, 2, 1], [0x05, 0x00]) :=
  decode_encode_oid 1 2 [840, 10045, 2, 1] (by decide) (by decide +kernel) [0x05, 0x00]

theorem decode_canonical_oid {s rest : Bytes} {arcs : List Nat} (h : removeObject s = .ok (arcs, rest)) :
    ∃ first second pieces e, arcs = first :: second :: pieces ∧ OidDomain first second
      ∧ encodeOidPy (first : Int) (second : Int) pieces = .ok e ∧ s = e ++ rest := by
  obtain ⟨first, second, pieces, ha, hd, hl, hs⟩ := removeObject_ok h
  refine ⟨first, second, pieces, _, ha, hd, ?_, hs⟩
  rw [encodeOidPy_nat, encodeOid_eq first second pieces hd hl]

example : removeObject [0x06, 0x05, 0x2b, 0x81, 0x04, 0x00, 0x22, 0xff] = .ok ([1, 3, 132, 0, 34], [0xff]) := by
  decide

theorem decode_error_oid {s : Bytes} {e : PyErr} (h : removeObject s = .error e) : e = .unexpectedDER :=
  removeObject_err h

example : removeObject [0x06, 0x00] = .error .unexpectedDER
    ∧ removeObject [0x06, 0x02, 0x80, 0x01] = .error .unexpectedDER
    ∧ removeObject [0x06, 0x02, 0x2a, 0x86] = .error .unexpectedDER
    ∧ removeObject [0x06, 0x03, 0x2a, 0x01] = .error .unexpectedDER := by decide

example : encodeOidPy 1 40 [] = .error .assertionError ∧ encodeOidPy 3 0 [] = .error .assertionError
    ∧ encodeOidPy (-1) 0 [] = .error .assertionError := by decide

/-! ## BIT STRING — the three calling conventions

`.some u`  : `encode_bitstring(s, u)` / `remove_bitstring(string, u)`;
`.none`    : `encode_bitstring(s, None)` / `remove_bitstring(string, None)` (returns `(data, unused)`);
`.legacy`  : second argument not given (deprecated): the caller handles the unused-bits byte.
`bitsPadOK data u` is DER's padding rule: `u = 0`, or `data` is non-empty and the low `u` bits of its last byte are 0. -/

/-- (integer convention) on `0 ≤ u ≤ 7` with zero padding bits, `remove_bitstring(·, u)` and
`remove_bitstring(·, None)` both invert `encode_bitstring(data, u)` -/
theorem decode_encode_bitstring (data : Bytes) (u : Nat) (hu : u ≤ 7) (hp : bitsPadOK data u = true)
    (hl : data.length + 1 < 256 ^ 127) (rest : Bytes) :
    ∃ e, encodeBitstring data (.some (u : Int)) = .ok e
      ∧ removeBitstring (e ++ rest) (.some (u : Int)) = .ok (data, none, rest)
      ∧ removeBitstring (e ++ rest) .none = .ok (data, some u, rest)
      ∧ removeBitstring (e ++ rest) .legacy = .ok (UInt8.ofNat u :: data, none, rest) := by
  refine ⟨encodeBits data u, encodeBitstring_some_eq data u hu hp hl,
    removeBitstring_some_encode data rest u hu hp hl, removeBitstring_none_encode data rest u hu hp hl, ?_⟩
  rw [encodeBits_eq_raw]
  exact removeBitstring_legacy_encode _ rest (by simp) hl

example : ∃ e, encodeBitstring [0xa5, 0x80] (.some 7) = .ok e
      ∧ removeBitstring (e ++ [9]) (.some 7) = .ok ([0xa5, 0x80], none, [9])
      ∧ removeBitstring (e ++ [9]) .none = .ok ([0xa5, 0x80], some 7, [9])
      ∧ removeBitstring (e ++ [9]) .legacy = .ok ([0x07, 0xa5, 0x80], none, [9]) :=
  decode_encode_bitstring [0xa5, 0x80] 7 (by decide) (by decide) (by decide) [9]

/-- (`None` / legacy encoder conventions: the caller supplies the unused-bits byte inside `s`) a non-empty `s`
round-trips through the legacy reader; `encode_bitstring(s, None)` is the same byte string -/
theorem decode_encode_bitstring_legacy (s : Bytes) (hs : s ≠ []) (hl : s.length < 256 ^ 127) (rest : Bytes) :
    ∃ e, encodeBitstring s .legacy = .ok e ∧ encodeBitstring s .none = .ok e
      ∧ removeBitstring (e ++ rest) .legacy = .ok (s, none, rest) :=
  ⟨encodeBitsRaw s, encodeBitstring_legacy_eq s hl, encodeBitstring_legacy_eq s hl,
    removeBitstring_legacy_encode s rest hs hl⟩

example : ∃ e, encodeBitstring [0x00, 0x04] .legacy = .ok e ∧ encodeBitstring [0x00, 0x04] .none = .ok e
      ∧ removeBitstring (e ++ [9]) .legacy = .ok ([0x00, 0x04], none, [9]) :=
  decode_encode_bitstring_legacy [0x00, 0x04] (by decide) (by decide) [9]

/-- accepted by `remove_bitstring(·, k)` ⇒ `0 ≤ k ≤ 7` and the input is `encode_bitstring(data, k) ++ rest` -/
theorem decode_canonical_bitstring {s data rest : Bytes} {o : Option Nat} {k : Int}
    (h : removeBitstring s (.some k) = .ok (data, o, rest)) :
    o = none ∧ 0 ≤ k ∧ k ≤ 7 ∧ ∃ e, encodeBitstring data (.some k) = .ok e ∧ s = e ++ rest := by
  obtain ⟨ho, h0, h7, hp, hl, hs⟩ := removeBitstring_some_ok h
  refine ⟨ho, h0, h7, encodeBits data k.toNat, ?_, hs⟩
  have := encodeBitstring_some_eq data k.toNat (by omega) hp hl
  rwa [show ((k.toNat : Nat) : Int) = k by omega] at this

example : removeBitstring [0x03, 0x02, 0x07, 0x80, 0xff] (.some 7) = .ok ([0x80], none, [0xff]) := by decide

/-- accepted by `remove_bitstring(·, None)` with `(data, u)` ⇒ the input is `encode_bitstring(data, u) ++ rest` -/
theorem decode_canonical_bitstring_none {s data rest : Bytes} {o : Option Nat}
    (h : removeBitstring s .none = .ok (data, o, rest)) :
    ∃ u e, o = some u ∧ u ≤ 7 ∧ encodeBitstring data (.some (u : Int)) = .ok e ∧ s = e ++ rest := by
  obtain ⟨u, ho, hu, hp, hl, hs⟩ := removeBitstring_none_ok h
  exact ⟨u, encodeBits data u, ho, hu, encodeBitstring_some_eq data u hu hp hl, hs⟩

example : removeBitstring [0x03, 0x02, 0x07, 0x80, 0xff] .none = .ok ([0x80], some 7, [0xff]) := by decide

/-- accepted by the legacy reader ⇒ the body is non-empty and the input is the legacy encoder's output -/
theorem decode_canonical_bitstring_legacy {s b rest : Bytes} {o : Option Nat}
    (h : removeBitstring s .legacy = .ok (b, o, rest)) :
    o = none ∧ b ≠ [] ∧ ∃ e, encodeBitstring b .legacy = .ok e ∧ s = e ++ rest := by
  obtain ⟨ho, hb, hl, hs⟩ := removeBitstring_legacy_ok h
  exact ⟨ho, hb, encodeBitsRaw b, encodeBitstring_legacy_eq b hl, hs⟩

example : removeBitstring [0x03, 0x02, 0x07, 0x80, 0xff] .legacy = .ok ([0x07, 0x80], none, [0xff]) := by decide

theorem decode_error_bitstring {s : Bytes} {expect : Unused} {e : PyErr}
    (h : removeBitstring s expect = .error e) : e = .unexpectedDER :=
  removeBitstring_err h

example : removeBitstring [] .none = .error .unexpectedDER
    ∧ removeBitstring [0x03, 0x01] .none = .error .unexpectedDER
    ∧ removeBitstring [0x03, 0x01] .legacy = .error .unexpectedDER
    ∧ removeBitstring [0x03, 0x02, 0x07, 0x81] .none = .error .unexpectedDER
    ∧ removeBitstring [0x03, 0x02, 0x08, 0x00] .none = .error .unexpectedDER
    ∧ removeBitstring [0x03, 0x02, 0x07, 0x80] (.some 0) = .error .unexpectedDER
    ∧ removeBitstring [0x03, 0x01, 0x07] .none = .error .unexpectedDER
    ∧ removeBitstring [0x03, 0x00] .legacy = .error .unexpectedDER :=
  ⟨by decide, by decide, by decide, by decide, by decide, by decide, by decide, by decide⟩

/-- the encoder refuses exactly what the reader refuses: `ValueError` outside `0 ≤ unused ≤ 7` / zero padding -/
theorem encode_bitstring_error {data : Bytes} {k : Int} {e : PyErr} (hl : data.length + 1 < 256 ^ 127)
    (h : encodeBitstring data (.some k) = .error e) :
    e = .valueError ∧ ¬ (0 ≤ k ∧ k ≤ 7 ∧ bitsPadOK data k.toNat = true) := by
  refine ⟨?_, ?_⟩
  · rcases encodeBitstring_some_err h with h1 | ⟨_, h2⟩
    · exact h1
    · omega
  · intro ⟨h0, h7, hp⟩
    have := encodeBitstring_some_eq data k.toNat (by omega) hp hl
    rw [show ((k.toNat : Nat) : Int) = k by omega, h] at this
    cases this

/-! ## consequences: one accepted encoding per value (`unique_X`); everything else is `UnexpectedDER`
(`reject_noncanonical_X`, the contrapositive of `decode_canonical_X` + `decode_error_X`) -/

theorem unique_length {s₁ s₂ : Bytes} {l k₁ k₂ : Nat} (h₁ : readLength s₁ = .ok (l, k₁)) (h₂ : readLength s₂ = .ok (l, k₂)) :
    k₁ = k₂ ∧ s₁.take k₁ = s₂.take k₂ := by
  obtain ⟨_, rfl, r₁, rfl⟩ := readLength_ok h₁
  obtain ⟨_, rfl, r₂, rfl⟩ := readLength_ok h₂
  exact ⟨rfl, by rw [List.take_left', List.take_left'] <;> rfl⟩

theorem unique_integer {s₁ s₂ rest : Bytes} {v : Nat} (h₁ : removeInteger s₁ = .ok (v, rest))
    (h₂ : removeInteger s₂ = .ok (v, rest)) : s₁ = s₂ :=
  (removeInteger_ok h₁).1.trans (removeInteger_ok h₂).1.symm

theorem unique_octet_string {s₁ s₂ body rest : Bytes} (h₁ : removeOctetString s₁ = .ok (body, rest))
    (h₂ : removeOctetString s₂ = .ok (body, rest)) : s₁ = s₂ :=
  (removeOctetString_ok h₁).1.trans (removeOctetString_ok h₂).1.symm

theorem unique_sequence {s₁ s₂ body rest : Bytes} (h₁ : removeSequence s₁ = .ok (body, rest))
    (h₂ : removeSequence s₂ = .ok (body, rest)) : s₁ = s₂ :=
  (removeSequence_ok h₁).1.trans (removeSequence_ok h₂).1.symm

theorem unique_constructed {s₁ s₂ body rest : Bytes} {tag : Nat} (h₁ : removeConstructed s₁ = .ok (tag, body, rest))
    (h₂ : removeConstructed s₂ = .ok (tag, body, rest)) : s₁ = s₂ :=
  (removeConstructed_ok h₁).1.trans (removeConstructed_ok h₂).1.symm

theorem unique_oid {s₁ s₂ rest : Bytes} {arcs : List Nat} (h₁ : removeObject s₁ = .ok (arcs, rest))
    (h₂ : removeObject s₂ = .ok (arcs, rest)) : s₁ = s₂ := by
  obtain ⟨f₁, g₁, p₁, rfl, _, _, rfl⟩ := removeObject_ok h₁
  obtain ⟨f₂, g₂, p₂, ha, _, _, rfl⟩ := removeObject_ok h₂
  cases ha; rfl

theorem unique_bitstring {s₁ s₂ data rest : Bytes} {o₁ o₂ : Option Nat} {k : Int}
    (h₁ : removeBitstring s₁ (.some k) = .ok (data, o₁, rest))
    (h₂ : removeBitstring s₂ (.some k) = .ok (data, o₂, rest)) : s₁ = s₂ :=
  (removeBitstring_some_ok h₁).2.2.2.2.2.trans (removeBitstring_some_ok h₂).2.2.2.2.2.symm

theorem unique_bitstring_none {s₁ s₂ data rest : Bytes} {o : Option Nat}
    (h₁ : removeBitstring s₁ .none = .ok (data, o, rest))
    (h₂ : removeBitstring s₂ .none = .ok (data, o, rest)) : s₁ = s₂ := by
  obtain ⟨u₁, rfl, _, _, _, rfl⟩ := removeBitstring_none_ok h₁
  obtain ⟨u₂, ho, _, _, _, rfl⟩ := removeBitstring_none_ok h₂
  cases ho; rfl

theorem reject_noncanonical_length (s : Bytes)
    (h : ¬ ∃ l e rest, encodeLengthPy l = .ok e ∧ s = e ++ rest) : readLength s = .error .unexpectedDER := by
  refine Res.eq_error_of_not_ok (fun _ => decode_error_length) (fun (l, k) hr => h ?_)
  obtain ⟨e, rest, he, hs, _, _⟩ := decode_canonical_length hr
  exact ⟨l, e, rest, he, hs⟩

theorem reject_noncanonical_integer (s : Bytes)
    (h : ¬ ∃ (v : Nat) (e rest : Bytes), encodeIntegerPy (v : Int) = .ok e ∧ s = e ++ rest) :
    removeInteger s = .error .unexpectedDER := by
  refine Res.eq_error_of_not_ok (fun _ => decode_error_integer) (fun (v, rest) hr => h ?_)
  obtain ⟨e, he, hs⟩ := decode_canonical_integer hr
  exact ⟨v, e, rest, he, hs⟩

theorem reject_noncanonical_octet_string (s : Bytes)
    (h : ¬ ∃ body e rest, encodeOctetStringPy body = .ok e ∧ s = e ++ rest) :
    removeOctetString s = .error .unexpectedDER := by
  refine Res.eq_error_of_not_ok (fun _ => decode_error_octet_string) (fun (body, rest) hr => h ?_)
  obtain ⟨e, he, hs⟩ := decode_canonical_octet_string hr
  exact ⟨body, e, rest, he, hs⟩

theorem reject_noncanonical_sequence (s : Bytes)
    (h : ¬ ∃ body e rest, encodeSequencePy [body] = .ok e ∧ s = e ++ rest) :
    removeSequence s = .error .unexpectedDER := by
  refine Res.eq_error_of_not_ok (fun _ => decode_error_sequence) (fun (body, rest) hr => h ?_)
  obtain ⟨e, he, hs⟩ := decode_canonical_sequence hr
  exact ⟨body, e, rest, he, hs⟩

theorem reject_noncanonical_constructed (s : Bytes)
    (h : ¬ ∃ (tag : Nat) (body e rest : Bytes), tag ≤ 0x1f ∧ encodeConstructedPy (tag : Int) body = .ok e ∧ s = e ++ rest) :
    removeConstructed s = .error .unexpectedDER := by
  refine Res.eq_error_of_not_ok (fun _ => decode_error_constructed) (fun (tag, body, rest) hr => h ?_)
  obtain ⟨ht, e, he, hs⟩ := decode_canonical_constructed hr
  exact ⟨tag, body, e, rest, ht, he, hs⟩

theorem reject_noncanonical_oid (s : Bytes)
    (h : ¬ ∃ (first second : Nat) (pieces : List Nat) (e rest : Bytes),
      encodeOidPy (first : Int) (second : Int) pieces = .ok e ∧ s = e ++ rest) :
    removeObject s = .error .unexpectedDER := by
  refine Res.eq_error_of_not_ok (fun _ => decode_error_oid) (fun (arcs, rest) hr => h ?_)
  obtain ⟨f, g, p, e, _, _, he, hs⟩ := decode_canonical_oid hr
  exact ⟨f, g, p, e, rest, he, hs⟩

theorem reject_noncanonical_bitstring (s : Bytes) (expect : Unused) (hx : expect ≠ .legacy)
    (h : ¬ ∃ (data : Bytes) (u : Nat) (e rest : Bytes), encodeBitstring data (.some (u : Int)) = .ok e ∧ s = e ++ rest) :
    removeBitstring s expect = .error .unexpectedDER := by
  refine Res.eq_error_of_not_ok (fun _ => decode_error_bitstring) (fun (data, o, rest) hr => h ?_)
  obtain ⟨u, hu, _, _, hp, hl, hs⟩ := (removeBitstring_ok_iff hx s data rest o).mp hr
  exact ⟨data, u, _, rest, encodeBitstring_some_eq data u hu hp hl, hs⟩

/-! ## independent specification (ITU-T X.690) — `Proofs/DerSpec.lean`

The predicates `X690.*` are written from the text of X.690 and mention no encoder and no reader of the model.  Each reader
accepts EXACTLY what they describe (`spec_X`), so "canonical" does not rest on the encoder half of the code.
Deviations of the code from the letter of X.690, both unreachable in practice and explicit in the statements: the
reserved length octet `0xFF` is accepted (K = 127 instead of 126; `spec_length_x690`: no difference below 256^126) and
identifier `0xBF` is read as tag 31 (`X690.ctxTagBound`). -/

open X690

theorem spec_length (s : Bytes) (n k : Nat) :
    readLength s = .ok (n, k) ↔ ∃ lo rest, s = lo ++ rest ∧ k = lo.length ∧ IsLengthOctets 127 lo n := by
  constructor
  · intro h
    obtain ⟨hl, hk, rest, hs⟩ := readLength_ok h
    exact ⟨encodeLength n, rest, hs, hk, encodeLength_spec n hl⟩
  · intro ⟨lo, rest, hs, hk, hsp⟩
    obtain ⟨rfl, hl⟩ := encodeLength_of_spec (Nat.le_refl _) hsp
    rw [hs, hk]
    exact readLength_encodeLength n hl rest

/-- for every length below 256^126 the accepted length octets obey X.690 to the letter (at most 126 subsequent octets) -/
theorem spec_length_x690 {lo : Bytes} {n : Nat} (h : IsLengthOctets 127 lo n) (hn : n < 256 ^ 126) :
    IsLengthOctets 126 lo n := by
  rcases h with h | ⟨h1, ds, h2, h3, h4, d, t, h5, h6⟩
  · exact Or.inl h
  · refine Or.inr ⟨h1, ds, h2, ?_, h4, d, t, h5, h6⟩
    apply Nat.le_of_not_lt; intro hc
    have h127 : ds.length = 127 := by omega
    rw [value_eq_beVal, h5] at h4
    have := beVal_ge d t h6
    have ht : t.length = 126 := by rw [h5] at h127; simpa using h127
    rw [ht, h4] at this
    omega

theorem spec_integer (s : Bytes) (v : Nat) (rest : Bytes) :
    removeInteger s = .ok (v, rest) ↔ IsDerInteger s v rest := removeInteger_iff s v rest

theorem spec_octet_string (s body rest : Bytes) :
    removeOctetString s = .ok (body, rest) ↔ IsDerOctetString s body rest := by
  rw [removeOctetString_eq]; exact tlvPlain_iff 0x04 s body rest

theorem spec_sequence (s body rest : Bytes) :
    removeSequence s = .ok (body, rest) ↔ IsDerSequence s body rest := removeSequence_iff s body rest

theorem spec_constructed (s : Bytes) (t : Nat) (body rest : Bytes) :
    removeConstructed s = .ok (t, body, rest) ↔ IsDerConstructed s t body rest := by
  rw [removeConstructed_eq, tlvRead_iff]
  unfold IsDerConstructed ctxTagBound ctxConstructedId
  constructor
  · intro ⟨t0, b, r, ht, h, hk⟩
    cases hk
    obtain ⟨h3, h4⟩ := u8_ctag_inv t0 ht
    exact ⟨h3, by rw [show 2 * 64 + 32 = 0xA0 from rfl, h4]; exact h⟩
  · intro ⟨ht, h⟩
    obtain ⟨h1, h2⟩ := u8_ctag t (by omega)
    exact ⟨_, _, _, h1, h, by rw [h2]⟩

theorem spec_oid (s : Bytes) (arcs : List Nat) (rest : Bytes) :
    removeObject s = .ok (arcs, rest) ↔ IsDerOid s arcs rest := by
  rw [removeObject_eq, tlvRead_iff]
  constructor
  · intro ⟨t, c, r, ht, h, hk⟩
    cases ht
    obtain ⟨rfl, hx⟩ := (objCheck_ok_iff c r rest arcs).mp hk
    exact ⟨c, h, (oidContent_iff c arcs).mpr hx⟩
  · intro ⟨c, h, hc⟩
    exact ⟨_, c, rest, rfl, h, (objCheck_ok_iff c rest rest arcs).mpr ⟨rfl, (oidContent_iff c arcs).mp hc⟩⟩

theorem spec_bitstring_none (s data : Bytes) (u : Nat) (rest : Bytes) :
    removeBitstring s .none = .ok (data, some u, rest) ↔ IsDerBitString s data u rest := by
  rw [removeBitstring_ok_iff (by decide), derBitString_iff]
  constructor
  · intro ⟨u', hu, _, ho, h⟩; cases ho; exact ⟨hu, h⟩
  · intro ⟨hu, h⟩; exact ⟨u, hu, trivial, rfl, h⟩

theorem spec_bitstring (s data : Bytes) (k : Int) (rest : Bytes) :
    removeBitstring s (.some k) = .ok (data, none, rest) ↔ 0 ≤ k ∧ IsDerBitString s data k.toNat rest := by
  rw [removeBitstring_ok_iff (by simp), derBitString_iff]
  constructor
  · intro ⟨u, hu, hk, _, h⟩
    have hk' : k = (u : Int) := hk
    subst hk'
    exact ⟨by omega, hu, h⟩
  · intro ⟨h0, hu, h⟩
    exact ⟨k.toNat, hu, show k = ((k.toNat : Nat) : Int) by omega, rfl, h⟩

theorem spec_bitstring_legacy (s b rest : Bytes) :
    removeBitstring s .legacy = .ok (b, none, rest) ↔ b ≠ [] ∧ IsTLV 127 0x03 s b rest := by
  rw [removeBitstring_legacy_ok_iff]
  constructor
  · intro ⟨_, hb, hl, hs⟩; exact ⟨hb, hs ▸ tlv_spec 0x03 b rest hl⟩
  · intro ⟨hb, htlv⟩
    obtain ⟨hs, hl⟩ := tlv_of_spec htlv
    exact ⟨rfl, hb, hl, hs⟩

theorem spec_number (o : Bytes) (n : Nat) : IsSubId o n ↔ o = encodeNumber n := subId_iff o n

/-- non-vacuity of the specification, independent of the encoders: `02 02 00 80` is the DER INTEGER 128 -/
example : IsDerInteger [0x02, 0x02, 0x00, 0x80, 0xff] 128 [0xff] :=
  ⟨[0x00, 0x80], ⟨[0x02], rfl, Or.inl ⟨by decide, rfl⟩⟩, 0x00, [0x80], rfl, by decide, by decide,
    fun b2 t2 h => by simp only [List.cons.injEq] at h; rw [← h.1]; decide⟩

theorem encode_length_meets_spec (l : Nat) (h : l < 256 ^ 127) :
    ∃ e, encodeLengthPy l = .ok e ∧ IsLengthOctets 127 e l :=
  ⟨encodeLength l, encodeLengthPy_eq l h, encodeLength_spec l h⟩

theorem encode_integer_meets_spec (r : Nat) (hd : (intBody r).length < 256 ^ 127) (rest : Bytes) :
    ∃ e, encodeIntegerPy (r : Int) = .ok e ∧ IsDerInteger (e ++ rest) r rest :=
  (decode_encode_integer r hd rest).imp fun _ h => ⟨h.1, (spec_integer _ _ _).mp h.2⟩

theorem encode_octet_string_meets_spec (body : Bytes) (hd : body.length < 256 ^ 127) (rest : Bytes) :
    ∃ e, encodeOctetStringPy body = .ok e ∧ IsDerOctetString (e ++ rest) body rest :=
  (decode_encode_octet_string body hd rest).imp fun _ h => ⟨h.1, (spec_octet_string _ _ _).mp h.2⟩

theorem encode_sequence_meets_spec (pieces : List Bytes) (hd : pieces.flatten.length < 256 ^ 127) (rest : Bytes) :
    ∃ e, encodeSequencePy pieces = .ok e ∧ IsDerSequence (e ++ rest) pieces.flatten rest :=
  (decode_encode_sequence pieces hd rest).imp fun _ h => ⟨h.1, (spec_sequence _ _ _).mp h.2⟩

theorem encode_constructed_meets_spec (tag : Nat) (body : Bytes) (ht : tag ≤ 0x1f) (hd : body.length < 256 ^ 127)
    (rest : Bytes) :
    ∃ e, encodeConstructedPy (tag : Int) body = .ok e ∧ IsDerConstructed (e ++ rest) tag body rest :=
  (decode_encode_constructed tag body ht hd rest).imp fun _ h => ⟨h.1, (spec_constructed _ _ _ _).mp h.2⟩

theorem encode_oid_meets_spec (first second : Nat) (pieces : List Nat) (hd : OidDomain first second)
    (hl : (oidBody first second pieces).length < 256 ^ 127) (rest : Bytes) :
    ∃ e, encodeOidPy (first : Int) (second : Int) pieces = .ok e ∧ IsDerOid (e ++ rest) (first :: second :: pieces) rest :=
  (decode_encode_oid first second pieces hd hl rest).imp fun _ h => ⟨h.1, (spec_oid _ _ _).mp h.2⟩

theorem encode_bitstring_meets_spec (data : Bytes) (u : Nat) (hu : u ≤ 7) (hp : bitsPadOK data u = true)
    (hl : data.length + 1 < 256 ^ 127) (rest : Bytes) :
    ∃ e, encodeBitstring data (.some (u : Int)) = .ok e ∧ IsDerBitString (e ++ rest) data u rest := by
  obtain ⟨e, h1, _, h3, _⟩ := decode_encode_bitstring data u hu hp hl rest
  exact ⟨e, h1, (spec_bitstring_none _ _ _ _).mp h3⟩

/-- the specification determines the octets (one DER encoding per value): shown for INTEGER and OID, the others alike -/
theorem spec_unique_integer {s₁ s₂ rest : Bytes} {v : Nat} (h₁ : IsDerInteger s₁ v rest) (h₂ : IsDerInteger s₂ v rest) :
    s₁ = s₂ := unique_integer ((spec_integer _ _ _).mpr h₁) ((spec_integer _ _ _).mpr h₂)

theorem spec_unique_oid {s₁ s₂ rest : Bytes} {arcs : List Nat} (h₁ : IsDerOid s₁ arcs rest) (h₂ : IsDerOid s₂ arcs rest) :
    s₁ = s₂ := unique_oid ((spec_oid _ _ _).mpr h₁) ((spec_oid _ _ _).mpr h₂)

theorem reject_length_long_below_128 (b : UInt8) (rest : Bytes) (hb : b < 0x80) :
    readLength (0x81 :: b :: rest) = .error .unexpectedDER := by
  rw [readLength_long 0x81 b rest (by decide)]
  split
  · rfl
  · exact if_pos (Or.inr ⟨rfl, hb⟩)

theorem reject_length_leading_zero (first : UInt8) (rest : Bytes) (h : first &&& 0x80 ≠ 0) :
    readLength (first :: 0 :: rest) = .error .unexpectedDER := by
  rw [readLength_long first 0 rest h]
  split
  · rfl
  · exact if_pos (Or.inl rfl)

theorem reject_length_truncated (first : UInt8) (rest : Bytes) (h : first &&& 0x80 ≠ 0)
    (ht : rest.length < (first &&& 0x7f).toNat) : readLength (first :: rest) = .error .unexpectedDER := by
  cases rest with
  | nil => exact readLength_long_nil first h
  | cons msb t => rw [readLength_long first msb t h, if_pos (Or.inr ht)]

/-- truncated bodies, the clause finding F6 was about: all six TLV readers, BIT STRING in every convention -/
theorem reject_truncated_body (t : UInt8) (s' : Bytes) (l k : Nat) (hr : readLength ((t :: s').drop 1) = .ok (l, k))
    (hlong : 1 + k + l > (t :: s').length) (expect : Unused) :
    removeInteger (t :: s') = .error .unexpectedDER ∧ removeOctetString (t :: s') = .error .unexpectedDER
    ∧ removeSequence (t :: s') = .error .unexpectedDER ∧ removeConstructed (t :: s') = .error .unexpectedDER
    ∧ removeObject (t :: s') = .error .unexpectedDER ∧ removeBitstring (t :: s') expect = .error .unexpectedDER := by
  rw [removeInteger_eq, removeOctetString_eq, removeSequence_eq, removeConstructed_eq, removeObject_eq, removeBitstring_eq]
  exact ⟨tlvRead_truncated hr hlong, tlvRead_truncated hr hlong, tlvRead_truncated hr hlong, tlvRead_truncated hr hlong,
    tlvRead_truncated hr hlong, tlvRead_truncated hr hlong⟩

/-- "the declared length never exceeds the bytes present": an accepted input has a parsable length field `(l, k)` with
`1 + k + l ≤ len(input)`, the value is made from the `l` bytes after the header, the remainder is what follows them -/
theorem declared_length_le_present_octet_string {s body rest : Bytes} (h : removeOctetString s = .ok (body, rest)) :
    ∃ l k, readLength (s.drop 1) = .ok (l, k) ∧ 1 + k + l ≤ s.length ∧ l = body.length
      ∧ body = (s.drop (1 + k)).take l ∧ rest = s.drop (1 + k + l) := by
  obtain ⟨hs, hl⟩ := removeOctetString_ok h
  exact tlv_present (hs.trans (encodeOctetString_append body rest)) hl

theorem declared_length_le_present_sequence {s body rest : Bytes} (h : removeSequence s = .ok (body, rest)) :
    ∃ l k, readLength (s.drop 1) = .ok (l, k) ∧ 1 + k + l ≤ s.length ∧ l = body.length
      ∧ body = (s.drop (1 + k)).take l ∧ rest = s.drop (1 + k + l) := by
  obtain ⟨hs, hl⟩ := removeSequence_ok h
  rw [encodeSequence_append, List.flatten_singleton] at hs
  exact tlv_present hs hl

theorem declared_length_le_present_constructed {s body rest : Bytes} {tag : Nat}
    (h : removeConstructed s = .ok (tag, body, rest)) :
    ∃ l k, readLength (s.drop 1) = .ok (l, k) ∧ 1 + k + l ≤ s.length ∧ l = body.length
      ∧ body = (s.drop (1 + k)).take l ∧ rest = s.drop (1 + k + l) := by
  obtain ⟨hs, _, hl⟩ := removeConstructed_ok h
  exact tlv_present (hs.trans (encodeConstructed_append tag body rest)) hl

theorem declared_length_le_present_integer {s rest : Bytes} {v : Nat} (h : removeInteger s = .ok (v, rest)) :
    ∃ l k, readLength (s.drop 1) = .ok (l, k) ∧ 1 + k + l ≤ s.length
      ∧ v = beVal ((s.drop (1 + k)).take l) ∧ rest = s.drop (1 + k + l) := by
  obtain ⟨hs, hl⟩ := removeInteger_ok h
  obtain ⟨l, k, h1, h2, _, h4, h5⟩ := tlv_present (hs.trans (encodeInteger_append v rest)) hl
  exact ⟨l, k, h1, h2, by rw [← h4, (intBody_ok v).2], h5⟩

theorem declared_length_le_present_oid {s rest : Bytes} {arcs : List Nat} (h : removeObject s = .ok (arcs, rest)) :
    ∃ l k, readLength (s.drop 1) = .ok (l, k) ∧ 1 + k + l ≤ s.length ∧ rest = s.drop (1 + k + l) := by
  obtain ⟨x, y, ps, _, _, hl, hs⟩ := removeObject_ok h
  obtain ⟨l, k, h1, h2, _, _, h5⟩ := tlv_present (hs.trans (oidTlv_append _ rest)) hl
  exact ⟨l, k, h1, h2, h5⟩

theorem declared_length_le_present_bitstring {s b rest : Bytes} {o : Option Nat} {expect : Unused}
    (h : removeBitstring s expect = .ok (b, o, rest)) :
    ∃ l k, readLength (s.drop 1) = .ok (l, k) ∧ 1 + k + l ≤ s.length ∧ rest = s.drop (1 + k + l) := by
  rw [removeBitstring_eq] at h
  obtain ⟨t, body, r, _, hs, hl, hk⟩ := tlvRead_ok h
  obtain ⟨l, k, h1, h2, _, _, h5⟩ := tlv_present hs hl
  exact ⟨l, k, h1, h2, (bitsCheck_rest hk).trans h5⟩

theorem reject_integer_negative {s rest : Bytes} {b : UInt8} {t : Bytes} (h : IsTLV 127 0x02 s (b :: t) rest)
    (hb : ¬ b < 0x80) : removeInteger s = .error .unexpectedDER := by
  have hno : ¬ IntBodyOK (b :: t) := by
    cases t with
    | nil => exact hb
    | cons c t' => exact fun hok => hb hok.1
  rw [removeInteger_eq, tlvRead_of_spec (by rfl) h, intCheck, if_neg hno]

theorem reject_integer_padded {s rest : Bytes} {b : UInt8} {t : Bytes} (h : IsTLV 127 0x02 s (0 :: b :: t) rest)
    (hb : b < 0x80) : removeInteger s = .error .unexpectedDER := by
  rw [removeInteger_eq, tlvRead_of_spec (by rfl) h, intCheck, if_neg (fun hok => hok.2 ⟨rfl, hb⟩)]

theorem reject_integer_empty {s rest : Bytes} (h : IsTLV 127 0x02 s [] rest) :
    removeInteger s = .error .unexpectedDER := by
  rw [removeInteger_eq, tlvRead_of_spec (by rfl) h]; rfl

theorem reject_number_padded (rest : Bytes) : readNumber (0x80 :: rest) = .error .unexpectedDER := rfl

theorem reject_number_unterminated (s : Bytes) (h : ∀ d ∈ s, d &&& 0x80 ≠ 0) :
    readNumber s = .error .unexpectedDER := by
  cases s with
  | nil => rfl
  | cons b0 t =>
    rw [readNumber_cons]
    split
    · rfl
    · exact readNumberLoop_allCont _ 0 0 h

theorem reject_oid_padded_subid {s rest pre : Bytes} (ns : List Nat) (t : Bytes) (hpre : IsSubIds pre ns)
    (h : IsTLV 127 0x06 s (pre ++ 0x80 :: t) rest) : removeObject s = .error .unexpectedDER := by
  rw [(subIds_iff pre ns).mp hpre] at h
  have hne : (encNums ns ++ 0x80 :: t).isEmpty = false := List.isEmpty_eq_false_iff.mpr (by simp)
  rw [removeObject_eq, tlvRead_of_spec (by rfl) h, objCheck, hne, readNumbers_padded ns t _ (Nat.le_refl _)]
  rfl

theorem reject_oid_empty {s rest : Bytes} (h : IsTLV 127 0x06 s [] rest) :
    removeObject s = .error .unexpectedDER := by
  rw [removeObject_eq, tlvRead_of_spec (by rfl) h]; rfl

theorem reject_bitstring_nonzero_padding {s rest data : Bytes} {u last : UInt8} (expect : Unused) (hx : expect ≠ .legacy)
    (h : IsTLV 127 0x03 s (u :: data) rest) (hl : data.getLast? = some last) (hp : last.toNat % 2 ^ u.toNat ≠ 0) :
    removeBitstring s expect = .error .unexpectedDER := by
  rw [removeBitstring_eq, tlvRead_of_spec (by rfl) h, bitsCheck_cons expect hx,
    if_neg (fun hc => hp (((bitsPadOK_iff data u.toNat).mp hc.2.2).2 last hl))]

theorem reject_bitstring_unused_gt_7 {s rest data : Bytes} {u : UInt8} (expect : Unused) (hx : expect ≠ .legacy)
    (h : IsTLV 127 0x03 s (u :: data) rest) (hu : 7 < u.toNat) : removeBitstring s expect = .error .unexpectedDER := by
  rw [removeBitstring_eq, tlvRead_of_spec (by rfl) h, bitsCheck_cons expect hx, if_neg (fun hc => Nat.not_lt.mpr hc.1 hu)]

theorem reject_bitstring_unused_in_empty {s rest : Bytes} {u : UInt8} (expect : Unused) (hx : expect ≠ .legacy)
    (h : IsTLV 127 0x03 s [u] rest) (hu : u.toNat ≠ 0) : removeBitstring s expect = .error .unexpectedDER := by
  rw [removeBitstring_eq, tlvRead_of_spec (by rfl) h, bitsCheck_cons expect hx,
    if_neg (fun hc => hu (((bitsPadOK_iff [] u.toNat).mp hc.2.2).1 rfl))]

theorem reject_bitstring_unexpected_unused {s rest data : Bytes} {u : UInt8} (k : Int)
    (h : IsTLV 127 0x03 s (u :: data) rest) (hk : k ≠ (u.toNat : Int)) :
    removeBitstring s (.some k) = .error .unexpectedDER := by
  rw [removeBitstring_eq, tlvRead_of_spec (by rfl) h, bitsCheck_cons _ (by simp), if_neg (fun hc => hk hc.2.1)]

theorem reject_bitstring_empty {s rest : Bytes} (expect : Unused) (h : IsTLV 127 0x03 s [] rest) :
    removeBitstring s expect = .error .unexpectedDER := by
  rw [removeBitstring_eq, tlvRead_of_spec (by rfl) h]; rfl

theorem unique_bitstring_legacy {s₁ s₂ b rest : Bytes} {o₁ o₂ : Option Nat}
    (h₁ : removeBitstring s₁ .legacy = .ok (b, o₁, rest)) (h₂ : removeBitstring s₂ .legacy = .ok (b, o₂, rest)) :
    s₁ = s₂ :=
  (removeBitstring_legacy_ok h₁).2.2.2.trans (removeBitstring_legacy_ok h₂).2.2.2.symm

theorem reject_noncanonical_bitstring_legacy (s : Bytes)
    (h : ¬ ∃ (b e rest : Bytes), b ≠ [] ∧ encodeBitstring b .legacy = .ok e ∧ s = e ++ rest) :
    removeBitstring s .legacy = .error .unexpectedDER := by
  refine Res.eq_error_of_not_ok (fun _ => decode_error_bitstring) (fun (b, o, rest) hr => h ?_)
  obtain ⟨_, hb, e, he, hs⟩ := decode_canonical_bitstring_legacy hr
  exact ⟨b, e, rest, hb, he, hs⟩

/-- `encode_bitstring(s)` / `encode_bitstring(s, None)` with the unused-bits octet supplied by the caller (`s = u :: data`)
is read back by the `None` and the integer conventions -/
theorem decode_encode_bitstring_raw (data : Bytes) (u : Nat) (hu : u ≤ 7) (hp : bitsPadOK data u = true)
    (hl : data.length + 1 < 256 ^ 127) (rest : Bytes) :
    ∃ e, encodeBitstring (UInt8.ofNat u :: data) .legacy = .ok e ∧ encodeBitstring (UInt8.ofNat u :: data) .none = .ok e
      ∧ removeBitstring (e ++ rest) .none = .ok (data, some u, rest)
      ∧ removeBitstring (e ++ rest) (.some (u : Int)) = .ok (data, none, rest) := by
  refine ⟨encodeBitsRaw (UInt8.ofNat u :: data), encodeBitstring_legacy_eq _ hl, encodeBitstring_legacy_eq _ hl, ?_, ?_⟩
  · rw [← encodeBits_eq_raw]; exact removeBitstring_none_encode data rest u hu hp hl
  · rw [← encodeBits_eq_raw]; exact removeBitstring_some_encode data rest u hu hp hl

theorem encode_sequence_flatten (pieces : List Bytes) :
    encodeSequencePy pieces = encodeSequencePy [pieces.flatten] := by
  unfold encodeSequencePy
  rw [sum_length_flatten, sum_length_flatten, List.flatten_singleton]

theorem encode_oid_out_of_domain (first second : Int) (pieces : List Nat)
    (h : ¬ ((0 ≤ first ∧ first < 2 ∧ 0 ≤ second ∧ second ≤ 39) ∨ (first = 2 ∧ 0 ≤ second))) :
    encodeOidPy first second pieces = .error .assertionError := by
  unfold encodeOidPy; rw [if_neg h]

/-- `encode_constructed` with a tag outside 0…31: `struct.error` outside −160…95, otherwise bytes that
`remove_constructed` refuses (no silent round trip with another tag) -/
theorem encode_constructed_out_of_domain (tag : Int) (v : Bytes) (hl : v.length < 256 ^ 127)
    (h : ¬ (0 ≤ tag ∧ tag ≤ 31)) :
    (¬ (-160 ≤ tag ∧ tag ≤ 95) ∧ encodeConstructedPy tag v = .error .other)
    ∨ ((-160 ≤ tag ∧ tag ≤ 95) ∧ ∃ e, encodeConstructedPy tag v = .ok e
        ∧ ∀ rest, removeConstructed (e ++ rest) = .error .unexpectedDER) := by
  by_cases hr : -160 ≤ tag ∧ tag ≤ 95
  · have hb := int2byte_of_range (k := 0xA0 + tag) (by omega) (by omega)
    refine Or.inr ⟨hr, [UInt8.ofNat (0xA0 + tag).toNat] ++ encodeLength v.length ++ v, ?_, fun rest => ?_⟩
    · unfold encodeConstructedPy
      simp only [bind, Except.bind, hb, encodeLengthPy_eq _ hl]
    · -- the identifier octet written is outside `0xA0 … 0xBF`
      have hn : (UInt8.ofNat (0xA0 + tag).toNat) &&& 0xE0 ≠ 0xA0 := fun hc => by
        have := (u8_ctx_iff _).mp hc
        rw [u8_ofNat_toNat _ (by omega)] at this
        omega
      rw [removeConstructed_eq]
      exact if_pos hn
  · refine Or.inl ⟨hr, ?_⟩
    unfold encodeConstructedPy int2byte
    rw [if_neg (by omega)]; rfl

end C11
