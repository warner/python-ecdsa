import Props.C05
import Proofs.GroupInterface
import Model.EcdhWire
/-!
# C05 (group half) — the ECDH state machine over the *actual* point model

The hypothesis `GroupReading` of `Props/C05.lean` is discharged for `Model/Curve.lean` from the C06/C07 theorems packaged in
`Proofs/GroupInterface.lean`: p an odd prime, G a point of Mathlib's group of the curve with n • G = 0 for an odd n > 0
(so ⟨G⟩ has no 2-torsion: N2T is discharged, nothing here depends on K1).
-/
namespace C05g
open Ecdh Curve Jac GroupInterface WeierstrassCurve

variable {p : ℕ} [hp : Fact p.Prime] {a b : ℤ}
variable {Crv Ent : Type} [DecidableEq Crv]

/-- the environment's `*`, `== INFINITY`, `.x()` are the functions of `Model/Curve.lean` (fresh table state) -/
def UsesCurveModel (env : Env Crv Curve.Pt Ent) : Prop :=
  (∀ P k, env.mul P k = Curve.ptMulWith [] P k) ∧ (∀ P, env.isInf P = Curve.ptIsInf P) ∧
  (∀ J, env.xOf (.jac J) = Curve.pjX J)

/-- what a `VerifyingKey` of this curve holds: a stored `PointJacobi` of ⟨G⟩, declared order n or none -/
def KeyPoint (C : Ctx p a b) (P : Curve.Pt) (g : Grp (a : ZMod p) (b : ZMod p)) : Prop :=
  ∃ J, P = .jac J ∧ PJRep p a b C.H J g ∧ OrderOK C J

/-- what `*` returns: INFINITY or a `PointJacobi` -/
def Result (C : Ctx p a b) (R : Curve.Pt) (g : Grp (a : ZMod p) (b : ZMod p)) : Prop :=
  PtRep p a b C.H R g ∧ ∀ A, R ≠ .aff A

omit hp in
theorem pjMulWith_not_aff {pre : List (ℤ × ℤ)} {P : PJ} {k : ℤ} {R : Curve.Pt} (h : pjMulWith pre P k = .ok R)
    (A : AffPt) : R ≠ .aff A := by
  unfold pjMulWith at h
  split at h
  · cases h; simp
  split at h
  · cases h; simp
  obtain ⟨table, _, h⟩ := Res.bind_ok h
  split at h
  · cases h; exact coordsOut_not_aff _ _ _ _
  · obtain ⟨S, _, h⟩ := Res.bind_ok h
    cases h; exact coordsOut_not_aff _ _ _ _

omit [DecidableEq Crv] in
/-- C06/C07 ⟹ the hypothesis of `C05.both_parties_agree` -/
theorem curve_model_reading (hp2 : p ≠ 2) (C : Ctx p a b) (env : Env Crv Curve.Pt Ent) (hu : UsesCurveModel env) :
    C05.GroupReading env (Grp (a : ZMod p) (b : ZMod p)) (KeyPoint C) (Result C) where
  mul_ok P g k h := by
    obtain ⟨J, rfl, hJ, ho⟩ := h
    obtain ⟨R, hR, hrep⟩ := GroupInterface.mul hp2 C hJ ho k
    exact ⟨R, by rw [hu.1]; exact hR, hrep, pjMulWith_not_aff hR⟩
  inf_iff R g h := by
    rw [hu.2.1]
    obtain ⟨hr, hna⟩ := h
    cases R with
    | infinity => simpa [ptIsInf, PtRep] using hr
    | jac J => exact eq_infinity_iff C (A := .jac J) hr
    | aff A => exact absurd rfl (hna A)
  x_den R R' g h h' := by
    obtain ⟨hr, hna⟩ := h
    obtain ⟨hr', hna'⟩ := h'
    rcases result_cases hr with ⟨rfl, h0⟩ | ⟨J, rfl, hJ, hne⟩ | ⟨A, rfl, _, _⟩
    · rcases result_cases hr' with ⟨rfl, _⟩ | ⟨J', rfl, _, hne'⟩ | ⟨A', rfl, _, _⟩
      · rfl
      · exact absurd h0 hne'
      · exact absurd rfl (hna' A')
    · rcases result_cases hr' with ⟨rfl, h0⟩ | ⟨J', rfl, hJ', _⟩ | ⟨A', rfl, _, _⟩
      · exact absurd h0 hne
      · rw [hu.2.2, hu.2.2]; exact (xy_unique hJ hJ').1
      · exact absurd rfl (hna' A')
    · exact absurd rfl (hna A)

/-- **shared_secret_value** — two `ECDH` objects in agreed states on the same curve object, A holding (d_A, Q_B) and B
holding (d_B, Q_A), where Q_A, Q_B are any stored representations of d_A•G, d_B•G: both calls return the same result,
namely x((d_A d_B)•G) ∈ [0, p) — or both raise `InvalidSharedSecretError`, exactly when (d_A d_B)•G = 0. -/
theorem shared_secret_value (hp2 : p ≠ 2) (C : Ctx p a b) (env : Env Crv Curve.Pt Ent) (hu : UsesCurveModel env)
    (sA sB : State Crv Curve.Pt) (skA skB : SKey Crv Curve.Pt) (vkA vkB : VKey Crv Curve.Pt)
    (hA : C05.Agreed sA skA vkB) (hB : C05.Agreed sB skB vkA) (hc : skA.curve = skB.curve)
    (hQA : KeyPoint C vkA.point (skA.d • C.G)) (hQB : KeyPoint C vkB.point (skB.d • C.G)) :
    step env sA .secret = (sA, (step env sB .secret).2) ∧
    step env sA .secretBytes = (sA, (step env sB .secretBytes).2) ∧
    getSharedSecret env sA =
      (if (skA.d * skB.d) • C.G = 0 then .error .invalidSharedSecret
       else .ok (GroupInterface.xOf ((skA.d * skB.d) • C.G))) ∧
    (0 ≤ GroupInterface.xOf ((skA.d * skB.d) • C.G) ∧ GroupInterface.xOf ((skA.d * skB.d) • C.G) < p) := by
  have gr := curve_model_reading hp2 C env hu
  -- a representation T of (d_A d_B)•G exists: what A itself computes
  obtain ⟨T, _, hT⟩ := gr.mul_ok vkB.point _ skA.d hQB
  rw [← mul_zsmul] at hT
  obtain ⟨h1, h2, h3, _⟩ := C05.both_parties_agree env _ _ gr sA sB skA skB vkA vkB C.G hA hB hc hQA hQB T hT
  refine ⟨h1, h2, ?_, ?_⟩
  · rw [h3]
    have hinf := gr.inf_iff T _ hT
    by_cases h0 : (skA.d * skB.d) • C.G = 0
    · rw [if_pos h0, if_pos (hinf.2 h0)]
    · have hi : ¬ (env.isInf T = true) := fun h => h0 (hinf.1 h)
      rw [if_neg h0, if_neg hi]
      rcases result_cases hT.1 with ⟨_, hz⟩ | ⟨J, rfl, hJ, _⟩ | ⟨A, rfl, _, _⟩
      · exact absurd hz h0
      · rw [hu.2.2]; exact xOf_spec hJ
      · exact absurd rfl (hT.2 A)
  · generalize (skA.d * skB.d) • C.G = g
    cases g with
    | zero => simp only [GroupInterface.xOf]; exact ⟨le_refl _, by exact_mod_cast hp.out.pos⟩
    | some x y h =>
      simp only [GroupInterface.xOf]
      exact ⟨by positivity, by exact_mod_cast ZMod.val_lt x⟩

/-- the environment the correspondence run compares with the real code is of this shape -/
theorem driver_uses_curve_model (cs : Array EcdhWire.CParams) :
    UsesCurveModel (EcdhWire.env cs) := ⟨fun _ _ => rfl, fun _ => rfl, fun _ => rfl⟩

/-- non-vacuity: on y² = x³ + x + 6 over F₁₁ (n = 13) there is a context whose generator `toyG` is a `KeyPoint` -/
example : ∃ C : Ctx 11 1 6, C.n = 13 ∧ KeyPoint C (.jac toyG) C.G := by
  obtain ⟨C, hn, hG⟩ := toy_ctx
  exact ⟨C, hn, toyG, rfl, hG, Or.inr ⟨rfl, rfl⟩⟩

/-- the exceptions raised inside `ellipticcurve.py`'s arithmetic (`Model/Curve.lean`): a failed `assert`, `ValueError`
(non-invertible element / points of different curves), `AttributeError` (`INFINITY.scale()`) -/
def ArithErr (e : PyErr) : Prop := e = .assertionError ∨ e = .valueError ∨ e = .attributeError

def Arith {α : Type} (x : Res α) : Prop := ∀ e, x = .error e → ArithErr e

theorem Arith.ok {α : Type} (v : α) : Arith (.ok v : Res α) := fun _ h => nomatch h

theorem Arith.err {α : Type} {e : PyErr} (h : ArithErr e) : Arith (.error e : Res α) :=
  fun _ h' => Except.error.inj h' ▸ h

theorem Arith.bind {α β : Type} {x : Res α} {f : α → Res β} (hx : Arith x) (hf : ∀ v, Arith (f v)) : Arith (x >>= f) :=
  fun e h => (Res.bind_error h).elim (hx e) fun ⟨v, _, hv⟩ => hf v e hv

theorem Arith.ite {α : Type} {c : Prop} [Decidable c] {t e : Res α} (ht : Arith t) (he : Arith e) :
    Arith (if c then t else e) := by
  split <;> assumption

theorem inverseMod_err (a m : Int) : Arith (inverseMod a m) := by
  unfold inverseMod powInv
  split
  · exact .ok _
  · split
    · exact .err (.inr (.inl rfl))
    · simp only; split
      · exact .ok _
      · exact .err (.inr (.inl rfl))

theorem mkPoint_err (c x y o) : Arith (mkPoint c x y o) := by
  unfold mkPoint; exact .ite (.ok _) (.err (.inl rfl))

theorem pjX_err (P : PJ) : Arith (pjX P) := by
  unfold pjX; exact .ite (.ok _) (.bind (inverseMod_err _ _) fun _ => .ok _)

theorem pjY_err (P : PJ) : Arith (pjY P) := by
  unfold pjY; exact .ite (.ok _) (.bind (inverseMod_err _ _) fun _ => .ok _)

theorem pjScale_err (P : PJ) : Arith (pjScale P) := by
  unfold pjScale; exact .ite (.ok _) (.bind (inverseMod_err _ _) fun _ => .ok _)

theorem tableLoop_err (bound i : Int) (hi : 0 < i) (D : PJ) (acc : List (Int × Int)) : Arith (tableLoop bound i hi D acc) := by
  induction i, hi, D, acc using tableLoop.induct bound with
  | case1 i hi D acc hlt D' hd ih =>
    unfold tableLoop
    rw [dif_pos hlt]
    simp only [hd]
    exact .bind (pjScale_err _) fun S => .bind (pjX_err _) fun x => .bind (pjY_err _) fun y => ih S x y
  | case2 i hi D acc hlt hno =>
    unfold tableLoop
    rw [dif_pos hlt]
    split
    · rename_i D' hd; exact absurd hd (hno D')
    · exact .err (.inr (.inr rfl))
  | case3 i hi D acc hge =>
    unfold tableLoop
    rw [dif_neg hge]
    exact .ok _

theorem precomputeTable_err (P : PJ) : Arith (precomputeTable P) := by
  unfold precomputeTable
  split
  · exact .err (.inl rfl)
  · exact .bind (pjX_err _) fun x => .bind (pjY_err _) fun y => tableLoop_err _ _ _ _ _

theorem maybePrecompute_err (P : PJ) (pre) : Arith (maybePrecompute P pre) := by
  unfold maybePrecompute
  split
  · exact .ok _
  · exact precomputeTable_err _

theorem pjMulWith_err (pre P k) : Arith (pjMulWith pre P k) := by
  unfold pjMulWith
  split
  · exact .ok _
  split
  · exact .ok _
  refine .bind (maybePrecompute_err _ _) fun t => ?_
  split
  · exact .ok _
  · exact .bind (pjScale_err _) fun _ => .ok _

theorem pjAddCore_err (P Q) : Arith (pjAddCore P Q) := by
  unfold pjAddCore; exact .ite (.err (.inr (.inl rfl))) (.ok _)

theorem pjAdd_err (P o) : Arith (pjAdd P o) := by
  unfold pjAdd; split
  · exact .ok _
  · split
    · exact .ok _
    · split
      · exact .ok _
      · exact pjAddCore_err _ _
    · exact pjAddCore_err _ _

theorem affDouble_err (P) : Arith (affDouble P) := by
  unfold affDouble
  exact .bind (inverseMod_err _ _) fun _ => .bind (mkPoint_err _ _ _ _) fun _ => .ok _

theorem affAdd_err (P o) : Arith (affAdd P o) := by
  unfold affAdd
  split
  · exact pjAdd_err _ _
  · exact .ok _
  · split
    · exact .err (.inl rfl)
    split
    · split
      · exact .ok _
      · exact affDouble_err _
    · exact .bind (inverseMod_err _ _) fun _ => .bind (mkPoint_err _ _ _ _) fun _ => .ok _

theorem ptDouble_err (P) : Arith (ptDouble P) := by
  unfold ptDouble
  split
  · exact .ok _
  · exact .ok _
  · exact affDouble_err _

theorem ptAdd_err (P Q) : Arith (ptAdd P Q) := by
  unfold ptAdd
  split
  · exact pjAdd_err _ _
  · exact .ok _
  · exact .ok _
  · exact pjAdd_err _ _
  · exact affAdd_err _ _

theorem affMulLoop_err (self negSelf : Pt) (e e3 : Nat) (i : Nat) (result : Pt) : Arith (affMulLoop self negSelf e e3 i result) := by
  induction i, result using affMulLoop.induct with
  | case1 i result hi ih =>
    unfold affMulLoop
    rw [dif_pos hi]
    refine .bind (ptDouble_err _) fun r1 => ?_
    have tail : ∀ r : Pt, Arith (if (e3 &&& i == 0 && e &&& i != 0) = true then ptAdd r negSelf >>= fun r => affMulLoop self negSelf e e3 (i / 2) r
        else pure r >>= fun r => affMulLoop self negSelf e e3 (i / 2) r) := by
      intro r
      split
      · exact .bind (ptAdd_err _ _) fun r3 => ih r3
      · exact ih r
    simp only
    split
    · exact .bind (ptAdd_err _ _) fun r2 => tail r2
    · exact tail r1
  | case2 i result hi =>
    unfold affMulLoop
    rw [dif_neg hi]
    exact .ok _

theorem affMulPos_err (P k) : Arith (affMulPos P k) := by
  unfold affMulPos
  exact .bind (mkPoint_err _ _ _ _) fun _ => affMulLoop_err _ _ _ _ _ _

theorem affMul_err (P k) : Arith (affMul P k) := by
  unfold affMul
  exact .ite (.ok _) (.ite (.bind (mkPoint_err _ _ _ _) fun _ => affMulPos_err _ _) (affMulPos_err _ _))

/-- **mul_errors** — for every point value (also one not on the curve) and every integer -/
theorem mul_errors (pre : List (Int × Int)) (P : Pt) (k : Int) (e : PyErr) (h : ptMulWith pre P k = .error e) : ArithErr e := by
  revert e
  unfold ptMulWith
  split
  · exact Arith.ok _
  · exact pjMulWith_err _ _ _
  · exact affMul_err _ _

theorem ArithErr.ne {e} (h : ArithErr e) : e ≠ .noKey ∧ e ≠ .invalidCurve := by
  rcases h with rfl | rfl | rfl <;> exact ⟨by decide, by decide⟩

/-- **secret_refusals_only_driver** — `C05.secret_refusals_only` with its two hypotheses discharged for the environment of the
model driver, every curve list and every state -/
theorem secret_refusals_only_driver (cs : Array EcdhWire.CParams) (s : State Nat EcdhWire.WPt) :
    (getSharedSecret (EcdhWire.env cs) s = .error .noKey → s.priv = none ∨ s.pub = none) ∧
    (getSharedSecret (EcdhWire.env cs) s = .error .invalidCurve →
      ∃ sk vk, s.priv = some sk ∧ s.pub = some vk ∧ ¬ (s.curve = some sk.curve ∧ vk.curve = sk.curve)) := by
  refine C05.secret_refusals_only (EcdhWire.env cs) s ?_ ?_
  · intro P k e h
    exact (mul_errors [] P k e h).ne
  · intro P e h
    cases P with
    | jac J => exact (pjX_err J e h).ne
    | aff A => cases h
    | infinity =>
      have : e = .other := by
        have h' : (Except.error PyErr.other : Res Int) = .error e := h
        exact (Except.error.inj h').symm
      subst this
      exact ⟨by decide, by decide⟩

/-- non-vacuity: an empty object raises `NoKeyError`; multiplying a generator-flagged point without an order raises
`AssertionError` (`_maybe_precompute`) -/
example : getSharedSecret (EcdhWire.env #[]) ⟨none, none, none⟩ = .error .noKey ∧
    ptMulWith [] (.jac ⟨⟨11, 1, 6, none⟩, 2, 4, 1, none, true⟩) 2 = .error .assertionError ∧ ArithErr .assertionError :=
  ⟨rfl, by decide, Or.inl rfl⟩

end C05g
