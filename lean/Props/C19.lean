import Proofs.PointObjMulAdd
import Mathlib.Algebra.Group.Int.Defs
/-!
# C19 — the value of a point or key never changes, whatever was done with it before

`Model/PointObj.lean` is the code's object world: a heap of `PointJacobi` objects with their hidden state (coordinate
triple rewritten by `scale()`, lazily built table), legacy points, copies of INFINITY, keys referencing points; operations
mutate, allocate and alias.  `Proofs/PointObjAbs.lean` is the world the property speaks about: a heap of **values**
(group element + immutable attributes), with no hidden state at all.

`step_refines`: a covered operation returns exactly the output of the abstract operation (integers, booleans, bytes,
signatures *and which object is returned*) and keeps the heaps related; `history_independent` lifts this to histories,
`eq_equivalence` and `pickle_roundtrip_*` are the consequences for `==` and for pickling points and keys (evaluated
instance: `C19g.toy_key_pickle`).

Hypothesis `RepIndep sp HS HA` (`Proofs/PointObjSim.lean`): the value-level functions of `Model/Curve.lean` map
hidden states of values to hidden states of the group results, for **every** representation — C06/C07's theorems
under N2T (open finding K1 is exactly the failure of this on curves with a point of order 2).

**Domain of the theorems** (what `Inv` — through `RepIndep` — demands of a heap; outside it there is NO theorem here):

* *one curve per heap* (`hs_curve`): all point objects of a related heap lie on the curve `sp.c`, and their values in one
  subgroup ⟨G⟩ of odd order n (`Props/C19g.lean`), with declared order n or none.  **Mixed-curve heaps** — objects of two
  different curves side by side, where `==` must answer `False` and `+` must raise — are not covered by `step_refines` /
  `history_independent`; they are exercised by the harness only (walks with a second curve through a common point, walks
  with equal-but-distinct `CurveFp` objects: correspondence with the model + value-semantics search).
* *no identity-valued stored objects* (`hs_ne`, `ha_ne`, `hs_nz`): a stored `PointJacobi` / legacy `Point` cell denotes a
  non-zero group element and its triple has Y ≠ 0, Z ≠ 0.  The identity occurs as the `INFINITY` singleton and its
  pickled / copied twins only — which is all the library's own arithmetic ever returns (`coordsOut` maps Y = 0 or Z = 0
  to `INFINITY`).  A user-constructed `PointJacobi(curve, x, 0, z)` or `(x, y, 0)` (legal, and built by the pinned tests)
  living in the heap is **not** covered: the value-level theorems for such operands are C06/C07's `PJRep0` family
  (`Proofs/GroupObj0.lean`, `Proofs/MulAll.lean`, `Proofs/MulNaf.lean`), single operations, no heap.  The harness meets such objects only on
  the curves with a point of order 2 (stored triples with y = 0: the K1 domain).
* K1: curves whose subgroup has an element of order 2 are outside (`RepIndep` fails there; open known finding).

`Covered`: every operation of `PointObj.Op` — reads, `scale`, `to_affine`, `from_affine`, `-`, `double`, `+`, `*`,
`mul_add`, `==`, pickle, `copy.copy`, key construction, the key's point, `precompute` (lazy and eager), `to_string`,
`verifies`, key `==`, signing-key construction, `sign`, the signing key's verifying key — except arithmetic whose operands are all legacy `Point`s (`P + Q`, `k * P`, `-P`,
`P.double()` on immutable objects: no hidden state is involved; this includes the `other * other_mul` shortcut of
`mul_add` with a legacy `other` and first multiplier 0), and `verifies` on a key whose point is not a `PointJacobi`
(never the case for keys built by the library).
-/
namespace C19
open PointObj Curve

variable {G : Type} [AddCommGroup G] [DecidableEq G]
variable {sp : ASpec G} {HS : PJ → List (Int × Int) → G → Prop} {HA : AffPt → G → Prop}

/-! ### the covered set: well-typed calls, minus arithmetic on legacy points only

Every call the harness generates lies in this set and every kind of call in this set is generated
(`harness/props/C19.py`); what is excluded from generation is excluded here. -/

/-- the reference denotes a point object: a `PointJacobi`, a legacy `Point`, INFINITY or a copy of INFINITY -/
def IsPoint (ah : AHeap G) (r : Ref) : Prop := aptOf ah r ≠ none

/-- a point object other than the identity (`from_affine(INFINITY)` builds `PointJacobi(None, None, None, 1)` without raising: a
meaningless object, outside the model) -/
def IsFinite (ah : AHeap G) (r : Ref) : Prop := ∃ v, aptOf ah r = some v ∧ v ≠ .inf

/-- a `PointJacobi` with a declared non-zero order: what a `curves.Curve` object can be built around (`Curve.__init__`
calls `orderlen(generator.order())`) -/
def IsGen (ah : AHeap G) (g : Ref) : Prop := ∃ x n gen, aptOf ah g = some (.jac x (some n) gen) ∧ n ≠ 0

/-- a `VerifyingKey` as the library builds it: its generator is such an object, its point is a `PointJacobi` -/
def WFKey (ah : AHeap G) (k : Nat) : Prop :=
  ∃ g q, ah[k]? = some (.key g q) ∧ IsGen ah g ∧ ∃ x o gen, aptOf ah q = some (.jac x o gen)

def WFSKey (ah : AHeap G) (sk : Nat) : Prop := ∃ d vk, ah[sk]? = some (.skey d vk) ∧ WFKey ah vk

def IsObject (ah : AHeap G) : Ref → Prop
  | .inf => True
  | .obj i => ∃ a, ah[i]? = some a

/-- the operations (in the abstract heap `ah`) for which the refinement is proved.  The proofs consult `NotAff`,
`NotBothAff`, `MulAddOK` and, for `verifies`, that the key's point is a `PointJacobi` (from `WFKey`); the remaining
conjuncts say which calls are well-typed — on an ill-typed reference both machines raise the same error -/
def Covered (ah : AHeap G) : Op → Prop
  | .x r => IsPoint ah r
  | .y r => IsPoint ah r
  | .order r => IsPoint ah r
  | .scale r => IsPoint ah r
  | .toAffine r => IsPoint ah r
  | .fromAffine r _ => IsFinite ah r
  | .neg r => IsPoint ah r ∧ NotAff ah r
  | .double r => IsPoint ah r ∧ NotAff ah r
  | .mul r _ => IsPoint ah r ∧ NotAff ah r
  | .add r s => IsPoint ah r ∧ IsPoint ah s ∧ NotBothAff ah r s
  | .mulAdd r a s _ => IsPoint ah r ∧ IsPoint ah s ∧ MulAddOK ah a s
  | .eq r s => IsPoint ah r ∧ IsPoint ah s
  | .pickle r => IsObject ah r
  | .copy r => IsPoint ah r
  | .mkKey g r => IsGen ah g ∧ IsPoint ah r
  | .keyPoint k => WFKey ah k
  | .keyPrecompute k _ => WFKey ah k
  | .keySer k _ => WFKey ah k
  | .keyVerify k _ _ _ => WFKey ah k
  | .keyEq k l => WFKey ah k ∧ WFKey ah l
  | .mkSKey g _ => IsGen ah g
  | .skSign sk _ _ => WFSKey ah sk
  | .skVerifyingKey sk => WFSKey ah sk

/-! a Boolean checker for `Covered` (used by the non-vacuity instances) -/

def isPointB (ah : AHeap G) (r : Ref) : Bool := (aptOf ah r).isSome
def isFiniteB (ah : AHeap G) (r : Ref) : Bool := match aptOf ah r with | some .inf => false | some _ => true | none => false
def notAffB (ah : AHeap G) (r : Ref) : Bool := match aptOf ah r with | some (.aff _ _) => false | _ => true
def isGenB (ah : AHeap G) (g : Ref) : Bool := match aptOf ah g with | some (.jac _ (some n) _) => n != 0 | _ => false
def isJacB (ah : AHeap G) (r : Ref) : Bool := match aptOf ah r with | some (.jac _ _ _) => true | _ => false
def wfKeyB (ah : AHeap G) (k : Nat) : Bool := match ah[k]? with | some (.key g q) => isGenB ah g && isJacB ah q | _ => false
def wfSKeyB (ah : AHeap G) (sk : Nat) : Bool := match ah[sk]? with | some (.skey _ vk) => wfKeyB ah vk | _ => false
def isObjectB (ah : AHeap G) : Ref → Bool | .inf => true | .obj i => (ah[i]?).isSome

def coveredB (ah : AHeap G) : Op → Bool
  | .x r | .y r | .order r | .scale r | .toAffine r | .copy r => isPointB ah r
  | .fromAffine r _ => isFiniteB ah r
  | .neg r | .double r | .mul r _ => isPointB ah r && notAffB ah r
  | .add r s => isPointB ah r && isPointB ah s && (notAffB ah r || notAffB ah s)
  | .mulAdd r a s _ => isPointB ah r && isPointB ah s && (a != 0 || notAffB ah s)
  | .eq r s => isPointB ah r && isPointB ah s
  | .pickle r => isObjectB ah r
  | .mkKey g r => isGenB ah g && isPointB ah r
  | .keyPoint k | .keyPrecompute k _ | .keySer k _ | .keyVerify k _ _ _ => wfKeyB ah k
  | .keyEq k l => wfKeyB ah k && wfKeyB ah l
  | .mkSKey g _ => isGenB ah g
  | .skSign sk _ _ | .skVerifyingKey sk => wfSKeyB ah sk

theorem isPointB_sound {ah : AHeap G} {r : Ref} (h : isPointB ah r = true) : IsPoint ah r := by
  unfold isPointB at h; intro hn; rw [hn] at h; cases h

theorem notAffB_sound {ah : AHeap G} {r : Ref} (h : notAffB ah r = true) : NotAff ah r := by
  intro g o hc; unfold notAffB at h; rw [hc] at h; cases h

theorem isFiniteB_sound {ah : AHeap G} {r : Ref} (h : isFiniteB ah r = true) : IsFinite ah r := by
  cases hv : aptOf ah r with
  | none => rw [isFiniteB, hv] at h; cases h
  | some v => exact ⟨v, hv, by rintro rfl; rw [isFiniteB, hv] at h; cases h⟩

theorem isGenB_sound {ah : AHeap G} {g : Ref} (h : isGenB ah g = true) : IsGen ah g := by
  unfold isGenB at h
  split at h
  · next x n gen hv => exact ⟨x, n, gen, hv, by simpa using h⟩
  · cases h

theorem wfKeyB_sound {ah : AHeap G} {k : Nat} (h : wfKeyB ah k = true) : WFKey ah k := by
  unfold wfKeyB at h
  split at h
  · next g q hk =>
    rw [Bool.and_eq_true] at h
    have h2 := h.2
    unfold isJacB at h2
    split at h2
    · next x o gen hq => exact ⟨g, q, hk, isGenB_sound h.1, x, o, gen, hq⟩
    · cases h2
  · cases h

theorem wfSKeyB_sound {ah : AHeap G} {sk : Nat} (h : wfSKeyB ah sk = true) : WFSKey ah sk := by
  unfold wfSKeyB at h
  split at h
  · next d vk hk => exact ⟨d, vk, hk, wfKeyB_sound h⟩
  · cases h

theorem coveredB_sound {ah : AHeap G} {op : Op} (h : coveredB ah op = true) : Covered ah op := by
  have and_true : ∀ {a b : Bool}, (a && b) = true → a = true ∧ b = true := fun h => (Bool.and_eq_true _ _).mp h
  cases op with
  | x r | y r | order r | scale r | toAffine r | copy r => exact isPointB_sound h
  | fromAffine r _ => exact isFiniteB_sound h
  | neg r | double r | mul r _ => exact ⟨isPointB_sound (and_true h).1, notAffB_sound (and_true h).2⟩
  | add r s =>
    obtain ⟨h12, h3⟩ := and_true h
    refine ⟨isPointB_sound (and_true h12).1, isPointB_sound (and_true h12).2, ?_⟩
    rintro ⟨⟨g, o, h1⟩, ⟨g', o', h2⟩⟩
    rcases (Bool.or_eq_true _ _).mp h3 with h3 | h3
    · exact notAffB_sound h3 g o h1
    · exact notAffB_sound h3 g' o' h2
  | mulAdd r a s b =>
    obtain ⟨h12, h3⟩ := and_true h
    refine ⟨isPointB_sound (and_true h12).1, isPointB_sound (and_true h12).2, fun ha => ?_⟩
    rcases (Bool.or_eq_true _ _).mp h3 with h3 | h3
    · rw [ha] at h3; cases h3
    · exact notAffB_sound h3
  | eq r s => exact ⟨isPointB_sound (and_true h).1, isPointB_sound (and_true h).2⟩
  | pickle r =>
    cases r with
    | inf => trivial
    | obj i => exact Option.isSome_iff_exists.mp h
  | mkKey g r => exact ⟨isGenB_sound (and_true h).1, isPointB_sound (and_true h).2⟩
  | keyPoint k | keyPrecompute k _ | keySer k _ | keyVerify k _ _ _ => exact wfKeyB_sound h
  | keyEq k l => exact ⟨wfKeyB_sound (and_true h).1, wfKeyB_sound (and_true h).2⟩
  | mkSKey g _ => exact isGenB_sound h
  | skSign sk _ _ | skVerifyingKey sk => exact wfSKeyB_sound h

theorem WFKey.pointOK {ah : AHeap G} {k : Nat} (h : WFKey ah k) : KeyPointOK ah k := by
  obtain ⟨g, q, hk, _, x, o, gen, hq⟩ := h
  intro g' q' hk'
  cases hk.symm.trans hk'
  exact NotAff.of_jac hq

theorem run_of_outcome {α} {m : M α} {am : AM G α} {f : α → Out} {h : Heap} {ah : AHeap G}
    (ho : Outcome HS HA (fun a b => a = b) (m h) (am ah)) :
    (run m f h).2 = (arun am f ah).2 ∧ Inv HS HA (run m f h).1 (arun am f ah).1 := by
  unfold run arun
  rcases ho.cases with ⟨e, h', ah', hm, ham, hi'⟩ | ⟨a, b, h', ah', hm, ham, rfl, hi'⟩ <;> rw [hm, ham] <;> exact ⟨rfl, hi'⟩

/-- **step_refines** — one covered operation: the concrete step yields the abstract output and the heaps stay related -/
theorem step_refines (hyp : RepIndep sp HS HA) {h : Heap} {ah : AHeap G} (hi : Inv HS HA h ah) (op : Op)
    (hc : Covered ah op) :
    (step h op).2 = (astep sp ah op).2 ∧ Inv HS HA (step h op).1 (astep sp ah op).1 := by
  have refines : ∀ {α} {m : M α} {am : AM G α} {f : α → Out}, SimAt HS HA ah (fun a b => a = b) m am →
      (run m f h).2 = (arun am f ah).2 ∧ Inv HS HA (run m f h).1 (arun am f ah).1 := fun H => run_of_outcome (H h hi)
  cases op with
  | x r => exact refines ((readX_sim hyp r).at ah)
  | y r => exact refines ((readY_sim hyp r).at ah)
  | order r => exact refines ((readOrder_sim r).at ah)
  | scale r => exact refines ((scaleObj_sim hyp r).at ah)
  | toAffine r => exact refines ((toAffineObj_sim hyp r).at ah)
  | fromAffine r g => exact refines ((fromAffineObj_sim hyp r g).at ah)
  | neg r => exact refines (negObj_sim hyp hc.2)
  | double r => exact refines (doubleObj_sim hyp hc.2)
  | add r s => exact refines (addObj_sim hyp hc.2.2)
  | mul r k => exact refines (mulObj_sim hyp hc.2 k)
  | mulAdd r a s b => exact refines (mulAddObj_sim hyp hc.2.2 r b)
  | eq r s => exact refines ((eqObj_sim hyp r s).at ah)
  | pickle r => exact refines ((pickleObj_sim r).at ah)
  | copy r => exact refines ((copyPoint_sim r).at ah)
  | mkKey g r => exact refines ((mkKeyObj_sim hyp g r).at ah)
  | keyPoint k => exact refines ((Sim.bind (getKey_sim k) (by rintro ⟨_, q⟩ _ rfl; exact Sim.pure rfl)).at ah)
  | keyPrecompute k l => exact refines ((keyPrecomputeObj_sim hyp k l).at ah)
  | keySer k e => exact refines ((keySerObj_sim hyp k e).at ah)
  | keyVerify k e r s => exact refines (keyVerifyObj_sim hyp hc.pointOK e r s)
  | keyEq a b => exact refines ((keyEqObj_sim hyp a b).at ah)
  | mkSKey g d => exact refines ((mkSKeyObj_sim hyp g d).at ah)
  | skSign sk e k => exact refines ((skSignObj_sim hyp sk e k).at ah)
  | skVerifyingKey sk =>
    refine refines (Sim.at (Sim.bind getHeap_sim fun h' ah' hi' => ?_) ah)
    rcases hi'.get sk with ⟨h1, h2⟩ | ⟨o, a, h1, h2, hr⟩ <;> rw [h1, h2]
    · exact Sim.raise _
    · cases hr with
      | skey d vk => exact Sim.pure rfl
      | _ => exact Sim.raise _

def CoveredAll (sp : ASpec G) : AHeap G → List Op → Prop
  | _, [] => True
  | ah, op :: ops => Covered ah op ∧ CoveredAll sp (astep sp ah op).1 ops

theorem CoveredAll.cons {ah ah' : AHeap G} {op : Op} {ops : List Op} (hc : coveredB ah op = true)
    (e : (astep sp ah op).1 = ah') (h : CoveredAll sp ah' ops) : CoveredAll sp ah (op :: ops) :=
  ⟨coveredB_sound hc, e ▸ h⟩

/-- **history_independent** — induction over the operation list: whatever was done before (the concrete heap may hold
any hidden states of the values), every output of the history equals the output of the abstract machine, which knows
values only; and the final heaps are related again -/
theorem history_independent (hyp : RepIndep sp HS HA) (ops : List Op) {h : Heap} {ah : AHeap G} (hi : Inv HS HA h ah)
    (hc : CoveredAll sp ah ops) :
    outputs h ops = aoutputs sp ah ops ∧ Inv HS HA (runOps h ops) (arunOps sp ah ops) := by
  induction ops generalizing h ah with
  | nil => exact ⟨rfl, hi⟩
  | cons op ops ih =>
    obtain ⟨h1, h2⟩ := step_refines hyp hi op hc.1
    obtain ⟨h3, h4⟩ := ih h2 hc.2
    exact ⟨by simp only [outputs, aoutputs, h1, h3], h4⟩

/-- non-vacuity of the covered set and of the abstract machine (values = integers, `x` of a value = itself): on a heap
with the generator-flagged value 5 (declared order 13) the history `x; 2*P; x; 1*P; P == 2P; scale; pickle` is covered
and the abstract machine answers 5, new object, 10, the same object, False, the same object, new object -/
example : let sp : ASpec Int := ⟨id, id, ⟨11, 1, 6, none⟩⟩
    let ah : AHeap Int := [.pj 5 (some 13) true]
    let ops : List Op := [.x (.obj 0), .mul (.obj 0) 2, .x (.obj 1), .mul (.obj 0) 1, .eq (.obj 0) (.obj 1),
      .scale (.obj 0), .pickle (.obj 0)]
    CoveredAll sp ah ops ∧
    aoutputs sp ah ops = [.optInt (some 5), .ref (.obj 1), .optInt (some 10), .ref (.obj 0), .bool false,
      .ref (.obj 0), .ref (.obj 2)] := by
  refine ⟨⟨coveredB_sound rfl, coveredB_sound rfl, coveredB_sound rfl, coveredB_sound rfl, coveredB_sound rfl,
    coveredB_sound rfl, coveredB_sound rfl, trivial⟩, by decide⟩

/-- two concrete heaps denoting the same values — one with an arbitrary past, one
freshly constructed — answer every history identically (outputs include which pool object is returned) -/
theorem history_independent_fresh (hyp : RepIndep sp HS HA) (ops : List Op) {h₁ h₂ : Heap} {ah : AHeap G}
    (hi₁ : Inv HS HA h₁ ah) (hi₂ : Inv HS HA h₂ ah) (hc : CoveredAll sp ah ops) :
    outputs h₁ ops = outputs h₂ ops := by
  rw [(history_independent hyp ops hi₁ hc).1, (history_independent hyp ops hi₂ hc).1]

def aden (ah : AHeap G) (r : Ref) : Option G :=
  match aptOf ah r with
  | some .inf => some 0
  | some (.jac g _ _) => some g
  | some (.aff g _) => some g
  | none => none

theorem aden_isPoint {ah : AHeap G} {r : Ref} {g : G} (h : aden ah r = some g) : IsPoint ah r := by
  unfold aden at h
  intro hn
  rw [hn] at h
  cases h

theorem aden_eq {ah : AHeap G} {r : Ref} {g : G} (h : aden ah r = some g) : ∃ b, aptOf ah r = some b ∧ b.den = g := by
  unfold aden at h
  split at h <;> cases h <;> exact ⟨_, ‹_›, rfl⟩

/-- `==` on the abstract machine is equality of values (for operands that occur in a related concrete heap, where a
`PointJacobi`/`Point` object never denotes 0) -/
theorem aeq_value (hyp : RepIndep sp HS HA) {h : Heap} {ah : AHeap G} (hi : Inv HS HA h ah) (r s : Ref) {g g' : G}
    (hr : aden ah r = some g) (hs : aden ah s = some g') :
    (astep sp ah (.eq r s)).2 = .bool (decide (g = g')) := by
  obtain ⟨b, hb, rfl⟩ := aden_eq hr
  obtain ⟨c, hc, rfl⟩ := aden_eq hs
  obtain ⟨v, hv⟩ := hi.rval hb
  obtain ⟨w, hw⟩ := hi.rval hc
  have e : aeqObj r s ah = (.ok (decide (b.den = c.den)), ah) := by
    have rd : ∀ {r : Ref} {b : AVal G}, aptOf ah r = some b → agetPt r ah = (.ok b, ah) := fun hb => by rw [agetPt, hb]
    show AM.bind (agetPt r) _ ah = _
    rw [AM.bind_run (rd hb)]
    show AM.bind (agetPt s) _ ah = _
    rw [AM.bind_run (rd hc)]
    -- a copy of INFINITY against a `PointJacobi` is answered `false` outright: rightly, the value of the latter is not 0
    have copy : ∀ {g : G} {c : Bool} {p : Prop} [Decidable p], g ≠ 0 → (p ↔ g = 0) →
        (if c then AM.pure false else AM.pure (decide p) : AM G Bool) ah = (.ok (decide p), ah) := by
      intro g c p _ hg hp
      rw [decide_eq_false (mt hp.1 hg)]
      split <;> rfl
    cases hv with
    | inf =>
      cases hw with
      | jac hsQ => exact copy (hyp.hs_ne hsQ) eq_comm
      | _ => rfl
    | jac hsP =>
      cases hw with
      | inf => exact copy (hyp.hs_ne hsP) Iff.rfl
      | _ => rfl
    | aff _ => cases hw <;> rfl
  show (arun (aeqObj r s) Out.bool ah).2 = _
  rw [arun, e]

theorem eq_value (hyp : RepIndep sp HS HA) {h : Heap} {ah : AHeap G} (hi : Inv HS HA h ah) (r s : Ref) {g g' : G}
    (hr : aden ah r = some g) (hs : aden ah s = some g') : (step h (.eq r s)).2 = .bool (decide (g = g')) :=
  (step_refines hyp hi (.eq r s) ⟨aden_isPoint hr, aden_isPoint hs⟩).1.trans (aeq_value hyp hi r s hr hs)

/-- **eq_equivalence** — on objects with any past, `P == Q` returns `True` exactly when the denoted values are equal;
consequently it is reflexive, symmetric and transitive -/
theorem eq_equivalence (hyp : RepIndep sp HS HA) {h : Heap} {ah : AHeap G} (hi : Inv HS HA h ah) (r s t : Ref)
    {g g' g'' : G} (hr : aden ah r = some g) (hs : aden ah s = some g') (ht : aden ah t = some g'') :
    ((step h (.eq r s)).2 = .bool true ↔ g = g') ∧
    (step h (.eq r r)).2 = .bool true ∧
    ((step h (.eq r s)).2 = (step h (.eq s r)).2) ∧
    ((step h (.eq r s)).2 = .bool true → (step h (.eq s t)).2 = .bool true → (step h (.eq r t)).2 = .bool true) := by
  rw [eq_value hyp hi r s hr hs, eq_value hyp hi r r hr hr, eq_value hyp hi s r hs hr, eq_value hyp hi s t hs ht,
    eq_value hyp hi r t hr ht]
  refine ⟨by simp, by simp, ?_, ?_⟩
  · congr 1; exact decide_eq_decide.mpr ⟨fun h => h.symm, fun h => h.symm⟩
  · simp only [Out.bool.injEq, decide_eq_true_eq]
    intro h1 h2; rw [h1, h2]

theorem pickle_refines {h : Heap} {ah ah' : AHeap G} (hi : Inv HS HA h ah) {r r' : Ref}
    (e : apickleObj (G := G) r ah = (.ok r', ah')) :
    (step h (.pickle r)).2 = .ref r' ∧ Inv HS HA (step h (.pickle r)).1 ah' := by
  have := run_of_outcome (f := Out.ref) (pickleObj_sim (HS := HS) (HA := HA) r h ah hi)
  rw [arun, e] at this
  exact this

theorem acopyPoint_cell {ah : AHeap G} {i : Nat} {a : AObj G} (ha : ah[i]? = some a)
    (hpt : (∃ g o gen, a = .pj g o gen) ∨ (∃ g o, a = .aff g o)) :
    acopyPoint (G := G) (.obj i) ah = (.ok (.obj ah.length), ah ++ [a]) := by
  unfold acopyPoint
  simp only [AM.bind_eq, agetHeap_bind_run, ha]
  rcases hpt with ⟨g, o, gen, rfl⟩ | ⟨g, o, rfl⟩ <;> rfl

/-- **pickle_roundtrip_value** — `pickle.loads(pickle.dumps(P))` of a point object yields a *new* object that denotes the
same value with the same declared order and generator flag: the concrete heap afterwards is again related to an abstract
heap in which the new cell is a copy of the old one.  (By `history_independent` every later operation therefore answers
as on the original.) -/
theorem pickle_roundtrip_value (_hyp : RepIndep sp HS HA) {h : Heap} {ah : AHeap G} (hi : Inv HS HA h ah) (i : Nat)
    (a : AObj G) (ha : ah[i]? = some a) (hpt : (∃ g o gen, a = .pj g o gen) ∨ (∃ g o, a = .aff g o)) :
    (step h (.pickle (.obj i))).2 = .ref (.obj h.length) ∧ Inv HS HA (step h (.pickle (.obj i))).1 (ah ++ [a]) := by
  rw [hi.length]
  refine pickle_refines hi ?_
  rw [← acopyPoint_cell ha hpt]
  unfold apickleObj
  simp only [AM.bind_eq, agetHeap_bind_run, ha]
  rcases hpt with ⟨g, o, gen, rfl⟩ | ⟨g, o, rfl⟩ <;> rfl

theorem acopyKey_pj (ah : AHeap G) (k gi qi : Nat) (Gv Qv : G) (go qo : Option Int) (gg qg : Bool)
    (hk : ah[k]? = some (.key (.obj gi) (.obj qi))) (hg : ah[gi]? = some (.pj Gv go gg)) (hq : ah[qi]? = some (.pj Qv qo qg)) :
    acopyKey (G := G) k ah =
      if qi = gi then (.ok (ah.length + 1), ah ++ [.pj Gv go gg, .key (.obj ah.length) (.obj ah.length)])
      else (.ok (ah.length + 2), ah ++ [.pj Gv go gg, .pj Qv qo qg, .key (.obj ah.length) (.obj (ah.length + 1))]) := by
  unfold acopyKey
  simp only [AM.bind_eq, agetHeap_bind_run, hk]
  rw [AM.bind_run (acopyPoint_cell hg (Or.inl ⟨_, _, _, rfl⟩))]
  by_cases e : qi = gi
  · rw [if_pos (congrArg Ref.obj e), if_pos e, AM.pure_bind]
    simp only [AM.bind, AM.alloc, AM.pure, List.length_append, List.append_assoc, List.length_cons, List.length_nil,
      List.cons_append, List.nil_append]
  · have hq' : (ah ++ [AObj.pj Gv go gg])[qi]? = some (.pj Qv qo qg) := by
      rw [List.getElem?_append_left (List.getElem?_eq_some_iff.1 hq).1, hq]
    rw [if_neg (fun h => e (Ref.obj.inj h)), if_neg e, AM.bind_run (acopyPoint_cell hq' (Or.inl ⟨_, _, _, rfl⟩))]
    simp only [AM.bind, AM.alloc, AM.pure, List.length_append, List.append_assoc, List.length_cons, List.length_nil,
      List.cons_append, List.nil_append]

/-- **pickle_roundtrip_key** — `pickle.loads(pickle.dumps(vk))` of a `VerifyingKey` yields a *new* key object whose generator
and point are *new* `PointJacobi` objects denoting the same group elements with the same declared orders and flags: the
concrete heap afterwards (whatever hidden state — coordinate triples, tables — the originals had) is again related to the
abstract heap extended by copies of the value cells and a key cell referring to them. -/
theorem pickle_roundtrip_key (_hyp : RepIndep sp HS HA) {h : Heap} {ah : AHeap G} (hi : Inv HS HA h ah) (k gi qi : Nat)
    (Gv Qv : G) (go qo : Option Int) (gg qg : Bool) (hne : qi ≠ gi)
    (hk : ah[k]? = some (.key (.obj gi) (.obj qi))) (hg : ah[gi]? = some (.pj Gv go gg)) (hq : ah[qi]? = some (.pj Qv qo qg)) :
    (step h (.pickle (.obj k))).2 = .ref (.obj (h.length + 2)) ∧
    Inv HS HA (step h (.pickle (.obj k))).1
      (ah ++ [.pj Gv go gg, .pj Qv qo qg, .key (.obj h.length) (.obj (h.length + 1))]) := by
  rw [hi.length]
  refine pickle_refines hi ?_
  unfold apickleObj
  simp only [AM.bind_eq, agetHeap_bind_run, hk]
  rw [AM.bind_run ((acopyKey_pj ah k gi qi Gv Qv go qo gg qg hk hg hq).trans (if_neg hne))]
  rfl

/-- the same when the key's point *is* its generator object (d = 1 and the caller passed the generator itself): one copy -/
theorem pickle_roundtrip_key_shared (_hyp : RepIndep sp HS HA) {h : Heap} {ah : AHeap G} (hi : Inv HS HA h ah) (k gi : Nat)
    (Gv : G) (go : Option Int) (gg : Bool)
    (hk : ah[k]? = some (.key (.obj gi) (.obj gi))) (hg : ah[gi]? = some (.pj Gv go gg)) :
    (step h (.pickle (.obj k))).2 = .ref (.obj (h.length + 1)) ∧
    Inv HS HA (step h (.pickle (.obj k))).1 (ah ++ [.pj Gv go gg, .key (.obj h.length) (.obj h.length)]) := by
  rw [hi.length]
  refine pickle_refines hi ?_
  unfold apickleObj
  simp only [AM.bind_eq, agetHeap_bind_run, hk]
  rw [AM.bind_run ((acopyKey_pj ah k gi gi Gv Gv go go gg gg hk hg hg).trans (if_pos rfl))]
  rfl

/-- **pickle_roundtrip_skey** — the same for a `SigningKey`: the restored object has the same secret multiplier and a restored
verifying key as in `pickle_roundtrip_key`; by `history_independent` it therefore makes the same signatures (`sign` reads d,
the generator's value and declared order only) and its verifying key verifies the same signatures. -/
theorem pickle_roundtrip_skey (_hyp : RepIndep sp HS HA) {h : Heap} {ah : AHeap G} (hi : Inv HS HA h ah) (sk : Nat) (d : Int)
    (k gi qi : Nat) (Gv Qv : G) (go qo : Option Int) (gg qg : Bool) (hne : qi ≠ gi) (hs : ah[sk]? = some (.skey d k))
    (hk : ah[k]? = some (.key (.obj gi) (.obj qi))) (hg : ah[gi]? = some (.pj Gv go gg)) (hq : ah[qi]? = some (.pj Qv qo qg)) :
    (step h (.pickle (.obj sk))).2 = .ref (.obj (h.length + 3)) ∧
    Inv HS HA (step h (.pickle (.obj sk))).1
      (ah ++ [.pj Gv go gg, .pj Qv qo qg, .key (.obj h.length) (.obj (h.length + 1)), .skey d (h.length + 2)]) := by
  rw [hi.length]
  refine pickle_refines hi ?_
  unfold apickleObj
  simp only [AM.bind_eq, agetHeap_bind_run, hs]
  rw [AM.bind_run ((acopyKey_pj ah k gi qi Gv Qv go qo gg qg hk hg hq).trans (if_neg hne))]
  -- the new `skey` cell goes behind the three copies
  simp only [AM.alloc, List.length_append, List.append_assoc]
  rfl

end C19
