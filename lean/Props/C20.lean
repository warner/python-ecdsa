import Proofs.RWShare
/-!
# C20 — reader-writer lock: writers exclusive, readers shared, no deadlock

All statements are about `RW.GP = Gen.RW.progs`, the instruction lists translated from `src/ecdsa/_rwlock.py`
on every run (`Generated/RWLock.lean`), for ANY number of threads, each running ANY finite list of
reader / writer rounds, under ANY schedule (a context switch is possible at every instruction).

* thread level: `RW.Cfg` (shared state + one `Thread` per thread), `RW.tstep`, `RW.Reach`;
* counting abstraction: `RW.CS` (shared state + number of threads at each program point), `RW.cstep`.
-/
namespace C20
open RW

/-- the programs of all theorems below are the generated ones (so a changed source line changes them) -/
theorem programs_are_generated :
    GP = ⟨Gen.RW.reader_acquire, Gen.RW.reader_release, Gen.RW.writer_acquire, Gen.RW.writer_release,
          Gen.RW.counter_init⟩ := rfl

/-- the linear invariant `RInv` (which mutex is held by the threads at which program points, what
the counters count) is preserved by EVERY transition of the counting abstraction -/
theorem rw_inv (l : Lbl) (s s' : CS) (h : RInv s) (hs : cstep GP l s = .ok s') : RInv s' :=
  rinv_cstep l s s' h hs

theorem rw_inv_reachable (rs : List (List Role)) (c : Cfg) (h : Reach GP rs c) : RInv (abs c) :=
  reach_rinv h

/-- non-vacuity: reader 0 has taken `RQ` -/
example : ∃ c, Reach GP [[.reader], [.writer, .reader]] c ∧ c.sh.RQ = 1 ∧ RInv (abs c) := by
  have h : Reach GP [[.reader], [.writer, .reader]] _ := Reach.step 0 Reach.init (c' := ⟨⟨1, 0, 0, 0, 0, 0, 0⟩, [⟨[.reader], 1⟩, ⟨[.writer, .reader], 0⟩]⟩) (by decide)
  exact ⟨_, h, rfl, reach_rinv h⟩

/-- the thread level and the counting abstraction agree outcome by outcome (`ok` / `blocked` / `err`), in both directions -/
theorem count_simulation (P : Progs) (c : Cfg) :
    (∀ (i : Nat) (t : Thread) (r : Role) (rest : List Role), c.thr[i]? = some t → t.rounds = r :: rest →
        cstep P ⟨r, t.pc, rest.head?⟩ (abs c) = (tstep P c i).map abs) ∧
    (∀ (r : Role) (k : Nat), (abs c).cnt r k ≠ 0 →
        ∃ (i : Nat) (t : Thread) (rest : List Role), c.thr[i]? = some t ∧ t.rounds = r :: rest ∧ t.pc = k ∧
          cstep P ⟨r, k, rest.head?⟩ (abs c) = (tstep P c i).map abs) :=
  ⟨fun i t r rest ht hr => sim_step P c i t r rest ht hr, fun r k h => sim_back P c r k h⟩

/-- at most one writer inside, and then no reader inside -/
theorem writers_exclusive_count (s : CS) (h : RInv s) :
    s.cnt .writer 5 ≤ 1 ∧ (1 ≤ s.cnt .writer 5 → s.cnt .reader 8 = 0) := by
  -- NW is held by the writer inside, or by the group of the readers inside
  obtain ⟨hNW, bNW⟩ := rinv_mtx h .NW
  have h5 : s.cnt .writer 5 ≤ _ := le_tot s.cnt (A := holders .NW) (p := (.writer, 5)) (by decide)
  have h8 : s.cnt .reader 8 ≤ _ := le_tot s.cnt (A := group .NW) (p := (.reader, 8)) (by decide)
  omega

/-- in every reachable configuration, if thread `i` is inside as a writer then no other thread
is inside as a writer and no thread is inside as a reader -/
theorem writers_exclusive (rs : List (List Role)) (c : Cfg) (h : Reach GP rs c) (i j : Nat) (ti tj : Thread)
    (hi : c.thr[i]? = some ti) (hj : c.thr[j]? = some tj) (hw : ti.insideAs GP .writer = true) :
    (tj.insideAs GP .writer = true → i = j) ∧ tj.insideAs GP .reader = false := by
  have hinv := writers_exclusive_count _ (reach_rinv h)
  simp only [abs] at hinv
  rw [insideAs_writer] at hw
  have hpos : cntAt c.thr .writer 5 ≠ 0 := cntAt_ne_zero hi hw
  constructor
  · intro hw'
    rw [insideAs_writer] at hw'
    -- were `i ≠ j`, thread `j` would still be counted inside after thread `i` is taken away
    apply Classical.byContradiction
    intro hne
    have h1 : cntAt (c.thr.set i ⟨[], 0⟩) .writer 5 ≠ 0 :=
      cntAt_ne_zero ((List.getElem?_set_ne hne).trans hj) hw'
    rw [cntAt_set c.thr i ti ⟨[], 0⟩ (.writer, 5) hi hw] at h1
    simp only [move, Thread.pt, if_true, reduceCtorEq, if_false] at h1
    omega
  · cases hr : tj.insideAs GP .reader with
    | false => rfl
    | true =>
      rw [insideAs_reader] at hr
      have := cntAt_ne_zero hj hr
      omega

/-- non-vacuity: a writer does get inside (schedule: writer 1 runs its five acquire instructions) -/
example : ∃ c t, runSched GP (Cfg.init GP [[.reader], [.writer]]) [1, 1, 1, 1, 1] = .ok c ∧
    c.thr[1]? = some t ∧ t.insideAs GP .writer = true := by
  refine ⟨⟨⟨0, 1, 1, 0, 0, 0, 1⟩, [⟨[.reader], 0⟩, ⟨[.writer], 5⟩]⟩, ⟨[.writer], 5⟩, by decide, rfl, by decide⟩

/-- when every thread is between rounds (or has finished), every mutex is free and both counters are 0
— the lock is in its initial state again (`Shared.init GP.ctr0`, the generated `counter_init` being 0) -/
theorem reusable (rs : List (List Role)) (c : Cfg) (h : Reach GP rs c) (hidle : ∀ t ∈ c.thr, t.idle = true) :
    c.sh = Shared.init 0 :=
  (rinv_idle (abs c) (idle_cnt_zero hidle .reader) (idle_cnt_zero hidle .writer)).mp (reach_rinv h)

/-- operational form of `reusable`: when every thread is between rounds, ANY thread that has a round left runs that whole
round (12 instructions for a reader, 10 for a writer) alone, without blocking, and leaves the lock in its initial state -/
theorem reusable_round (rs : List (List Role)) (c : Cfg) (h : Reach GP rs c) (hidle : ∀ t ∈ c.thr, t.idle = true)
    (i : Nat) (r : Role) (rest : List Role) (hi : c.thr[i]? = some ⟨r :: rest, 0⟩) :
    ∃ c', runSched GP c (List.replicate (GP.round r).length i) = .ok c' ∧ c'.sh = Shared.init 0 ∧
      c'.thr = c.thr.set i ⟨rest, 0⟩ ∧ (∀ t ∈ c'.thr, t.idle = true) := by
  have hsh := reusable rs c h hidle
  have hex : execAll (((GP.round r).drop 0).take (GP.round r).length) c.sh = some c.sh := by
    rw [hsh]
    cases r <;> decide
  obtain ⟨c', hrun, hsh', hthr⟩ := solo_run i _ c 0 r rest c.sh hi (round_pos r) (by omega) hex
  rw [Nat.zero_add, if_neg (Nat.lt_irrefl _)] at hthr
  refine ⟨c', hrun, hsh'.trans hsh, hthr, ?_⟩
  intro t ht
  rw [hthr] at ht
  rcases List.mem_or_eq_of_mem_set ht with ht | rfl
  · exact hidle t ht
  · rfl

/-- non-vacuity: a writer and then a reader run their rounds one after the other -/
example : ∃ c', runSched GP (Cfg.init GP [[.reader], [.writer]]) (List.replicate 10 1 ++ List.replicate 12 0) = .ok c' ∧
    c'.sh = Shared.init 0 ∧ c'.thr = [⟨[], 0⟩, ⟨[], 0⟩] := by
  exact ⟨⟨Shared.init 0, [⟨[], 0⟩, ⟨[], 0⟩]⟩, by decide +kernel, rfl, rfl⟩

/-- no reachable step releases a free mutex (`RuntimeError: release unlocked lock`) -/
theorem release_never_raises (rs : List (List Role)) (c : Cfg) (h : Reach GP rs c) (i : Nat) :
    tstep GP c i ≠ .err := fun he =>
  let ⟨l, hl⟩ := sim_err he
  rinv_no_err l _ (reach_rinv h) hl

/-- thread `i` is about to start a reader round and every other thread is between rounds, finished or inside as a reader
(no writer around).  Scheduled 8 times in a row, thread `i` runs through the whole of `reader_acquire` — no step blocks —
and every other thread is exactly where it was: the readers that were inside are still inside. -/
theorem readers_shared (rs : List (List Role)) (c : Cfg) (h : Reach GP rs c) (i : Nat) (rest : List Role)
    (hi : c.thr[i]? = some ⟨.reader :: rest, 0⟩) (hq : OthersQuietOrReading c i) :
    ∃ c', runSched GP c (List.replicate 8 i) = .ok c' ∧ c'.thr = c.thr.set i ⟨.reader :: rest, 8⟩ ∧
      (⟨Role.reader :: rest, 8⟩ : Thread).insideAs GP .reader = true := by
  have hinv := reach_rinv h
  simp (disch := decide) only [RInv, abs, cnt_zero_of_quiet hi hq, Nat.add_zero, Nat.zero_add, Nat.min_zero] at hinv
  obtain ⟨sh', hex⟩ := racq_runs c.sh (by omega) (by omega) (by omega) (by omega)
  obtain ⟨c', hrun, -, hthr⟩ := solo_run i 8 c 0 .reader rest sh' hi (by decide) (by decide) hex
  exact ⟨c', hrun, hthr, (insideAs_reader _).mpr rfl⟩

/-- two readers inside at the same time (thread 0 eight steps, thread 1 eight steps); the hypotheses of `readers_shared`
hold after the first eight steps -/
theorem two_readers_inside_reachable :
    ∃ c, Reach GP [[.reader], [.reader], [.writer]] c ∧
      c.thr = [⟨[.reader], 8⟩, ⟨[.reader], 8⟩, ⟨[.writer], 0⟩] ∧
      (∀ t ∈ c.thr.take 2, t.insideAs GP .reader = true) ∧ c.sh.rc = 2 := by
  have hrun : runSched GP (Cfg.init GP [[.reader], [.reader], [.writer]])
      (List.replicate 8 0 ++ List.replicate 8 1) =
      .ok ⟨⟨0, 0, 1, 0, 0, 2, 0⟩, [⟨[.reader], 8⟩, ⟨[.reader], 8⟩, ⟨[.writer], 0⟩]⟩ := by decide
  exact ⟨_, runSched_reach _ _ _ Reach.init hrun, rfl, by decide, rfl⟩

example : ∃ rs c i rest, Reach GP rs c ∧ c.thr[i]? = some ⟨.reader :: rest, 0⟩ ∧ OthersQuietOrReading c i ∧
    ∃ j t, j ≠ i ∧ c.thr[j]? = some t ∧ t.insideAs GP .reader = true := by
  have hrun : runSched GP (Cfg.init GP [[.reader], [.reader], [.writer]]) (List.replicate 8 0) =
      .ok ⟨⟨0, 0, 1, 0, 0, 1, 0⟩, [⟨[.reader], 8⟩, ⟨[.reader], 0⟩, ⟨[.writer], 0⟩]⟩ := by decide
  refine ⟨_, _, 1, [], runSched_reach _ _ _ Reach.init hrun, rfl, ?_, 0, ⟨[.reader], 8⟩, by decide, rfl, by decide⟩
  intro j t hj ht
  match j, hj, ht with
  | 0, _, ht => simp at ht; subst ht; right; decide
  | 2, _, ht => simp at ht; subst ht; left; decide
  | j + 3, _, ht => simp at ht

/-- in every reachable configuration in which some thread has not finished all its rounds — in particular whenever a
thread is in the middle of an acquire or release — some thread can take a step -/
theorem deadlock_free (rs : List (List Role)) (c : Cfg) (h : Reach GP rs c)
    (hun : ∃ t ∈ c.thr, t.finished = false) : ∃ i c', tstep GP c i = .ok c' :=
  deadlock_free_thr h hun

theorem deadlock_free_count (s : CS) (h : RInv s) (hex : ∃ r k, s.cnt r k ≠ 0 ∧ k < (GP.round r).length) :
    ∃ r k nxt s', cstep GP ⟨r, k, nxt⟩ s = .ok s' := by
  obtain ⟨r, k, nxt, s', hs⟩ := rinv_progress s h hex
  exact ⟨r, k, nxt, s', hs⟩

/-- non-vacuity: a reachable configuration in which a thread IS blocked (reader 0 waits for `NR`, held by the writers'
light switch) and another one can move -/
example : ∃ c, Reach GP [[.reader], [.writer]] c ∧ tstep GP c 0 = .blocked ∧ ∃ i c', tstep GP c i = .ok c' := by
  have hrun : runSched GP (Cfg.init GP [[.reader], [.writer]]) [1, 1, 1, 0] =
      .ok ⟨⟨1, 1, 0, 0, 1, 0, 1⟩, [⟨[.reader], 1⟩, ⟨[.writer], 3⟩]⟩ := by decide
  exact ⟨_, runSched_reach _ _ _ Reach.init hrun, by decide, 1,
    ⟨⟨1, 1, 0, 0, 0, 0, 1⟩, [⟨[.reader], 1⟩, ⟨[.writer], 4⟩]⟩, by decide⟩

/-- from every reachable configuration `c`
(1) every schedule is finite — `n` steps consume exactly `n` of the remaining instructions;
(2) a schedule that cannot be extended (no thread can take a step) ends with EVERY thread finished — every
    `*_acquire` and `*_release` call has returned, no wake-up was lost — and has used all remaining instructions;
(3) such a complete schedule exists. -/
theorem all_schedules_terminate (rs : List (List Role)) (c : Cfg) (h : Reach GP rs c) :
    (∀ sched c', runSched GP c sched = .ok c' → c'.remaining GP + sched.length = c.remaining GP) ∧
    (∀ sched c', runSched GP c sched = .ok c' → Stuck GP c' → AllFinished c' ∧ sched.length = c.remaining GP) ∧
    (∃ sched c', runSched GP c sched = .ok c' ∧ AllFinished c') := by
  refine ⟨fun sched c' hr => runSched_remaining sched c c' hr, ?_, can_finish c h⟩
  intro sched c' hr hstuck
  have hfin := stuck_finished (runSched_reach sched c c' h hr) hstuck
  have h0 := remaining_zero_of_finished (P := GP) hfin
  have := runSched_remaining sched c c' hr
  exact ⟨hfin, by omega⟩

/-- non-vacuity: a complete schedule of 3 readers + 2 writers (56 steps) ends with everybody finished and the lock in
its initial state -/
example : ∃ sched c', runSched GP (Cfg.init GP [[.reader], [.reader], [.reader], [.writer], [.writer]]) sched = .ok c' ∧
    sched.length = 56 ∧ c'.sh = Shared.init 0 ∧ c'.thr = List.replicate 5 ⟨[], 0⟩ := by
  refine ⟨List.replicate 12 0 ++ List.replicate 12 1 ++ List.replicate 12 2 ++ List.replicate 10 3 ++
    List.replicate 10 4, ⟨Shared.init 0, List.replicate 5 ⟨[], 0⟩⟩, ?_, by decide, rfl, rfl⟩
  decide

/-- why `if self.__counter == k: lock.acquire()` may be modelled as ONE instruction that is retried as a whole when the
acquire blocks: while some thread is at a conditional instruction of a light switch, no
step of any thread changes that switch's counter — so the outcome of the test cannot change while the thread waits. -/
theorem conditional_test_stable (rs : List (List Role)) (c c' : Cfg) (i : Nat) (h : Reach GP rs c)
    (hs : tstep GP c i = .ok c') :
    ((cntAt c.thr .reader 4 ≠ 0 ∨ cntAt c.thr .reader 10 ≠ 0) → c'.sh.rc = c.sh.rc) ∧
    ((cntAt c.thr .writer 2 ≠ 0 ∨ cntAt c.thr .writer 8 ≠ 0) → c'.sh.wc = c.sh.wc) := by
  obtain ⟨l, hl⟩ := sim_ok hs
  exact rinv_ctr_frozen l (abs c) (abs c') (reach_rinv h) hl

/-- the visible-step semantics that the correspondence replays against the real class (a thread performs
its pending lock operation and runs on to its next lock operation; `RW.vstep`, an iteration of `tstep`) stays inside
`Reach`: every replayed schedule is a thread-level schedule, so all theorems above apply to the replayed states.  `fuel`
bounds the instructions run after the lock operation (the driver takes `remaining + 1`) -/
theorem vstep_reach (rs : List (List Role)) (fuel : Nat) (c c' : Cfg) (i : Nat) (h : Reach GP rs c)
    (hv : vstep GP fuel c i = .ok c') : Reach GP rs c' :=
  RW.vstep_reach fuel c c' i h hv

/-- non-vacuity: a visible step from the initial configuration succeeds (reader 0 takes `RQ` and stops before its next
lock operation; fuel 64 exceeds the 12 instructions of the longest round) -/
example : ∃ c', vstep GP 64 (Cfg.init GP [[.reader], [.writer]]) 0 = .ok c' ∧ c'.sh.RQ = 1 ∧
    Reach GP [[.reader], [.writer]] c' := by
  have h1 : vstep GP 64 (Cfg.init GP [[.reader], [.writer]]) 0 =
      .ok ⟨⟨1, 0, 0, 0, 0, 0, 0⟩, [⟨[.reader], 1⟩, ⟨[.writer], 0⟩]⟩ := by decide +kernel
  exact ⟨_, h1, rfl, RW.vstep_reach _ _ _ _ Reach.init h1⟩

/-- in every reachable configuration at most one thread is inside the critical section of a
given light-switch (between `acq RM` and `rel RM`: reader-round points 3, 4, 5, 9, 10, 11; for `WM`: writer-round points
1, 2, 3, 7, 8, 9), and that switch's mutex is then held.  The counter is read and written only there, so `counter += 1` /
`-= 1` and the test that follows cannot interleave with another access to the same counter — which is what licenses
modelling them as single instructions -/
theorem counter_access_exclusive (rs : List (List Role)) (c : Cfg) (h : Reach GP rs c) :
    (cntAt c.thr .reader 3 + cntAt c.thr .reader 4 + cntAt c.thr .reader 5 + cntAt c.thr .reader 9 +
        cntAt c.thr .reader 10 + cntAt c.thr .reader 11 ≤ 1 ∧
      (1 ≤ cntAt c.thr .reader 3 + cntAt c.thr .reader 4 + cntAt c.thr .reader 5 + cntAt c.thr .reader 9 +
        cntAt c.thr .reader 10 + cntAt c.thr .reader 11 → c.sh.RM = 1)) ∧
    (cntAt c.thr .writer 1 + cntAt c.thr .writer 2 + cntAt c.thr .writer 3 + cntAt c.thr .writer 7 +
        cntAt c.thr .writer 8 + cntAt c.thr .writer 9 ≤ 1 ∧
      (1 ≤ cntAt c.thr .writer 1 + cntAt c.thr .writer 2 + cntAt c.thr .writer 3 + cntAt c.thr .writer 7 +
        cntAt c.thr .writer 8 + cntAt c.thr .writer 9 → c.sh.WM = 1)) := by
  have hRM := rinv_mtx (reach_rinv h) .RM
  have hWM := rinv_mtx (reach_rinv h) .WM
  simp only [MInv, abs, holders, group, pts, tot, Shared.mtx, Nat.reduceAdd, Nat.reduceSub, List.range', List.map,
    List.cons_append, List.nil_append, List.sum_cons, List.sum_nil, Nat.add_zero, Nat.min_zero] at hRM hWM
  omega

def ctrOf : Instr → Option Ctr
  | .inc c | .dec c | .ifeq c _ _ => some c
  | _ => none

/-- the points named in `counter_access_exclusive` cover every instruction of the generated rounds that touches a counter -/
theorem counter_points_are_all :
    (List.range (GP.round .reader).length).filter (fun k => ((GP.round .reader)[k]?.bind ctrOf).isSome) = [3, 4, 9, 10] ∧
    (List.range (GP.round .writer).length).filter (fun k => ((GP.round .writer)[k]?.bind ctrOf).isSome) = [1, 2, 7, 8] ∧
    (GP.round .reader).all (fun i => ctrOf i != some .wc) = true ∧
    (GP.round .writer).all (fun i => ctrOf i != some .rc) = true := by
  decide

/-- non-vacuity: a thread at the `inc rc` instruction (reader point 3), mutex held -/
example : ∃ c, Reach GP [[.reader], [.reader]] c ∧ cntAt c.thr .reader 3 = 1 ∧ c.sh.RM = 1 := by
  have hrun : runSched GP (Cfg.init GP [[.reader], [.reader]]) [0, 0, 0] =
      .ok ⟨⟨1, 1, 0, 1, 0, 0, 0⟩, [⟨[.reader], 3⟩, ⟨[.reader], 0⟩]⟩ := by decide +kernel
  exact ⟨_, runSched_reach _ _ _ Reach.init hrun, by decide +kernel, rfl⟩

end C20
