import Props.C19
import Proofs.GroupInterface
/-!
# C19 (group half) — `RepIndep` discharged for the actual point model

`Props/C19.lean` proves the refinement of the object heap to the heap of values under the hypothesis structure
`RepIndep` (representation-independence of the value-level functions).  Here it is **proved** for `Model/Curve.lean`
from the C06/C07 theorems (`Proofs/GroupObj.lean`, `MulTable.lean`, `GroupInterface.lean`):

* p an odd prime, `C : GroupInterface.Ctx p a b` a base point with n • G = 0, n odd (so ⟨G⟩ has no 2-torsion: N2T holds);
* values = elements of the subgroup ⟨G⟩ (as a type); `ax`/`ay` = their affine coordinates;
* `HS P t g` = "P is a stored `PointJacobi` of the curve denoting g (`Jac.PJRep`), its declared order is n or none, and
  its table is empty or — flag set, order n — the correct table of g"; `HA` = `Jac.AffRep` + declared order n or none.

Consequently `history_independent` etc. hold for every heap of such objects **without any hypothesis on the point
arithmetic** (p prime, n odd and n • G = 0 remain, as everywhere).

The statements name `Classical.decEq` as the `DecidableEq C.H` the abstract machine asks for; with any other instance
`decide (g = h)` is the same Boolean (`Decidable` is a subsingleton).
-/
namespace C19g
open PointObj Curve Jac GroupInterface WeierstrassCurve

variable {p : ℕ} [hp : Fact p.Prime] {a b : ℤ}

/-- y-coordinate of a group element (0 for the identity), companion of `GroupInterface.xOf` -/
noncomputable def yOf : Grp (a : ZMod p) (b : ZMod p) → ℤ
  | .zero => 0
  | .some _ y _ => (ZMod.val y : ℤ)

theorem xyOf_spec {H : AddSubgroup (Grp (a : ZMod p) (b : ZMod p))} {J : PJ} {g} (hJ : PJRep p a b H J g) :
    pjX J = .ok (GroupInterface.xOf g) ∧ pjY J = .ok (yOf g) := by
  obtain ⟨x, y, _, ey, _, ry, hn, hg⟩ := pjXY_correct hJ
  exact ⟨xOf_spec hJ, by rw [ey, hg, yOf, val_cast_of_inRange ry.1 ry.2]⟩

theorem affXY_spec {H : AddSubgroup (Grp (a : ZMod p) (b : ZMod p))} {A : AffPt} {g} (hA : AffRep p a b H A g) :
    A.x = GroupInterface.xOf g ∧ A.y = yOf g := by
  obtain ⟨_, rx, ry, _, hn, rfl⟩ := hA
  simp only [GroupInterface.xOf, yOf, val_cast_of_inRange rx.1 rx.2, val_cast_of_inRange ry.1 ry.2, and_self]

/-- the table of a generator-flagged object of declared order n is a correct table of `g`: entry j is 2^j • g, and its
length is what `_maybe_precompute` produces — it doubles `order` twice and appends while `i < order`, `i = 1, 2, 4, …`
(`precomputeTable_correct`) -/
def TableOK (C : Ctx p a b) (P : PJ) (t : List (ℤ × ℤ)) (g : Grp (a : ZMod p) (b : ZMod p)) : Prop :=
  t = [] ∨ (P.generator = true ∧ P.order = some C.n ∧
    (∀ j (hj : j < t.length), EntryRep p a b C.H t[j] ((2 : ℤ) ^ j • g)) ∧ ∃ m : ℕ, t.length = m + 1 ∧ 4 * C.n ≤ 2 ^ m)

/-- hidden states of the value `g ∈ ⟨G⟩` -/
def HS (C : Ctx p a b) (P : PJ) (t : List (ℤ × ℤ)) (g : C.H) : Prop :=
  PJRep p a b C.H P g.1 ∧ (P.order = some C.n ∨ P.order = none) ∧ TableOK C P t g.1

def HA (C : Ctx p a b) (A : AffPt) (g : C.H) : Prop :=
  AffRep p a b C.H A g.1 ∧ (A.order = some C.n ∨ A.order = none)

noncomputable def spec (C : Ctx p a b) (c : CurveFp) : ASpec C.H :=
  ⟨fun g => GroupInterface.xOf g.1, fun g => yOf g.1, c⟩

theorem truthy_n (C : Ctx p a b) : truthy (some C.n) = some C.n := by
  simp [truthy, ne_of_gt C.hpos]

theorem orderOK_of (C : Ctx p a b) {P : PJ} (ho : P.order = some C.n ∨ P.order = none) (hg : GenOK P) : OrderOK C P := by
  rcases ho with ho | ho
  · exact Or.inl ho
  · refine Or.inr ⟨ho, ?_⟩
    cases hgen : P.generator with
    | false => rfl
    | true =>
      obtain ⟨o, h⟩ := hg hgen
      rw [ho] at h; simp [truthy] at h

omit hp in
theorem coordsOut_attrs {c : CurveFp} {o : Option ℤ} {t : ℤ × ℤ × ℤ} {J : PJ} (h : coordsOut c o t = .jac J) :
    J.order = o ∧ J.generator = false := by
  unfold coordsOut at h
  split at h
  · cases h
  · cases h; exact ⟨rfl, rfl⟩

theorem rfresh_of_coordsOut (C : Ctx p a b) {c : CurveFp} {o : Option ℤ} {t : ℤ × ℤ × ℤ} {g : C.H}
    (ho : o = some C.n ∨ o = none) (hr : PtRep p a b C.H (coordsOut c o t) g.1) :
    RFresh (HS C) (coordsOut c o t) g o := by
  rcases result_cases hr with ⟨e, h0⟩ | ⟨J, e, hJ, hne⟩ | ⟨A, e, _, _⟩
  · exact Or.inl ⟨e, Subtype.ext h0⟩
  · obtain ⟨h1, h2⟩ := coordsOut_attrs e
    refine Or.inr ⟨J, e, fun h => hne (by rw [h]; rfl), ⟨hJ, by rw [h1]; exact ho, Or.inl rfl⟩, h1, h2⟩
  · exact absurd e (coordsOut_not_aff _ _ _ _)

omit hp in
theorem pjScale_order {P S : PJ} (h : pjScale P = .ok S) : S.order = P.order := by
  unfold pjScale at h
  split at h
  · cases h; rfl
  · cases hi : inverseMod P.z P.curve.p with
    | error e => simp [hi, bind, Except.bind] at h
    | ok zi => simp only [hi, bind, Except.bind, Except.ok.injEq] at h; subst h; rfl

omit hp in
/-- shape of what `__mul__` returns for k ∉ {0, 1}: INFINITY or a new `PointJacobi` carrying the order of `self`, flag off -/
theorem pjMulWith_shape {pre : List (ℤ × ℤ)} {P : PJ} {k : ℤ} {R : Pt} (h : pjMulWith pre P k = .ok R)
    (hy : (P.y == 0) = false) (hk0 : k ≠ 0) (hk1 : k ≠ 1) :
    ∃ c t, R = coordsOut c P.order t := by
  have h0 : (k == 0) = false := by simpa using hk0
  have h1 : (k == 1) = false := by simpa using hk1
  unfold pjMulWith at h
  simp only [hy, h0, h1, Bool.or_self, Bool.false_eq_true, if_false] at h
  cases hm : maybePrecompute P pre with
  | error e => simp [hm, bind, Except.bind] at h
  | ok table =>
    simp only [hm, bind, Except.bind] at h
    split at h
    · cases h; exact ⟨_, _, rfl⟩
    · cases hs : pjScale P with
      | error e => simp [hs] at h
      | ok S =>
        simp only [hs, Except.ok.injEq] at h
        subst h
        rw [pjScale_order hs]
        exact ⟨_, _, rfl⟩

omit hp in
theorem coordsOut_inf_iff (c : CurveFp) (o : Option ℤ) (t : ℤ × ℤ × ℤ) : coordsOut c o t = .infinity ↔ tripleInf t = true := by
  unfold coordsOut tripleInf
  cases t.2.1 == 0 || t.2.2 == 0 <;> simp

omit hp in
theorem pjAddCore_eqv {P Q : PJ} (h : P.curve.eqv Q.curve = true) :
    pjAddCore P Q = .ok (coordsOut P.curve P.order (Gen.k_add P.x P.y P.z Q.x Q.y Q.z P.curve.p P.curve.a)) := by
  rw [pjAddCore, h]
  rfl

theorem sumInf_iff (hp2 : p ≠ 2) (C : Ctx p a b) {SP SQ : PJ} {g h : Grp (a : ZMod p) (b : ZMod p)}
    (hP : PJRep p a b C.H SP g) (hQ : PJRep p a b C.H SQ h) :
    tripleInf (Gen.k_add SP.x SP.y SP.z SQ.x SQ.y SQ.z SP.curve.p SP.curve.a) = true ↔ g + h = 0 := by
  obtain ⟨R, e, hR⟩ := pjAddCore_correct hp2 C.n2t hP hQ
  cases (pjAddCore_eqv (hP.1.eqv hQ.1)).symm.trans e
  rw [← coordsOut_inf_iff SP.curve SP.order]
  rcases result_cases hR with ⟨e, h0⟩ | ⟨J, e, _, hne⟩ | ⟨A, e, _, _⟩
  · exact ⟨fun _ => h0, fun _ => e⟩
  · exact ⟨(fun h' => by rw [e] at h'; cases h'), (fun h' => absurd h' hne)⟩
  · exact absurd e (coordsOut_not_aff _ _ _ _)

theorem ptRep_coordsOut_order {H : AddSubgroup (Grp (a : ZMod p) (b : ZMod p))} (c : CurveFp) (o o' : Option ℤ)
    (t : ℤ × ℤ × ℤ) (g : Grp (a : ZMod p) (b : ZMod p)) :
    PtRep p a b H (coordsOut c o t) g → PtRep p a b H (coordsOut c o' t) g := by
  unfold coordsOut
  split
  · exact id
  · exact id

/-- the main loop of `mul_add` on scaled operands whose sum is not the identity (from `Jac.mulAdd_main`, applied to
copies of the operands without order and flag: the loop does not look at either) -/
theorem mulAddLoop_rep (hp2 : p ≠ 2) (C : Ctx p a b) {SP SQ : PJ} {g h : Grp (a : ZMod p) (b : ZMod p)}
    (hP : PJRep p a b C.H SP g) (hQ : PJRep p a b C.H SQ h) (hzP : SP.z = 1) (hzQ : SQ.z = 1) (hne : g + h ≠ 0)
    (sm om : ℤ) : PtRep p a b C.H (mulAddLoop SP SQ sm om) (sm • g + om • h) := by
  have hH := C.n2t
  let P' : PJ := ⟨SP.curve, SP.x, SP.y, SP.z, none, false⟩
  let Q' : PJ := ⟨SQ.curve, SQ.x, SQ.y, SQ.z, none, false⟩
  have hP' : PJRep p a b C.H P' g := ⟨hP.1, hP.2.1, hP.2.2⟩
  have hQ' : PJRep p a b C.H Q' h := ⟨hQ.1, hQ.2.1, hQ.2.2⟩
  have mspec : ∀ {x : Grp (a : ZMod p) (b : ZMod p)} (S : PJ), PJRep p a b C.H S x → S.order = none →
      S.generator = false → MulSpec p a b C.H [] S x := by
    intro x S rS oS gS k
    exact pjMul_correct hp2 hH ⟨rS, by intro n hn; rw [oS] at hn; simp [truthy] at hn, by intro hg; rw [gS] at hg; cases hg⟩ k
  obtain ⟨R, e, hR⟩ := mulAdd_main hp2 hH hP' hQ' (by intro n hn; simp [P', truthy] at hn) (tP := []) (tQ := [])
    mspec mspec sm om
  have hsum : tripleInf (Gen.k_add SP.x SP.y SP.z SQ.x SQ.y SQ.z SP.curve.p SP.curve.a) = false :=
    Bool.eq_false_iff.2 (mt (sumInf_iff hp2 C hP hQ).1 hne)
  unfold tripleInf at hsum
  rw [hzP, hzQ] at hsum
  simp only [List.isEmpty_nil, Bool.not_true, Bool.false_and, Bool.false_eq_true, if_false, P', Q', truthy, pjScale, hzP, hzQ,
    if_true, ok_bind, hsum] at e
  have e' := Except.ok.inj e
  simp only [mulAddLoop, hzP, hzQ]
  exact ptRep_coordsOut_order _ none SP.order _ _ (e' ▸ hR)

theorem eq_decide_of_val {H : AddSubgroup (Grp (a : ZMod p) (b : ZMod p))} [DecidableEq H] {t : Bool} {g h : H}
    (ht : t = true ↔ g.1 = h.1) : t = decide (g = h) := by
  rw [Bool.eq_iff_iff, decide_eq_true_iff]
  exact ht.trans Subtype.ext_iff.symm

/-- **RepIndep holds for `Model/Curve.lean`** on the objects of ⟨G⟩ -/
theorem rep_indep (hp2 : p ≠ 2) (C : Ctx p a b) (c : CurveFp) (hc : OnCurve p a b c) :
    @RepIndep C.H _ (Classical.decEq _) (spec C c) (HS C) (HA C) := by
  let _ : DecidableEq C.H := Classical.decEq _
  have hH := C.n2t
  exact {
    hs_curve := by
      intro P t g h
      rw [h.1.1.1]; exact hc.1.symm
    hs_ne := fun h h0 => good_ne_zero h.1.2.2 (by rw [h0]; rfl)
    ha_ne := fun h h0 => AffRep.ne_zero h.1 (by rw [h0]; rfl)
    hs_nz := fun h => ⟨by simpa using h.1.y_ne, by simpa using h.1.z_ne⟩
    hs_table := by
      intro P t g h hne
      rcases h.2.2 with h0 | ⟨hg, ho, _, _⟩
      · exact absurd h0 hne
      · exact ⟨hg, fun _ => ⟨C.n, by rw [ho]; exact truthy_n C⟩⟩
    hs_forget := fun h => ⟨h.1, h.2.1, Or.inl rfl⟩
    hs_xy := fun h => xyOf_spec h.1
    ha_xy := fun h => affXY_spec h.1
    hs_scale := by
      intro P t g h
      obtain ⟨S, e, hS, hz, _, ho, hg⟩ := pjScale_correct h.1
      refine ⟨S, e, ⟨hS, by rw [ho]; exact h.2.1, ?_⟩, hz, ho, hg⟩
      rcases h.2.2 with h0 | ⟨hgen, hord, hT, hlen⟩
      · exact Or.inl h0
      · exact Or.inr ⟨by rw [hg]; exact hgen, by rw [ho]; exact hord, hT, hlen⟩
    hs_mkPoint := by
      intro S t g h hz
      obtain ⟨A, e, hA, ho⟩ := pjToAffine_correct h.1
      have hy : S.y ≠ 0 := h.1.y_ne
      -- for Z = 1 `to_affine()` is the `Point` constructor on the same coordinates
      cases hm : mkPoint S.curve S.x S.y S.order with
      | error err => simp [pjToAffine, pjScale, hz, hy, hm] at e
      | ok A' =>
        simp [pjToAffine, pjScale, hz, hy, hm] at e
        subst e
        exact ⟨A', rfl, ⟨hA, by rw [ho]; exact h.2.1⟩, ho⟩
    hs_fromXY := by
      intro P t g gen h
      obtain ⟨x, y, ex, ey, rx, ry, hn, hg⟩ := pjXY_correct h.1
      obtain ⟨e1, e2⟩ := xyOf_spec h.1
      have hx : GroupInterface.xOf g.1 = x := by rw [ex] at e1; exact (Except.ok.inj e1).symm
      have hy : yOf g.1 = y := by rw [ey] at e2; exact (Except.ok.inj e2).symm
      refine ⟨?_, h.2.1, Or.inl rfl⟩
      show PJRep p a b C.H ⟨P.curve, GroupInterface.xOf g.1, yOf g.1, 1, P.order, gen⟩ g.1
      rw [hx, hy, hg]
      exact pjRep_of_coords hH P.curve h.1.1 x y rx ry hn (by rw [← hg]; exact g.2) P.order gen
    ha_fromAffine := fun gen h => ⟨AffRep.pj hH h.1 gen, h.2, Or.inl rfl⟩
    hs_neg := fun h => ⟨pjNeg_correct h.1, h.2.1, Or.inl rfl⟩
    hs_double := by
      intro P t g h
      have := pjDouble_correct hH h.1
      have hy : (P.y == 0) = false := by simpa using h.1.y_ne
      unfold pjDouble at this ⊢
      simp only [hy, Bool.false_eq_true, if_false] at this ⊢
      exact rfresh_of_coordsOut C (g := g + g) h.2.1 this
    hs_add := by
      intro P t g Q t' h' h k
      obtain ⟨R, e, hR⟩ := pjAddCore_correct hp2 hH h.1 k.1
      refine ⟨R, e, ?_⟩
      cases (pjAddCore_eqv (h.1.1.eqv k.1.1)).symm.trans e
      exact rfresh_of_coordsOut C (g := g + h') h.2.1 hR
    hs_precompute := by
      intro P t g h hgo
      have nonempty : ∀ {l : List (ℤ × ℤ)} {m : ℕ}, l.length = m + 1 → l.isEmpty = false := by
        intro l m hl; cases l with
        | nil => cases hl
        | cons _ _ => rfl
      rcases h.2.2 with h0 | ⟨hgen, hord, hT, hlen⟩
      · subst h0
        cases hgen : P.generator with
        | false => exact ⟨[], by simp [maybePrecompute, hgen], ⟨h.1, h.2.1, Or.inl rfl⟩, by simp⟩
        | true =>
          obtain ⟨o, ho⟩ := hgo hgen
          have hord : P.order = some C.n := by
            rcases h.2.1 with h1 | h1
            · exact h1
            · rw [h1] at ho; simp [truthy] at ho
          have ho' : truthy P.order = some C.n := by rw [hord]; exact truthy_n C
          obtain ⟨table, et, hT, m, hm, hb⟩ := precomputeTable_correct hH h.1 ho' C.hpos
          exact ⟨table, by simp [maybePrecompute, hgen, et], ⟨h.1, h.2.1, Or.inr ⟨hgen, hord, hT, m, hm, hb⟩⟩, nonempty hm⟩
      · obtain ⟨m, hm, hb⟩ := hlen
        have he := nonempty hm
        exact ⟨t, by rw [maybePrecompute, he, Bool.not_false, Bool.or_true, if_pos rfl], h, by rw [he, hgen]; rfl⟩
    hs_mul := by
      intro P t g k h hgo hk0 hk1
      have hy : (P.y == 0) = false := by simpa using h.1.y_ne
      have key : ∃ R, pjMulWith t P k = .ok R ∧ PtRep p a b C.H R (k • g.1) := by
        rcases h.2.2 with h0 | ⟨hgen, hord, hT, hlen⟩
        · subst h0
          exact GroupInterface.mul hp2 C h.1 (orderOK_of C h.2.1 hgo) k
        · exact pjMulWith_table_correct hp2 hH h.1 (by rw [hord]; exact truthy_n C) C.hpos
            (C.order_annihilates g.2) hT hlen k hk0 hk1
      obtain ⟨R, e, hR⟩ := key
      obtain ⟨c', t', rfl⟩ := pjMulWith_shape e hy hk0 hk1
      exact ⟨_, e, rfresh_of_coordsOut C (g := k • g) h.2.1 hR⟩
    hs_sumInf := by
      intro SP t g SQ t' h' h k _ _
      rw [Bool.eq_iff_iff, decide_eq_true_iff]
      exact (sumInf_iff hp2 C h.1 k.1).trans (by rw [Subtype.ext_iff]; rfl)
    hs_mulAddLoop := by
      intro SP t g SQ t' h' sm om h k hzP hzQ hne
      have hr := mulAddLoop_rep hp2 C h.1 k.1 hzP hzQ (fun e => hne (Subtype.ext e)) sm om
      unfold mulAddLoop at hr ⊢
      exact rfresh_of_coordsOut C (g := sm • g + om • h') h.2.1 hr
    eq_jj := fun h k => eq_decide_of_val (pjEq_iff hH h.1 (other := .jac _) k.1)
    eq_ja := by
      intro P t g A h' h k
      have := pjEq_iff hH h.1 (other := .aff A) k.1
      exact ⟨eq_decide_of_val this, eq_decide_of_val (this.trans eq_comm)⟩
    eq_aa := fun h k => eq_decide_of_val (ptEq_iff hH (A := .aff _) (B := .aff _) h.1 k.1)
  }

/-- **history_independent on the actual point model** — for objects of ⟨G⟩ (any representation, any table state, any
aliasing), every covered history answers as the abstract machine on their values; no hypothesis on the arithmetic is
left (p odd prime, n odd, n • G = 0). -/
theorem history_independent_curve (hp2 : p ≠ 2) (C : Ctx p a b) (c : CurveFp) (hc : OnCurve p a b c) (ops : List Op)
    {h : Heap} {ah : AHeap C.H} (hi : Inv (HS C) (HA C) h ah)
    (hcov : @C19.CoveredAll C.H _ (Classical.decEq _) (spec C c) ah ops) :
    outputs h ops = @aoutputs C.H _ (Classical.decEq _) (spec C c) ah ops :=
  letI : DecidableEq C.H := Classical.decEq _
  (C19.history_independent (rep_indep hp2 C c hc) ops hi hcov).1

/-- two object heaps denoting the same values of ⟨G⟩ — one with an arbitrary past, one freshly built — answer every
covered history identically -/
theorem history_independent_fresh_curve (hp2 : p ≠ 2) (C : Ctx p a b) (c : CurveFp) (hc : OnCurve p a b c)
    (ops : List Op) {h₁ h₂ : Heap} {ah : AHeap C.H} (hi₁ : Inv (HS C) (HA C) h₁ ah) (hi₂ : Inv (HS C) (HA C) h₂ ah)
    (hcov : @C19.CoveredAll C.H _ (Classical.decEq _) (spec C c) ah ops) :
    outputs h₁ ops = outputs h₂ ops :=
  letI : DecidableEq C.H := Classical.decEq _
  C19.history_independent_fresh (rep_indep hp2 C c hc) ops hi₁ hi₂ hcov

theorem eq_equivalence_curve (hp2 : p ≠ 2) (C : Ctx p a b) (c : CurveFp) (hc : OnCurve p a b c)
    {h : Heap} {ah : AHeap C.H} (hi : Inv (HS C) (HA C) h ah) (r s : Ref) {g g' : C.H}
    (hr : C19.aden ah r = some g) (hs : C19.aden ah s = some g') :
    (step h (.eq r s)).2 = .bool true ↔ g = g' :=
  letI : DecidableEq C.H := Classical.decEq _
  by rw [C19.eq_value (rep_indep hp2 C c hc) hi r s hr hs, Out.bool.injEq]; exact decide_eq_true_iff

theorem eq_zero_of_zsmul_coprime {A : Type} [AddCommGroup A] {x : A} {m n : ℤ} (u v : ℤ) (huv : u * m + v * n = 1)
    (hm : m • x = 0) (hn : n • x = 0) : x = 0 := by
  rw [← one_zsmul x, ← huv, add_zsmul, mul_zsmul, mul_zsmul, hm, hn, zsmul_zero, zsmul_zero, add_zero]

theorem succ_zsmul_of_zsmul_eq_zero {A : Type} [AddCommGroup A] {x : A} {n : ℤ} (hn : n • x = 0) : (n + 1) • x = x := by
  rw [add_zsmul, hn, one_zsmul, zero_add]

/-- the toy context: y² = x³ + x + 6 over F₁₁, ⟨G⟩ for G = (2, 7) of order 13, with the stored form `toyG` of G -/
theorem toy_ctx : ∃ (C : Ctx 11 1 6) (g : C.H), C.n = 13 ∧ PJRep 11 1 6 C.H toyG g.1 := by
  obtain ⟨C, hn, hG⟩ := GroupInterface.toy_ctx
  exact ⟨C, ⟨C.G, C.G_mem⟩, hn, hG⟩

/-- non-vacuity: on y² = x³ + x + 6 over F₁₁ (n = 13) there is a context, and the one-object heap holding the stored point
`toyG` (any table-less state) is related to the abstract heap holding its value -/
example : ∃ (C : Ctx 11 1 6) (g : C.H), C.n = 13 ∧
    Inv (HS C) (HA C) [.pj ⟨toyG, []⟩] [.pj g toyG.order toyG.generator] := by
  obtain ⟨C, g, hn, hg⟩ := toy_ctx
  exact ⟨C, g, hn, List.Forall₂.cons (Rel.pj (o := ⟨toyG, []⟩) ⟨hg, Or.inr rfl, Or.inl rfl⟩) List.Forall₂.nil⟩

/-! ### non-vacuity that exercises the property: two DIFFERENT hidden states of the same values

On y² = x³ + x + 6 over F₁₁ (n = 13): object 0 is the generator-flagged point (2, 7) with declared order 13 — in `toyH₁` its
table is completely built, in `toyH₂` (the freshly constructed twin) it is empty; object 1 denotes the same point, in
`toyH₁` as the Jacobian triple (10, 8, 4) (what `14 * G` returns: Z ≠ 1), in `toyH₂` as (2, 7, 1).  Both heaps are related
to the same abstract heap `[g, g]`, the history below is covered, and `history_independent_fresh_curve` applies; the last
conjunct is the same fact by kernel evaluation of the two runs. -/

def toyGen : PJ := ⟨toyC, 2, 7, 1, some 13, true⟩
def toyP14 : PJ := ⟨toyC, 10, 8, 4, none, false⟩
def toyTable : List (ℤ × ℤ) := [(2, 7), (5, 2), (10, 2), (3, 5), (8, 3), (7, 9), (2, 4)]
def toyH₁ : Heap := [.pj ⟨toyGen, toyTable⟩, .pj ⟨toyP14, []⟩]
def toyH₂ : Heap := [.pj ⟨toyGen, []⟩, .pj ⟨toyG, []⟩]
def toyOps : List Op :=
  [.mul (.obj 0) 5, .x (.obj 2), .scale (.obj 1), .x (.obj 1), .y (.obj 1), .eq (.obj 1) (.obj 0), .pickle (.obj 1),
   .mul (.obj 1) 1, .toAffine (.obj 1), .mkKey (.obj 0) (.obj 1), .keySer 5 1]

theorem toy_two_hidden_states :
    ∃ (C : Ctx 11 1 6) (g : C.H),
      Inv (HS C) (HA C) toyH₁ [.pj g (some 13) true, .pj g none false] ∧
      Inv (HS C) (HA C) toyH₂ [.pj g (some 13) true, .pj g none false] ∧
      @C19.CoveredAll C.H _ (Classical.decEq _) (spec C toyC) [.pj g (some 13) true, .pj g none false] toyOps ∧
      outputs toyH₁ toyOps = outputs toyH₂ toyOps := by
  obtain ⟨C, g, hn, hg⟩ := toy_ctx
  have hg13 : (13 : ℤ) • g = 0 := by
    have := C.order_annihilates g.2
    rw [hn] at this
    exact Subtype.ext this
  have hp2 : (11 : ℕ) ≠ 2 := by decide
  let _ : DecidableEq C.H := Classical.decEq _
  have RI := rep_indep hp2 C toyC toyC_on
  have hsG : HS C toyG [] g := ⟨hg, Or.inr rfl, Or.inl rfl⟩
  have hsGen : HS C toyGen [] g := ⟨hg, Or.inl (congrArg some hn.symm), Or.inl rfl⟩
  have hsGenT : HS C toyGen toyTable g := by
    obtain ⟨t', et, hst, _⟩ := RI.hs_precompute hsGen (fun _ => ⟨13, by decide⟩)
    have : maybePrecompute toyGen [] = .ok toyTable := by decide +kernel
    rw [this] at et; cases et; exact hst
  have hsP : HS C toyP14 [] g := by
    obtain ⟨R', e', hR'⟩ := GroupInterface.mul hp2 C hg (Or.inr ⟨rfl, rfl⟩) 14
    have : pjMul toyG 14 = .ok (.jac toyP14) := by decide +kernel
    rw [this] at e'; cases e'
    rw [← AddSubgroup.coe_zsmul, show (14 : ℤ) • g = g from succ_zsmul_of_zsmul_eq_zero hg13] at hR'
    exact ⟨hR', Or.inr rfl, Or.inl rfl⟩
  have inv1 : Inv (HS C) (HA C) toyH₁ [.pj g (some 13) true, .pj g none false] :=
    List.Forall₂.cons (Rel.pj (o := ⟨toyGen, toyTable⟩) hsGenT)
      (List.Forall₂.cons (Rel.pj (o := ⟨toyP14, []⟩) hsP) List.Forall₂.nil)
  have inv2 : Inv (HS C) (HA C) toyH₂ [.pj g (some 13) true, .pj g none false] :=
    List.Forall₂.cons (Rel.pj (o := ⟨toyGen, []⟩) hsGen)
      (List.Forall₂.cons (Rel.pj (o := ⟨toyG, []⟩) hsG) List.Forall₂.nil)
  refine ⟨C, g, inv1, inv2, ?_, by decide +kernel⟩
  -- coverage: follow the abstract run `a₀ … a₄`.  Values are looked at twice: `5 * P` allocates since 5 • g ≠ 0 (g has prime
  -- order 13), and `mkKey` checks the coordinates (2, 7) of g against p = 11
  have h5 : (5 : ℤ) • g ≠ 0 := fun h0 => RI.hs_ne hsG (eq_zero_of_zsmul_coprime 8 (-3) rfl h0 hg13)
  have hxy := xyOf_spec hg
  have hc : (Gen.Ecdsa.pubkey_x_out ((spec C toyC).ax g) (spec C toyC).c.p ||
      Gen.Ecdsa.pubkey_y_out ((spec C toyC).ay g) (spec C toyC).c.p) = false := by
    have ex : pjX toyG = .ok 2 := by decide +kernel
    have ey : pjY toyG = .ok 7 := by decide +kernel
    show (Gen.Ecdsa.pubkey_x_out (GroupInterface.xOf g.1) 11 || Gen.Ecdsa.pubkey_y_out (yOf g.1) 11) = false
    rw [← Except.ok.inj (ex.symm.trans hxy.1), ← Except.ok.inj (ey.symm.trans hxy.2)]
    rfl
  let a₀ : AHeap C.H := [.pj g (some 13) true, .pj g none false]
  let a₁ : AHeap C.H := a₀ ++ [.pj ((5 : ℤ) • g) (some 13) false]
  let a₂ : AHeap C.H := a₁ ++ [.pj g none false]
  let a₃ : AHeap C.H := a₂ ++ [.aff g none]
  let a₄ : AHeap C.H := a₃ ++ [.key (.obj 0) (.obj 1)]
  have e1 : (astep (spec C toyC) a₀ (.mul (.obj 0) 5)).1 = a₁ := by
    have hs : amulState 5 g (some 13) true = .ok (.fresh ((5 : ℤ) • g) (some 13)) := rfl
    unfold astep arun amulObj
    simp only [a₀, AM.bind_eq, AM.bind, agetPt, aptOf, List.getElem?_cons_zero, aupdPJ, hs, aallocPJ, if_neg h5]
    rfl
  have e10 : (astep (spec C toyC) a₃ (.mkKey (.obj 0) (.obj 1))).1 = a₄ := by
    unfold astep arun amkKeyObj
    simp only [a₃, a₂, a₁, a₀, List.cons_append, List.nil_append, AM.bind_eq, AM.bind, agetPt, aptOf, List.getElem?_cons_succ,
      List.getElem?_cons_zero, AM.pure, areadX, areadY, hc]
    rfl
  exact .cons rfl e1 <|                  -- 5 * P: new object 2
    .cons rfl (ah' := a₁) rfl <|         -- x
    .cons rfl (ah' := a₁) rfl <|         -- scale
    .cons rfl (ah' := a₁) rfl <|         -- x
    .cons rfl (ah' := a₁) rfl <|         -- y
    .cons rfl (ah' := a₁) rfl <|         -- ==
    .cons rfl (ah' := a₂) rfl <|         -- pickle: new object 3
    .cons rfl (ah' := a₂) rfl <|         -- P * 1: the same object
    .cons rfl (ah' := a₃) rfl <|         -- to_affine: new object 4
    .cons rfl e10 ⟨C19.coveredB_sound rfl, trivial⟩   -- mkKey: new object 5; keySer

/-! ### instance: pickling keys

`toyH₃`: the heap `toyH₁` (generator with its table built; the point (2, 7) held as the triple (10, 8, 4)) plus a
`VerifyingKey` on these two objects and the `SigningKey` d = 1 of it. -/

def toyH₃ : Heap := toyH₁ ++ [.key (.obj 0) (.obj 1), .skey 1 2]

/-- non-vacuity of `C19.pickle_roundtrip_key` and `C19.pickle_roundtrip_skey`: their hypotheses hold on `toyH₃`, so the
restored keys are new objects (6 resp. 7) whose generator / point cells denote the same values; and, by kernel evaluation
of the concrete model, the restored keys serialise, compare, sign and verify as the originals (signature (3, 2) on hash 7
with nonce 5 is made by both signing keys and accepted by all three verifying keys; (3, 3) is rejected). -/
theorem toy_key_pickle :
    ∃ (C : Ctx 11 1 6) (g : C.H),
      Inv (HS C) (HA C) toyH₃ [.pj g (some 13) true, .pj g none false, .key (.obj 0) (.obj 1), .skey 1 2] ∧
      ((step toyH₃ (.pickle (.obj 2))).2 = .ref (.obj 6) ∧
        Inv (HS C) (HA C) (step toyH₃ (.pickle (.obj 2))).1
          ([.pj g (some 13) true, .pj g none false, .key (.obj 0) (.obj 1), .skey 1 2] ++
            [.pj g (some 13) true, .pj g none false, .key (.obj 4) (.obj 5)])) ∧
      ((step toyH₃ (.pickle (.obj 3))).2 = .ref (.obj 7) ∧
        Inv (HS C) (HA C) (step toyH₃ (.pickle (.obj 3))).1
          ([.pj g (some 13) true, .pj g none false, .key (.obj 0) (.obj 1), .skey 1 2] ++
            [.pj g (some 13) true, .pj g none false, .key (.obj 4) (.obj 5), .skey 1 6])) ∧
      outputs toyH₃ [.pickle (.obj 2), .pickle (.obj 3), .keySer 2 1, .keySer 6 1, .keySer 9 2, .keyEq 2 6, .keyEq 9 2,
          .skSign 3 7 5, .skSign 10 7 5, .keyVerify 2 7 3 2, .keyVerify 6 7 3 2, .keyVerify 9 7 3 2, .keyVerify 6 7 3 3] =
        [.ref (.obj 6), .ref (.obj 10), .bytes [4, 2, 7], .bytes [4, 2, 7], .bytes [3, 2], .bool true, .bool true,
          .pair 3 2, .pair 3 2, .bool true, .bool true, .bool true, .bool false] := by
  obtain ⟨C, g, inv1, _, _, _⟩ := toy_two_hidden_states
  let _ : DecidableEq C.H := Classical.decEq _
  have inv3 : Inv (HS C) (HA C) toyH₃ [.pj g (some 13) true, .pj g none false, .key (.obj 0) (.obj 1), .skey 1 2] :=
    (inv1.append (Rel.key _ _)).append (Rel.skey _ _)
  have RI := rep_indep (by decide) C toyC toyC_on
  refine ⟨C, g, inv3, ?_, ?_, by decide +kernel⟩
  · exact C19.pickle_roundtrip_key RI inv3 2 0 1 g g (some 13) none true false (by decide) rfl rfl rfl
  · exact C19.pickle_roundtrip_skey RI inv3 3 1 2 0 1 g g (some 13) none true false (by decide) rfl rfl rfl rfl
