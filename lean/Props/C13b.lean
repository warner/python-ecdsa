import Proofs.EcdsaEntry
import Proofs.EcdsaCodec
import Proofs.EcdsaInstToy
import Proofs.EcdsaInstCurve
import Proofs.EcdsaRoundTrip
import Proofs.EcdsaToy
import Model.Util
/-!
# C13 (group-level half) — the reflected signature (r, n − s) verifies exactly when (r, s) does

`R ↦ −R` under `s ↦ n − s` (`(n−s)⁻¹ = −s⁻¹`), `x(−R) = x(R)`, `−R = 0 ↔ R = 0`.  The public key must lie in the
group generated by `G` (`n • Q = 0`): that is what key loading guarantees (C08).
-/
namespace C13b
open Ecdsa

variable {P : Type} {𝔾 : Type} [AddCommGroup 𝔾]
variable {ops : PointOps P} {G : 𝔾} {den : P → 𝔾} {xc : 𝔾 → Option ℤ} {valid : P → Prop}

theorem fips_neg_s (C : PointOpsCorrect ops G den xc valid) (Q : 𝔾) (hQn : ops.order • Q = 0) (e r s : ℤ) :
    Fips ops.order G Q xc e r (ops.order - s) ↔ Fips ops.order G Q xc e r s :=
  Ecdsa.fips_neg_s C Q hQn e r s

/-- `Public_key.verifies(e, (r, n − s)) = Public_key.verifies(e, (r, s))` for every `e, r, s` -/
theorem verifies_neg_s (C : PointOpsCorrect ops G den xc valid) (Q : P) (hQ : valid Q)
    (hQn : ops.order • den Q = 0) (e r s : ℤ) :
    verifies ops Q e r (ops.order - s) = verifies ops Q e r s :=
  verifies_neg_s_core C Q hQ hQn e r s

/-- hence the `s'` the canonical encoders emit (`Util.canonS`, `C13.model_canonS`) verifies iff `s` does -/
theorem verifies_canonS (C : PointOpsCorrect ops G den xc valid) (Q : P) (hQ : valid Q)
    (hQn : ops.order • den Q = 0) (e r s : ℤ) :
    verifies ops Q e r (Util.canonS s ops.order) = verifies ops Q e r s := by
  unfold Util.canonS
  split
  · exact verifies_neg_s C Q hQ hQn e r s
  · rfl

/-- **through the bytes**: two codec pairs applied to the same `(r, s)` (e.g. a canonical encoder and the plain one)
give byte strings on which `verify_digest` — same key, digest, decoder family and truncation flag — returns the same
outcome (`True` / `BadSignatureError` / `BadDigestError`) -/
theorem verify_digest_same_outcome {β₁ σ₁ β₂ σ₂ : Type} (C : PointOpsCorrect ops G den xc valid) (Q : P) (hQ : valid Q)
    (hQn : ops.order • den Q = 0)
    (enc₁ : ℤ → ℤ → ℤ → Res β₁) (wrap₁ : β₁ → σ₁) (dec₁ : σ₁ → ℕ → Res (ℕ × ℕ)) (h₁ : Codec enc₁ wrap₁ dec₁ ops.order)
    (enc₂ : ℤ → ℤ → ℤ → Res β₂) (wrap₂ : β₂ → σ₂) (dec₂ : σ₂ → ℕ → Res (ℕ × ℕ)) (h₂ : Codec enc₂ wrap₂ dec₂ ops.order)
    (r s : ℤ) (hr : 0 ≤ r ∧ r < ops.order) (hs : 1 ≤ s ∧ s < ops.order) (sig₁ : β₁) (sig₂ : β₂)
    (e₁ : enc₁ r s ops.order = .ok sig₁) (e₂ : enc₂ r s ops.order = .ok sig₂) (dg : Bytes) (allow : Bool) :
    verifyDigest ops Q dec₁ (wrap₁ sig₁) dg allow = verifyDigest ops Q dec₂ (wrap₂ sig₂) dg allow := by
  obtain ⟨s1, d1, c1⟩ := h₁ r s sig₁ hr.1 hr.2 hs.1 hs.2 e₁
  obtain ⟨s2, d2, c2⟩ := h₂ r s sig₂ hr.1 hr.2 hs.1 hs.2 e₂
  -- each decoded `s` is `s` or `n − s`, and both verify as `s` does
  have same : ∀ (e : ℤ) (s' : ℕ), ((s' : ℤ) = s ∨ (s' : ℤ) = ops.order - s) →
      verifies ops Q e (r.toNat : ℤ) (s' : ℤ) = verifies ops Q e (r.toNat : ℤ) s := by
    intro e s' h
    rcases h with h | h <;> rw [h]
    exact verifies_neg_s C Q hQ hQn e _ s
  unfold verifyDigest
  cases ht : truncateAndConvertDigest dg (baselen ops) ops.order allow with
  | error err => rfl
  | ok e => simp only [d1, d2, mapDecodeError, bind, Except.bind, same e s1 c1, same e s2 c2]

/-- **C13, verification half, on the emitted bytes** — for each of the three encoders of `util.py`: the signature
`sigencode_X_canonize(r, s, n)` verifies (through `sigdecode_X` and `verify_digest`) exactly when `sigencode_X(r, s, n)`
does.  `2 ≤ n ≤ 256^126`; key in ⟨G⟩. -/
theorem canonical_bytes_verify_iff_plain (C : PointOpsCorrect ops G den xc valid) (hbig : ops.order ≤ 256 ^ 126)
    (Q : P) (hQ : valid Q) (hQn : ops.order • den Q = 0)
    (r s : ℤ) (hr : 0 ≤ r ∧ r < ops.order) (hs : 1 ≤ s ∧ s < ops.order) (dg : Bytes) (allow : Bool) :
    (∀ c p, encStringCanonize r s ops.order = .ok c → encString r s ops.order = .ok p →
        verifyDigest ops Q Util.sigdecodeString c dg allow = verifyDigest ops Q Util.sigdecodeString p dg allow)
    ∧ (∀ c p, encStringsCanonize r s ops.order = .ok c → encStrings r s ops.order = .ok p →
        verifyDigest ops Q Util.sigdecodeStrings [c.1, c.2] dg allow = verifyDigest ops Q Util.sigdecodeStrings [p.1, p.2] dg allow)
    ∧ (∀ c p, encDerCanonize r s ops.order = .ok c → encDer r s ops.order = .ok p →
        verifyDigest ops Q Util.sigdecodeDer c dg allow = verifyDigest ops Q Util.sigdecodeDer p dg allow) := by
  have hn := C.two_le
  exact ⟨fun c p hc hp => verify_digest_same_outcome C Q hQ hQn _ id _ (codec_string_canonize _ hn) _ id _ (codec_string _ hn)
      r s hr hs c p hc hp dg allow,
    fun c p hc hp => verify_digest_same_outcome C Q hQ hQn _ _ _ (codec_strings_canonize _ hn) _ _ _ (codec_strings _ hn)
      r s hr hs c p hc hp dg allow,
    fun c p hc hp => verify_digest_same_outcome C Q hQ hQn _ id _ (codec_der_canonize _ hn hbig) _ id _ (codec_der _ hn hbig)
      r s hr hs c p hc hp dg allow⟩

/-- non-vacuity (toy group of order 7, Q = 3•G, e = 5): (2, 2) and (2, 7 − 2) both verify, (2, 3) and (2, 4) both fail -/
example : verifies Toy.ops (3 : ZMod 7) 5 2 2 = .ok true ∧ verifies Toy.ops (3 : ZMod 7) 5 2 5 = .ok true
    ∧ verifies Toy.ops (3 : ZMod 7) 5 2 3 = .ok false ∧ verifies Toy.ops (3 : ZMod 7) 5 2 4 = .ok false
    ∧ Toy.ops.order • (id (3 : ZMod 7)) = 0 := by decide +kernel

/-! ### the same, for the model of the real point classes
`Ecdsa.OnCurve.ops c` is what the model driver executes (`Model/EcdsaCurve.lean` over `Model/Curve.lean`: the
`PointJacobi` code as written).  `OnCurve.Matches c C`: odd prime field `p`, the curve parameters of `c`, a group
context `C` (Mathlib's curve group, base point `C.G` with `n • G = 0`, `n` an odd prime) and the generator object
denotes `C.G`; point objects are `OnCurve.Valid` (INFINITY or a `PointJacobi` denoting an element of ⟨G⟩, declared
order `n` or none).  The interface `PointOpsCorrect` is *proved* for it (Proofs/EcdsaInstCurve.lean, from C06/C07). -/
section OnCurve
open GroupInterface
variable {p : ℕ} [Fact p.Prime] {a b : ℤ}

theorem order_smul_den_on_curve {c : Affine.Crv} {C : Ctx p a b} (M : OnCurve.Matches c C) {Q : Curve.Pt}
    (hQ : OnCurve.Valid C Q) : (OnCurve.ops c).order • OnCurve.den C Q = 0 := by
  show c.n • OnCurve.den C Q = 0
  rw [M.cn]
  exact C.order_annihilates (Jac.PtRep.mem (OnCurve.valid_rep hQ))

theorem verifies_neg_s_on_curve (c : Affine.Crv) (C : Ctx p a b) (M : OnCurve.Matches c C) (Q : Curve.Pt)
    (hQ : OnCurve.Valid C Q) (e r s : ℤ) :
    verifies (OnCurve.ops c) Q e r (c.n - s) = verifies (OnCurve.ops c) Q e r s :=
  verifies_neg_s (OnCurve.pointOpsCorrect c C M) Q hQ (order_smul_den_on_curve M hQ) e r s

theorem canonical_bytes_verify_iff_plain_on_curve (c : Affine.Crv) (C : Ctx p a b) (M : OnCurve.Matches c C)
    (hbig : c.n ≤ 256 ^ 126) (Q : Curve.Pt) (hQ : OnCurve.Valid C Q)
    (r s : ℤ) (hr : 0 ≤ r ∧ r < c.n) (hs : 1 ≤ s ∧ s < c.n) (dg : Bytes) (allow : Bool) :
    (∀ cs ps, encStringCanonize r s c.n = .ok cs → encString r s c.n = .ok ps →
        verifyDigest (OnCurve.ops c) Q Util.sigdecodeString cs dg allow = verifyDigest (OnCurve.ops c) Q Util.sigdecodeString ps dg allow)
    ∧ (∀ cs ps, encStringsCanonize r s c.n = .ok cs → encStrings r s c.n = .ok ps →
        verifyDigest (OnCurve.ops c) Q Util.sigdecodeStrings [cs.1, cs.2] dg allow
          = verifyDigest (OnCurve.ops c) Q Util.sigdecodeStrings [ps.1, ps.2] dg allow)
    ∧ (∀ cs ps, encDerCanonize r s c.n = .ok cs → encDer r s c.n = .ok ps →
        verifyDigest (OnCurve.ops c) Q Util.sigdecodeDer cs dg allow = verifyDigest (OnCurve.ops c) Q Util.sigdecodeDer ps dg allow) :=
  canonical_bytes_verify_iff_plain (OnCurve.pointOpsCorrect c C M) hbig Q hQ (order_smul_den_on_curve M hQ) r s hr hs dg allow

example : ∃ C : Ctx 11 1 6, OnCurve.Matches OnCurve.toyCrv C := OnCurve.toy_matches

end OnCurve

/-! ### evaluated on the model of the REAL point classes (closed instance, no hypothesis; kernel evaluation through
`PointJacobi.__mul__` / `mul_add` / `x()` as written): toy curve y² = x³ + x + 6 over 𝔽₁₁, G = (2,7), n = 13,
driver token `11,1,6,2,7,13,1,j`; secret d = 3, public point Q = 3G = (8,3) -/
set_option maxRecDepth 4000 in
example :
    let Q : Curve.Pt := .jac ⟨OnCurve.crvOf OnCurve.toyCrv, 8, 3, 1, some 13, false⟩
    verifies (OnCurve.ops OnCurve.toyCrv) Q 5 5 10 = .ok true ∧ verifies (OnCurve.ops OnCurve.toyCrv) Q 5 5 (13 - 10) = .ok true
    ∧ verifies (OnCurve.ops OnCurve.toyCrv) Q 5 5 4 = .ok false ∧ verifies (OnCurve.ops OnCurve.toyCrv) Q 5 5 (13 - 4) = .ok false := by
  decide +kernel

end C13b
