import Proofs.UtilSig
import Proofs.UtilTie
import Proofs.UtilTieFn
import Proofs.DerSpec
/-!
# C12 — signature encodings are bijective, fixed-size and strictly decoded

Model: `Model/Util.lean` (`orderlen`, `number_to_string`, `string_to_number(_fixedlen)`, `sigencode_*`,
`sigdecode_*` of `src/ecdsa/util.py`) on top of `Model/Der.lean`; tied to the working tree by the correspondence
run of `harness/props/C12.py`.  `l = orderlen n` throughout.

Tie to the source, besides the correspondence run: `C12.Tie.*` (`Proofs/UtilTie.lean`) — control skeletons of the
eleven functions and their integer tests as re-extracted from the working tree (`Generated/UtilGuards.lean`).
-/
namespace C12
open Der Util

theorem orderlen_spec (n : Nat) (hn : 1 ≤ n) :
    n < 256 ^ orderlen n ∧ 256 ^ (orderlen n - 1) ≤ n ∧ ∀ l, n < 256 ^ l → orderlen n ≤ l :=
  Util.orderlen_spec n hn

/-- `orderlen 0 = 1` as the code computes (`"%x" % 0 = "0"`) -/
theorem orderlen_zero : orderlen 0 = 1 := Util.orderlen_zero

example : orderlen 255 = 1 ∧ orderlen 256 = 2 ∧ orderlen 65535 = 2 ∧ orderlen 65536 = 3
    ∧ orderlen 115792089237316195423570985008687907852837564279074904382605163141518161494337 = 32
    ∧ orderlen (2 ^ 521 - 1) = 66 := by decide +kernel

example : (256 : Nat) < 256 ^ orderlen 256 ∧ 256 ^ (orderlen 256 - 1) ≤ 256 := by decide +kernel

/-- `number_to_string(num, order)` returns exactly `l` bytes whose big-endian value is `num` — for every
`num < 256^l`; for larger `num` it raises (`binascii.Error` / `AssertionError`), it never truncates -/
theorem number_to_string_fixedlen (num order : Nat) :
    (num < 256 ^ orderlen order →
      ∃ s, numberToString num order = .ok s ∧ s.length = orderlen order ∧ beVal s = num)
    ∧ (256 ^ orderlen order ≤ num →
      numberToString num order = .error .binasciiError ∨ numberToString num order = .error .assertionError) := by
  constructor
  · intro h
    obtain ⟨s, h1, h2, _, _⟩ := Util.string_number_inverse num order h
    exact ⟨s, h1, h2, (numberToString_spec h1).2⟩
  · intro h
    cases hr : numberToString num order with
    | ok s => exact absurd (numberToString_ok hr).1 (Nat.not_lt.mpr h)
    | error e =>
      rcases (numberToString_err hr).2 with rfl | rfl
      · exact Or.inl rfl
      · exact Or.inr rfl

example : numberToString 255 65537 = .ok [0, 0, 255] ∧ numberToString 256 255 = .error .binasciiError
    ∧ numberToString 4096 255 = .error .assertionError := by decide +kernel

/-- `string_to_number(number_to_string(num, order)) = num`, also through `string_to_number_fixedlen` -/
theorem string_number_inverse (num order : Nat) (h : num < 256 ^ orderlen order) :
    ∃ s, numberToString num order = .ok s ∧ s.length = orderlen order
      ∧ stringToNumber s = .ok num ∧ stringToNumberFixedlen s order = .ok num :=
  Util.string_number_inverse num order h

example : ∃ s, numberToString 300 65537 = .ok s ∧ s.length = orderlen 65537
      ∧ stringToNumber s = .ok 300 ∧ stringToNumberFixedlen s 65537 = .ok 300 :=
  string_number_inverse 300 65537 (by decide +kernel)

/-- `number_to_string(string_to_number(s), order) = s` for every `s` of length `l` -/
theorem number_string_inverse (s : Bytes) (order : Nat) (h : s.length = orderlen order) :
    ∃ v, stringToNumberFixedlen s order = .ok v ∧ stringToNumber s = .ok v ∧ v < 256 ^ orderlen order
      ∧ numberToString v order = .ok s :=
  Util.number_string_inverse s order h

example : ∃ v, stringToNumberFixedlen [0, 1, 44] 65537 = .ok v ∧ stringToNumber [0, 1, 44] = .ok v
      ∧ v < 256 ^ orderlen 65537 ∧ numberToString v 65537 = .ok [0, 1, 44] :=
  number_string_inverse [0, 1, 44] 65537 (by decide +kernel)

/-- `string_to_number_fixedlen` accepts exactly the strings of length `l` (else `AssertionError`) -/
theorem string_to_number_fixedlen_strict (s : Bytes) (order : Nat) :
    (s.length = orderlen order → stringToNumberFixedlen s order = .ok (beVal s))
    ∧ (s.length ≠ orderlen order → stringToNumberFixedlen s order = .error .assertionError) := by
  constructor
  · exact stringToNumberFixedlen_eq s order
  · intro h
    exact Res.eq_error_of_not_ok (fun _ hr => (stringToNumberFixedlen_err hr).2)
      (fun _ hr => h (stringToNumberFixedlen_ok hr).1)

/-- `number_to_string_crop` agrees with `number_to_string` whenever the number fits (and otherwise keeps the
first `l` bytes of the longer string instead of raising — or raises `binascii.Error` on an odd digit count) -/
theorem number_to_string_crop_eq (num order : Nat) (h : num < 256 ^ orderlen order) :
    numberToStringCrop num order = numberToString num order := by
  have hf := (Util.fits_iff num (orderlen order) (orderlen_pos order)).mpr h
  rw [numberToString_eq num order h]
  unfold numberToStringCrop
  simp only
  rw [if_neg hf.1, hf.2, List.take_of_length_le (by rw [beFixed_length]; exact Nat.le_refl _)]

example : numberToStringCrop 300 65537 = .ok [0, 1, 44] ∧ numberToStringCrop 1048576 255 = .ok [16]
    ∧ numberToStringCrop 65536 255 = .error .binasciiError := by
  decide +kernel

theorem sigdecode_sigencode_string (n r s : Nat) (_hn : 2 ≤ n) (hr : r < n) (hs : s < n) :
    ∃ e, sigencodeString r s n = .ok e ∧ e.length = 2 * orderlen n
      ∧ e = beFixed (orderlen n) r ++ beFixed (orderlen n) s
      ∧ sigdecodeString e n = .ok (r, s) := by
  have hr' := lt_pow_orderlen_of_lt hr
  have hs' := lt_pow_orderlen_of_lt hs
  refine ⟨_, sigencodeString_eq r s n hr' hs', ?_, rfl, ?_⟩
  · simp [beFixed_length]; omega
  · rw [sigdecodeString_eval, if_neg (by simp [beFixed_length]; omega)]
    rw [List.take_left' (beFixed_length _ _), List.drop_left' (beFixed_length _ _),
      beVal_beFixed_of_lt _ _ hr', beVal_beFixed_of_lt _ _ hs']

example : ∃ e, sigencodeString 128 65536 65537 = .ok e ∧ e.length = 2 * orderlen 65537
      ∧ e = beFixed (orderlen 65537) 128 ++ beFixed (orderlen 65537) 65536
      ∧ sigdecodeString e 65537 = .ok (128, 65536) :=
  sigdecode_sigencode_string 65537 128 65536 (by decide) (by decide) (by decide)

/-- accepted ⇒ the input has length `2l` and is the encoder's output on the decoded pair: exactly one accepted
encoding per `(r, s)` -/
theorem sigdecode_string_unique {sig : Bytes} {n r s : Nat} (h : sigdecodeString sig n = .ok (r, s)) :
    sig.length = 2 * orderlen n ∧ sigencodeString r s n = .ok sig := by
  rw [sigdecodeString_eval] at h
  split at h
  · cases h
  · rename_i hl
    have hl' : sig.length = 2 * orderlen n := Decidable.of_not_not hl
    cases h
    have h1 : (sig.take (orderlen n)).length = orderlen n := by rw [List.length_take]; omega
    have h2 : (sig.drop (orderlen n)).length = orderlen n := by rw [List.length_drop]; omega
    rw [sigencodeString_eq _ _ _ (beVal_lt_of_length h1) (beVal_lt_of_length h2), beFixed_beVal_of_length h1,
      beFixed_beVal_of_length h2, List.take_append_drop]
    exact ⟨hl', rfl⟩

example : sigdecodeString [0, 0, 128, 1, 0, 0] 65537 = .ok (128, 65536) := by decide +kernel

/-- every input of another length is refused with `MalformedSignature`, and that is the only failure -/
theorem sigdecode_string_errors (sig : Bytes) (n : Nat) :
    (sig.length ≠ 2 * orderlen n → sigdecodeString sig n = .error .malformedSignature)
    ∧ (∀ e, sigdecodeString sig n = .error e → e = .malformedSignature ∧ sig.length ≠ 2 * orderlen n) := by
  rw [sigdecodeString_eval]
  constructor
  · intro h; rw [if_pos h]
  · intro e h
    split at h
    · rename_i hl; cases h; exact ⟨rfl, hl⟩
    · cases h

example : sigdecodeString [0, 0, 128, 1, 0] 65537 = .error .malformedSignature
    ∧ sigdecodeString [0, 0, 128, 1, 0, 0, 0] 65537 = .error .malformedSignature
    ∧ sigdecodeString [] 65537 = .error .malformedSignature := by decide +kernel

theorem sigdecode_sigencode_strings (n r s : Nat) (_hn : 2 ≤ n) (hr : r < n) (hs : s < n) :
    ∃ a b, sigencodeStrings r s n = .ok (a, b) ∧ a.length = orderlen n ∧ b.length = orderlen n
      ∧ a = beFixed (orderlen n) r ∧ b = beFixed (orderlen n) s
      ∧ sigdecodeStrings [a, b] n = .ok (r, s) := by
  have hr' := lt_pow_orderlen_of_lt hr
  have hs' := lt_pow_orderlen_of_lt hs
  refine ⟨_, _, sigencodeStrings_eq r s n hr' hs', beFixed_length _ _, beFixed_length _ _, rfl, rfl, ?_⟩
  rw [sigdecodeStrings_pair, if_neg (by simp [beFixed_length]), if_neg (by simp [beFixed_length]),
    beVal_beFixed_of_lt _ _ hr', beVal_beFixed_of_lt _ _ hs']

example : ∃ a b, sigencodeStrings 0 254 255 = .ok (a, b) ∧ a.length = orderlen 255 ∧ b.length = orderlen 255
      ∧ a = beFixed (orderlen 255) 0 ∧ b = beFixed (orderlen 255) 254
      ∧ sigdecodeStrings [a, b] 255 = .ok (0, 254) :=
  sigdecode_sigencode_strings 255 0 254 (by decide) (by decide) (by decide)

theorem sigdecode_strings_unique {rs : List Bytes} {n r s : Nat} (h : sigdecodeStrings rs n = .ok (r, s)) :
    ∃ a b, rs = [a, b] ∧ a.length = orderlen n ∧ b.length = orderlen n ∧ sigencodeStrings r s n = .ok (a, b) := by
  obtain ⟨a, b, rfl, ha, hb, rfl, rfl⟩ := sigdecodeStrings_ok h
  refine ⟨a, b, rfl, ha, hb, ?_⟩
  rw [sigencodeStrings_eq _ _ _ (beVal_lt_of_length ha) (beVal_lt_of_length hb), beFixed_beVal_of_length ha,
    beFixed_beVal_of_length hb]

example : sigdecodeStrings [[0], [254]] 255 = .ok (0, 254) := by decide +kernel

/-- a wrong number of strings or a string of the wrong length is `MalformedSignature`, the only failure -/
theorem sigdecode_strings_errors (rs : List Bytes) (n : Nat) :
    ((¬ ∃ a b, rs = [a, b] ∧ a.length = orderlen n ∧ b.length = orderlen n) →
      sigdecodeStrings rs n = .error .malformedSignature)
    ∧ (∀ e, sigdecodeStrings rs n = .error e → e = .malformedSignature) := by
  constructor
  · intro h
    refine Res.eq_error_of_not_ok (fun _ => sigdecodeStrings_err) (fun (r, s) hr => h ?_)
    obtain ⟨a, b, h1, h2, h3, _⟩ := sigdecodeStrings_ok hr
    exact ⟨a, b, h1, h2, h3⟩
  · exact fun e => sigdecodeStrings_err

example : sigdecodeStrings [[0]] 255 = .error .malformedSignature
    ∧ sigdecodeStrings [[0], [1], [2]] 255 = .error .malformedSignature
    ∧ sigdecodeStrings [[0, 0], [1]] 255 = .error .malformedSignature
    ∧ sigdecodeStrings [[0], []] 255 = .error .malformedSignature := by decide +kernel

/-! ## DER

`sigencode_der` ignores the order; the only bound is the one of the DER length codec (content octets shorter than
`256^127` bytes), implied here by `n ≤ 256^126` — every curve order is below `2^521`. -/

/-- the exact domain of the DER signature codec: both INTEGER contents and the SEQUENCE content are shorter than
`256^127` bytes (the bound of `encode_length`, see `C11.encode_length_beyond_domain`) -/
def DerSigDomain (r s : Nat) : Prop :=
  (intBody r).length < 256 ^ 127 ∧ (intBody s).length < 256 ^ 127
    ∧ (encodeInteger r ++ encodeInteger s).length < 256 ^ 127

/-- every pair below `256^126` (in particular every `r, s < n` for `n ≤ 256^126 = 2^1008`) is in the domain -/
theorem der_sig_domain (r s : Nat) (hr : r < 256 ^ 126) (hs : s < 256 ^ 126) : DerSigDomain r s := by
  refine ⟨intBody_length_lt r hr, intBody_length_lt s hs, ?_⟩
  rw [List.length_append]
  exact Nat.lt_of_le_of_lt (Nat.add_le_add (encodeInteger_length_le r hr) (encodeInteger_length_le s hs)) (by decide)

/-- round trip on the whole domain of the codec (the order plays no role in `sigencode_der` / `sigdecode_der`) -/
theorem sigdecode_sigencode_der_domain (n r s : Nat) (hd : DerSigDomain r s) :
    ∃ e, sigencodeDer r s n = .ok e ∧ sigdecodeDer e n = .ok (r, s) :=
  ⟨_, sigencodeDer_eq r s n hd.1 hd.2.1 hd.2.2, sigdecodeDer_encode r s n hd.1 hd.2.1 hd.2.2⟩

theorem sigdecode_sigencode_der (n r s : Nat) (_hn : 2 ≤ n) (hn : n ≤ 256 ^ 126) (hr : r < n) (hs : s < n) :
    ∃ e, sigencodeDer r s n = .ok e ∧ sigdecodeDer e n = .ok (r, s) :=
  sigdecode_sigencode_der_domain n r s (der_sig_domain r s (by omega) (by omega))

example : ∃ e, sigencodeDer 128 0 65537 = .ok e ∧ sigdecodeDer e 65537 = .ok (128, 0) :=
  sigdecode_sigencode_der 65537 128 0 (by decide) (by decide) (by decide) (by decide)

/-- accepted ⇒ the input is exactly `sigencode_der(r, s)`: one accepted DER encoding per `(r, s)` -/
theorem sigdecode_der_canonical {sig : Bytes} {n r s : Nat} (h : sigdecodeDer sig n = .ok (r, s)) :
    sigencodeDer r s n = .ok sig := by
  obtain ⟨hs, h1, h2, h3⟩ := sigdecodeDer_ok h
  rw [sigencodeDer_eq r s n h1 h2 h3, hs]

example : sigdecodeDer [0x30, 0x07, 0x02, 0x02, 0x00, 0x80, 0x02, 0x01, 0x00] 65537 = .ok (128, 0) := by decide

/-- anything but the canonical two-INTEGER SEQUENCE (nothing inside after `s`, nothing after the SEQUENCE) is
refused, and only with `UnexpectedDER` -/
theorem sigdecode_der_errors (sig : Bytes) (n : Nat) :
    ((¬ ∃ r s, sigencodeDer r s n = .ok sig) → sigdecodeDer sig n = .error .unexpectedDER)
    ∧ (∀ e, sigdecodeDer sig n = .error e → e = .unexpectedDER) := by
  constructor
  · intro h
    exact Res.eq_error_of_not_ok (fun _ => sigdecodeDer_err) (fun (r, s) hr => h ⟨r, s, sigdecode_der_canonical hr⟩)
  · exact fun e => sigdecodeDer_err

example : sigdecodeDer [0x30, 0x07, 0x02, 0x01, 0x01, 0x02, 0x01, 0x02, 0x00] 5 = .error .unexpectedDER
    ∧ sigdecodeDer [0x30, 0x06, 0x02, 0x01, 0x01, 0x02, 0x01, 0x02, 0x00] 5 = .error .unexpectedDER
    ∧ sigdecodeDer [0x30, 0x81, 0x06, 0x02, 0x01, 0x01, 0x02, 0x01, 0x02] 5 = .error .unexpectedDER
    ∧ sigdecodeDer [0x30, 0x07, 0x02, 0x02, 0x00, 0x01, 0x02, 0x01, 0x02] 5 = .error .unexpectedDER
    ∧ sigdecodeDer [0x30, 0x06, 0x02, 0x01, 0x81, 0x02, 0x01, 0x02] 5 = .error .unexpectedDER
    ∧ sigdecodeDer [0x30, 0x03, 0x02, 0x01, 0x01] 5 = .error .unexpectedDER
    ∧ sigdecodeDer [] 5 = .error .unexpectedDER :=
  ⟨by decide, by decide, by decide, by decide, by decide, by decide, by decide⟩

/-- the property's wording: the raw half-length is `⌈bitlen(n) / 8⌉` -/
theorem orderlen_eq_bitLength (n : Nat) (hn : 1 ≤ n) : orderlen n = (bitLength n + 7) / 8 :=
  Util.orderlen_eq_bitLength n hn

example : orderlen 256 = (bitLength 256 + 7) / 8 ∧ bitLength 256 = 9 := by decide +kernel

theorem number_to_string_error_kind (num order : Nat) (h : 256 ^ orderlen order ≤ num) :
    numberToString num order = if hexLen num % 2 = 1 then .error .binasciiError else .error .assertionError :=
  Util.numberToString_error_kind num order h

theorem sigdecode_der_rejects_trailing (n r s : Nat) (junk : Bytes) (hd : DerSigDomain r s) (hj : junk ≠ []) :
    ∃ e, sigencodeDer r s n = .ok e ∧ sigdecodeDer (e ++ junk) n = .error .unexpectedDER :=
  ⟨_, sigencodeDer_eq r s n hd.1 hd.2.1 hd.2.2, sigdecodeDer_trailing r s n junk hd.2.2 hj⟩

/-- DER strictness, class 2: any byte after `s` INSIDE the SEQUENCE (outer length repaired) — a third INTEGER included -/
theorem sigdecode_der_rejects_inner_junk (n r s : Nat) (junk : Bytes) (hd : DerSigDomain r s)
    (hl : (encodeInteger r ++ encodeInteger s ++ junk).length < 256 ^ 127) (hj : junk ≠ []) :
    ∃ a b e, encodeIntegerPy (r : Int) = .ok a ∧ encodeIntegerPy (s : Int) = .ok b ∧ encodeSequencePy [a, b, junk] = .ok e
      ∧ sigdecodeDer e n = .error .unexpectedDER :=
  ⟨_, _, _, encodeIntegerPy_eq r hd.1, encodeIntegerPy_eq s hd.2.1,
    encodeSequencePy_eq _ (by simpa [List.append_assoc] using hl), sigdecodeDer_inner_junk r s n junk hd.1 hd.2.1 hl hj⟩

theorem sigdecode_der_rejects_single (n r : Nat) (hr : r < 256 ^ 126) :
    ∃ a e, encodeIntegerPy (r : Int) = .ok a ∧ encodeSequencePy [a] = .ok e
      ∧ sigdecodeDer e n = .error .unexpectedDER := by
  have h1 := intBody_length_lt r hr
  have h2 : (encodeInteger r).length < 256 ^ 127 := Nat.lt_of_le_of_lt (encodeInteger_length_le r hr) (by decide)
  exact ⟨_, _, encodeIntegerPy_eq r h1, encodeSequencePy_eq _ (by simpa using h2), sigdecodeDer_single r n h1 h2⟩

/-- DER strictness against the independent specification (X.690, `Proofs/DerSpec.lean`): `sigdecode_der` accepts `sig`
with `(r, s)` exactly when `sig` is a DER SEQUENCE, with nothing after it, whose contents are the DER INTEGER `r` followed
by the DER INTEGER `s` and nothing else -/
theorem sigdecode_der_spec (sig : Bytes) (n r s : Nat) :
    sigdecodeDer sig n = .ok (r, s) ↔
      ∃ body rest, X690.IsDerSequence sig body [] ∧ X690.IsDerInteger body r rest ∧ X690.IsDerInteger rest s [] := by
  constructor
  · intro h
    obtain ⟨hs, h1, h2, h3⟩ := sigdecodeDer_ok h
    refine ⟨encodeInteger r ++ encodeInteger s, encodeInteger s, ?_, ?_, ?_⟩
    · rw [← removeSequence_iff, hs]
      have := removeSequence_encode [encodeInteger r, encodeInteger s] [] (by simpa using h3)
      simpa using this
    · rw [← removeInteger_iff]; exact removeInteger_encode r _ h1
    · rw [← removeInteger_iff]
      have := removeInteger_encode s [] h2
      simpa using this
  · intro ⟨body, rest, h1, h2, h3⟩
    rw [← removeSequence_iff] at h1
    rw [← removeInteger_iff] at h2 h3
    -- both remainders are `[]`, so neither `empty != b""` test fires
    unfold sigdecodeDer
    simp only [bind, Except.bind, h1, h2, h3, ne_eq, not_true_eq_false, if_false]

end C12
