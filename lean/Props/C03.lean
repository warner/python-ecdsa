import Proofs.EcdsaInstLegacy
import Proofs.EcdsaInstNamed
import Proofs.EcdsaInstToy
import Proofs.EcdsaInstCurve
import Proofs.EcdsaSign
import Proofs.EcdsaTruncate
import Proofs.EcdsaKeys
import Proofs.EcdsaToy
/-!
# C03 — signature integers and public keys are the ones the ECDSA standard defines

Model: `Model/Ecdsa.lean` (`Ecdsa.sign` = `Private_key.sign`, `Ecdsa.signNumber`, `Ecdsa.signDigest`,
`Ecdsa.truncateAndConvertDigest`, `Ecdsa.fromSecretExponent`), whose integer expressions and tests are the
definitions `Gen.Ecdsa.*` regenerated from `src/ecdsa/ecdsa.py`, `src/ecdsa/keys.py` on every run.
Point layer: any `ops` with `PointOpsCorrect ops G den xc valid` (abstract group `𝔾`, `n • G = 0`, `G ≠ 0`,
`n` prime) — see `Proofs/EcdsaGroup.lean`.  `invZ n k` is `k⁻¹` in `ZMod n` as an integer of `[0, n)`.
-/
namespace C03
open Ecdsa

variable {P : Type} {𝔾 : Type} [AddCommGroup 𝔾]
variable {ops : PointOps P} {G : 𝔾} {den : P → 𝔾} {xc : 𝔾 → Option ℤ} {valid : P → Prop}

/-- **r = x(kG) mod n, s = k⁻¹(e + r d) mod n**, and `RSZeroError` exactly when that r or s is 0 — for every
secret `d`, every hash integer `e`, every nonce `k ∈ [1, n−1]`. -/
theorem sign_eq_standard (C : PointOpsCorrect ops G den xc valid) (d e k : ℤ) (hk : 1 ≤ k ∧ k < ops.order) :
    ∃ x, xc (k • G) = some x ∧
      sign ops d e k =
        (let r := x % ops.order
         let s := invZ ops.order k * (e + r * d) % ops.order
         if r = 0 ∨ s = 0 then .error .rsZero else .ok (r, s)) := by
  obtain ⟨x, hx, h⟩ := sign_spec C d e k (not_dvd_of_range hk.1 hk.2)
  refine ⟨x, hx, ?_⟩
  rw [h, Int.emod_eq_of_lt (by omega) hk.2]

/-- the same for an arbitrary integer nonce that is not a multiple of `n` (`Private_key.sign` reduces it) -/
theorem sign_eq_standard_any_nonce (C : PointOpsCorrect ops G den xc valid) (d e k : ℤ) (hk : ¬ ops.order ∣ k) :
    ∃ x, xc (k • G) = some x ∧
      sign ops d e k =
        (let r := x % ops.order
         let s := invZ ops.order (k % ops.order) * (e + r * d) % ops.order
         if r = 0 ∨ s = 0 then .error .rsZero else .ok (r, s)) :=
  sign_spec C d e k hk

/-- `sign_number` with an explicit nonce: the range assertion, then `Private_key.sign` -/
theorem sign_number_explicit (ops : PointOps P) (d number k : ℤ) (rand : ℤ → Res ℤ) :
    signNumber ops d number (some k) rand =
      if 1 ≤ k ∧ k < ops.order then sign ops d number k else .error .assertionError := by
  have hok : Gen.Ecdsa.sign_number_k_ok k ops.order = decide (1 ≤ k ∧ k < ops.order) := (Bool.decide_and _ _).symm
  unfold signNumber
  simp only [bind, Except.bind, hok]
  by_cases h : 1 ≤ k ∧ k < ops.order
  · simp only [h, and_self, decide_true, Bool.not_true, Bool.false_eq_true, if_false, if_true]
  · simp only [h, decide_false, Bool.not_false, if_true, if_false]

/-- **e = the leftmost min(8·len, bitlen n) bits of the digest** (truncation allowed; `baselen = orderlen(n)`),
stated on the bit string of the digest -/
theorem truncate_eq_leftmost_bits (dg : Bytes) (hne : dg ≠ []) (n : ℕ) :
    truncateAndConvertDigest dg (Util.orderlen n) (n : ℤ) true =
      .ok ((bitsToNat ((bytesToBits dg).take (min (8 * dg.length) (bitLen (n : ℤ)).toNat)) : ℕ) : ℤ) :=
  truncate_allow dg hne n

/-- the bit-string reading is the quotient `⌊beVal dg / 2^(8·len − min(8·len, bitlen))⌋` (one shift) -/
theorem leftmost_bits_as_quotient (dg : Bytes) (blen : ℕ) :
    bitsToNat ((bytesToBits dg).take (min (8 * dg.length) blen)) = beVal dg / 2 ^ (8 * dg.length - min (8 * dg.length) blen) :=
  leftmostBits_eq dg blen

/-- a digest with no more bits than `n` is taken as it is, with or without truncation allowed -/
theorem truncate_short_is_digest (dg : Bytes) (hne : dg ≠ []) (n : ℕ) (h : 8 * dg.length ≤ (bitLen (n : ℤ)).toNat) (allow : Bool) :
    truncateAndConvertDigest dg (Util.orderlen n) (n : ℤ) allow = .ok (beVal dg : ℤ) := by
  cases allow
  · have := bitLen_le_baselen n
    rw [truncate_noallow dg hne, if_neg (by omega)]
  · rw [truncate_allow dg hne n]
    show Except.ok ((leftmostBits dg _ : ℕ) : ℤ) = _
    rw [leftmostBits_short dg _ h]

/-- truncation disabled: longer (in bytes) than the order → `BadDigestError`; otherwise the digest itself -/
theorem truncate_disallowed (dg : Bytes) (hne : dg ≠ []) (baselen : ℕ) (order : ℤ) :
    truncateAndConvertDigest dg baselen order false =
      if dg.length > baselen then .error .badDigest else .ok (beVal dg : ℤ) :=
  truncate_noallow dg hne baselen order

/-- **the public key of d is d • G** (`1 ≤ d < n`); any other `secexp` is refused with `MalformedPointError` -/
theorem pubkey_eq_dG (C : PointOpsCorrect ops G den xc valid) (d : ℤ) :
    (1 ≤ d ∧ d < ops.order → ∃ A, fromSecretExponent ops d = .ok A ∧ valid A ∧ den A = d • G) ∧
    (¬ (1 ≤ d ∧ d < ops.order) → fromSecretExponent ops d = .error .malformedPoint) :=
  fromSecretExponent_spec C d

/-- **`dg ≠ []` is necessary** in the truncation and end-to-end statements: on an empty digest `sign_digest` (like
`verify_digest`) raises `ValueError` from `int(b"", 16)`; the property quantifies over non-empty digests. -/
theorem sign_digest_empty_digest {β : Type} (ops : PointOps P) (d : ℤ) (k : Option ℤ) (rand : ℤ → Res ℤ)
    (enc : ℤ → ℤ → ℤ → Res β) (allow : Bool) : signDigest ops d [] k rand enc allow = .error .valueError := by
  unfold signDigest
  rw [truncate_empty]; rfl

/-- the hash integer for either flag: the leftmost `min(8·len, bitlen n)` bits when truncation is allowed, the digest
itself (big-endian) when it is not -/
def digestInt (order : ℤ) (dg : Bytes) (allow : Bool) : ℤ :=
  if allow then ((bitsToNat ((bytesToBits dg).take (min (8 * dg.length) (bitLen order).toNat)) : ℕ) : ℤ) else (beVal dg : ℤ)

/-- once the digest has converted to `e` (either flag) -/
theorem sign_digest_of_converted {β : Type} (C : PointOpsCorrect ops G den xc valid) (d k : ℤ) (hk : 1 ≤ k ∧ k < ops.order)
    (dg : Bytes) (rand : ℤ → Res ℤ) (enc : ℤ → ℤ → ℤ → Res β) (allow : Bool) (e : ℤ)
    (ht : truncateAndConvertDigest dg (baselen ops) ops.order allow = .ok e) :
    ∃ x, xc (k • G) = some x ∧
      signDigest ops d dg (some k) rand enc allow =
        (let r := x % ops.order
         let s := invZ ops.order k * (e + r * d) % ops.order
         if r = 0 ∨ s = 0 then .error .rsZero else enc r s ops.order) := by
  obtain ⟨x, hx, hs⟩ := sign_eq_standard C d e k hk
  refine ⟨x, hx, ?_⟩
  unfold signDigest
  simp only [ht, bind, Except.bind, sign_number_explicit, hk, and_self, if_true, hs]
  by_cases hz : x % ops.order = 0 ∨ invZ ops.order k * (e + x % ops.order * d) % ops.order = 0
  · rw [if_pos hz, if_pos hz]
  · rw [if_neg hz, if_neg hz]

/-- both truncation flags (NON-EMPTY digest): with `allow_truncate=False` a digest longer in bytes than the order raises
`BadDigestError`; otherwise `sign_digest(digest, k=k, allow_truncate=allow)` applies the encoder to the standard `(r, s)`
for `e = digestInt`, or raises `RSZeroError` -/
theorem sign_digest_eq_standard_flag {β : Type} (C : PointOpsCorrect ops G den xc valid) (d k : ℤ) (hk : 1 ≤ k ∧ k < ops.order)
    (dg : Bytes) (hne : dg ≠ []) (rand : ℤ → Res ℤ) (enc : ℤ → ℤ → ℤ → Res β) (allow : Bool) :
    ∃ x, xc (k • G) = some x ∧
      signDigest ops d dg (some k) rand enc allow =
        (if allow = false ∧ dg.length > baselen ops then .error .badDigest
         else
           let e := digestInt ops.order dg allow
           let r := x % ops.order
           let s := invZ ops.order k * (e + r * d) % ops.order
           if r = 0 ∨ s = 0 then .error .rsZero else enc r s ops.order) := by
  have ht := truncate_total ops C.n_pos dg hne allow
  by_cases hbad : allow = false ∧ dg.length > baselen ops
  · obtain ⟨x, hx⟩ := Option.ne_none_iff_exists'.mp
      ((C.xc_none (k • G)).not.mpr (C.smul_ne_zero (not_dvd_of_range hk.1 hk.2)))
    refine ⟨x, hx, ?_⟩
    rw [if_pos hbad] at ht ⊢
    unfold signDigest
    rw [ht]; rfl
  · rw [if_neg hbad] at ht
    obtain ⟨x, hx, h⟩ := sign_digest_of_converted C d k hk dg rand enc allow _ ht
    exact ⟨x, hx, by rw [if_neg hbad]; exact h⟩

/-- end to end (NON-EMPTY digest, hypothesis `hne`), as observed at `SigningKey.sign_digest(digest, k=k, allow_truncate=True)`: the encoder is applied
to the standard `(r, s)` of the leftmost-bits integer, or `RSZeroError` is raised -/
theorem sign_digest_eq_standard {β : Type} (C : PointOpsCorrect ops G den xc valid) (d k : ℤ) (hk : 1 ≤ k ∧ k < ops.order)
    (dg : Bytes) (hne : dg ≠ []) (rand : ℤ → Res ℤ) (enc : ℤ → ℤ → ℤ → Res β) :
    ∃ x, xc (k • G) = some x ∧
      signDigest ops d dg (some k) rand enc true =
        (let e : ℤ := (bitsToNat ((bytesToBits dg).take (min (8 * dg.length) (bitLen ops.order).toNat)) : ℕ)
         let r := x % ops.order
         let s := invZ ops.order k * (e + r * d) % ops.order
         if r = 0 ∨ s = 0 then .error .rsZero else enc r s ops.order) :=
  sign_digest_eq_standard_flag C d k hk dg hne rand enc true

/-! ### non-vacuity: the toy instance (cyclic group of order 7) and concrete byte strings -/

example : PointOpsCorrect Toy.ops (1 : ZMod 7) id Toy.xc (fun _ => True) := Toy.correct

/-- the hypotheses of `sign_eq_standard` are met and the model really signs: d = 3, e = 5, k = 2 gives (2, 2) -/
example : (1 : ℤ) ≤ 2 ∧ (2 : ℤ) < Toy.ops.order ∧ sign Toy.ops 3 5 2 = .ok (2, 2) := by decide +kernel

/-- … and it really raises `RSZeroError` on the standard's zero cases: d = 3, e = 1, k = 2 has s = 0 -/
example : sign Toy.ops 3 1 2 = .error .rsZero := by decide +kernel

/-- truncation on concrete data: n = 0x1FF (9 bits, baselen 2), digest ab cd ef → leftmost 9 bits of `ab cd` = 0x157 -/
example : truncateAndConvertDigest [0xab, 0xcd, 0xef] (Util.orderlen 0x1ff) 0x1ff true = .ok 0x157
    ∧ truncateAndConvertDigest [0xab, 0xcd, 0xef] (Util.orderlen 0x1ff) 0x1ff false = .error .badDigest := by
  decide +kernel

example : fromSecretExponent Toy.ops 3 = .ok 3 ∧ fromSecretExponent Toy.ops 7 = .error .malformedPoint := by
  decide +kernel

/-! ### the same, for the model of the real point classes
`OnCurve.ops c` under `OnCurve.Matches c C` (Proofs/EcdsaInstCurve.lean); `k • C.G`, `d • C.G` are elements of Mathlib's
curve group. -/
section OnCurve
open GroupInterface
variable {p : ℕ} [Fact p.Prime] {a b : ℤ}

theorem sign_eq_standard_on_curve (c : Affine.Crv) (C : Ctx p a b) (M : OnCurve.Matches c C) (d e k : ℤ)
    (hk : 1 ≤ k ∧ k < c.n) :
    ∃ x, OnCurve.xcOf (k • C.G) = some x ∧
      sign (OnCurve.ops c) d e k =
        (let r := x % c.n
         let s := invZ c.n k * (e + r * d) % c.n
         if r = 0 ∨ s = 0 then .error .rsZero else .ok (r, s)) :=
  sign_eq_standard (OnCurve.pointOpsCorrect c C M) d e k hk

theorem pubkey_eq_dG_on_curve (c : Affine.Crv) (C : Ctx p a b) (M : OnCurve.Matches c C) (d : ℤ) :
    (1 ≤ d ∧ d < c.n → ∃ A, fromSecretExponent (OnCurve.ops c) d = .ok A ∧ OnCurve.Valid C A ∧ OnCurve.den C A = d • C.G) ∧
    (¬ (1 ≤ d ∧ d < c.n) → fromSecretExponent (OnCurve.ops c) d = .error .malformedPoint) :=
  pubkey_eq_dG (OnCurve.pointOpsCorrect c C M) d

/-- **the public key in coordinates**: what `x()`, `y()` of the verifying key's point return (and hence what
`VerifyingKey.to_string()` serialises, C09) are the canonical affine coordinates — integers of `[0, p)` — of the group
element `d • G` of Mathlib's curve group -/
theorem pubkey_coordinates_on_curve (c : Affine.Crv) (C : Ctx p a b) (M : OnCurve.Matches c C) (d : ℤ)
    (hd : 1 ≤ d ∧ d < c.n) :
    ∃ A x y, fromSecretExponent (OnCurve.ops c) d = .ok A ∧ (OnCurve.ops c).xOf A = .ok x ∧ (OnCurve.ops c).yOf A = .ok y ∧
      0 ≤ x ∧ x < p ∧ 0 ≤ y ∧ y < p ∧
      ∃ hns : (Jac.shortW (a : ZMod p) (b : ZMod p)).toAffine.Nonsingular (x : ZMod p) (y : ZMod p),
        d • C.G = WeierstrassCurve.Affine.Point.some _ _ hns := by
  have PC := OnCurve.pointOpsCorrect c C M
  obtain ⟨A, hA, vA, dA⟩ := (pubkey_eq_dG PC d).1 hd
  have hne : OnCurve.den C A ≠ 0 := by rw [dA]; exact PC.smul_ne_zero (not_dvd_of_range hd.1 hd.2)
  obtain ⟨x, y, ex, ey, x0, x1, y0, y1, -, hns, hg⟩ := OnCurve.coords_of_rep c (OnCurve.valid_rep vA) hne
  exact ⟨A, x, y, hA, ex, ey, x0, x1, y0, y1, hns, dA ▸ hg⟩

/-- non-vacuity: the hypotheses are satisfiable (toy curve y² = x³ + x + 6 over 𝔽₁₁, G = (2,7), n = 13) -/
example : ∃ C : Ctx 11 1 6, OnCurve.Matches OnCurve.toyCrv C := OnCurve.toy_matches

end OnCurve

/-! ### the named curves
The 16 rows with cofactor 1, under **p prime, n prime, #E(𝔽_p) = n**.  Neither the last hypothesis nor the restriction to
these rows is needed: `Named.sign_eq_standard`, `Named.pubkey_eq_dG` (Props/Named.lean) have the same conclusions for
every row of the table from p, n prime alone. -/
section Named
open GroupInterface

theorem sign_eq_standard_named (row : Gen.CurveRow) (hrow : row ∈ [Gen.curve_NIST192p, Gen.curve_NIST224p, Gen.curve_NIST256p, Gen.curve_NIST384p,
      Gen.curve_NIST521p, Gen.curve_SECP256k1, Gen.curve_BRAINPOOLP160r1, Gen.curve_BRAINPOOLP192r1,
      Gen.curve_BRAINPOOLP224r1, Gen.curve_BRAINPOOLP256r1, Gen.curve_BRAINPOOLP320r1, Gen.curve_BRAINPOOLP384r1,
      Gen.curve_BRAINPOOLP512r1, Gen.curve_SECP112r1, Gen.curve_SECP128r1, Gen.curve_SECP160r1])
    [Fact row.p.Prime] (hnp : row.n.Prime)
    (hcard : Nat.card (Jac.Grp ((row.a : ℤ) : ZMod row.p) ((row.b : ℤ) : ZMod row.p)) = row.n) :
    ∃ C : Ctx row.p row.a row.b, C.n = row.n ∧
      (∀ d e k : ℤ, 1 ≤ k ∧ k < row.n → ∃ x, OnCurve.xcOf (k • C.G) = some x ∧
        sign (OnCurve.ops (OnCurve.crvOfRow row)) d e k =
          (let r := x % (row.n : ℤ)
           let s := invZ row.n k * (e + r * d) % (row.n : ℤ)
           if r = 0 ∨ s = 0 then .error .rsZero else .ok (r, s))) ∧
      (∀ d : ℤ, 1 ≤ d ∧ d < row.n → ∃ A, fromSecretExponent (OnCurve.ops (OnCurve.crvOfRow row)) d = .ok A ∧
        OnCurve.Valid C A ∧ OnCurve.den C A = d • C.G) := by
  obtain ⟨C, M, hn⟩ := OnCurve.matchesRec_of_row row hnp hcard (OnCurve.named_sublist.subset hrow)
  exact ⟨C, hn, fun d e k hk => sign_eq_standard_on_curve _ C M.toMatches d e k hk,
    fun d hd => (pubkey_eq_dG_on_curve _ C M.toMatches d).1 hd⟩

end Named

/-! ### user-built curves whose generator is a legacy affine `Point`
The nonce point and the public point are then computed by `Point.__mul__`; `from_public_point` converts the key with
`PointJacobi.from_affine` (`OnCurve.MatchesL`, `OnCurve.ValidL`: Proofs/EcdsaInstLegacy.lean). -/
section Legacy
open GroupInterface
variable {p : ℕ} [Fact p.Prime] {a b : ℤ}

theorem sign_eq_standard_legacy (c : Affine.Crv) (C : Ctx p a b) (M : OnCurve.MatchesL c C) (d e k : ℤ)
    (hk : 1 ≤ k ∧ k < c.n) :
    ∃ x, OnCurve.xcOf (k • C.G) = some x ∧
      sign (OnCurve.ops c) d e k =
        (let r := x % c.n
         let s := invZ c.n k * (e + r * d) % c.n
         if r = 0 ∨ s = 0 then .error .rsZero else .ok (r, s)) :=
  sign_eq_standard (OnCurve.pointOpsCorrect_legacy c C M) d e k hk

theorem pubkey_eq_dG_legacy (c : Affine.Crv) (C : Ctx p a b) (M : OnCurve.MatchesL c C) (d : ℤ) (hd : 1 ≤ d ∧ d < c.n) :
    ∃ A, fromSecretExponent (OnCurve.ops c) d = .ok A ∧ OnCurve.ValidL C A ∧ OnCurve.den C A = d • C.G :=
  (pubkey_eq_dG (OnCurve.pointOpsCorrect_legacy c C M) d).1 hd

example : ∃ C : Ctx 11 1 6, OnCurve.MatchesL OnCurve.toyCrvL C := OnCurve.toy_matchesL

end Legacy

/-! ### evaluated by the kernel on the model of the real point classes (toy curve y² = x³ + x + 6 over 𝔽₁₁, G = (2,7),
n = 13; secret d = 3) -/
set_option maxRecDepth 4000 in
example : fromSecretExponent (OnCurve.ops OnCurve.toyCrv) 3 = .ok (.jac ⟨OnCurve.crvOf OnCurve.toyCrv, 8, 3, 1, some 13, false⟩)
    ∧ sign (OnCurve.ops OnCurve.toyCrv) 3 5 2 = .ok (5, 10)        -- 2G = (5,2): r = 5, s = 2⁻¹(5 + 5·3) = 7·20 mod 13 = 10
    ∧ sign (OnCurve.ops OnCurve.toyCrv) 3 5 13 = .error .typeError  -- nonce ≡ 0: `None % n` (outside the property's domain)
    ∧ signDigest (OnCurve.ops OnCurve.toyCrv) 3 [0x50] (some 2) (fun _ => .error .other) encDer true
        = .ok [48, 6, 2, 1, 5, 2, 1, 10] :=                         -- digest 50: leftmost 4 bits = 5
  ⟨OnCurve.toy_pubkey, OnCurve.toy_sign, by decide +kernel, OnCurve.toy_signDigest⟩

end C03
