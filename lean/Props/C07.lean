import Proofs.MulAll
import Proofs.Toy
import Proofs.StepsTie
/-!
# C07 — scalar multiplication and double-scalar multiplication are exact

Model: `Curve.naf`, `pjMul` (= `PointJacobi.__mul__`/`__rmul__`: early exits, `other % (2*order)`, lazily built generator
table + `_mul_precompute`, or `scale()` + left-to-right NAF loop), `pjMulAdd` (= `mul_add`: all early exits, both-tables
path, reduction by self's order, the four combined points, the INFINITY fallback, padded interleaved NAF loop), `affMul`
(legacy `Point.__mul__` with `leftmost_bit`).  Every arithmetic step goes through the generated kernels `Gen.k_add`,
`Gen.k_double`.  Statements are for EVERY integer scalar (zero, negative, larger than the order, any size).

`MulOK p a b H P g`: the stored object P denotes g ∈ H, its declared order — if any — annihilates g ("a declared order
that annihilates every point taking part"), and a generator point declares a positive order.
**Partial** = hypothesis `NoOrder2 H` (N2T, open known finding K1) — see Props/C06.lean.  The hypothesis on the declared
order is the property's own and is necessary: `order_annihilates_needed`.
-/
namespace C07
open WeierstrassCurve WeierstrassCurve.Jacobian Curve Jac

variable {p : ℕ} [hp : Fact p.Prime] {a b : ℤ} {H : AddSubgroup (Grp (a : ZMod p) (b : ZMod p))}

/-- `_naf` terminates for EVERY integer (well-founded on |k|: `Curve.nafStep_decreasing`), Σ dᵢ·2ⁱ = k, the digits are
in {−1, 0, 1} and no two adjacent digits are non-zero -/
theorem naf_sum (k : ℤ) :
    (naf k).foldr (fun d acc => d + 2 * acc) 0 = k ∧ (∀ d ∈ naf k, d = -1 ∨ d = 0 ∨ d = 1) ∧
      List.IsChain (fun d e => d = 0 ∨ e = 0) (naf k) :=
  ⟨Naf.naf_sum_foldr k, Naf.naf_digits k, Naf.naf_nonadjacent k⟩

/-- FULL: ⟦P * k⟧ = k • ⟦P⟧ for every point and every integer.  PROVED under N2T: the NAF path (no table) -/
theorem mul_naf_correct_partial (hp2 : p ≠ 2) (hH : NoOrder2 H) {P : PJ} {g} (hP : PJRep p a b H P g)
    (hgen : P.generator = false) (ho : ∀ n, truthy P.order = some n → n • g = 0) (k : ℤ) :
    ∃ R, pjMul P k = .ok R ∧ PtRep p a b H R (k • g) :=
  pjMul_naf_correct hp2 hH hP hgen ho k

/-- the table of a generator point: entry i is the canonical affine pair of 2ⁱ • ⟦P⟧; its length is m + 1 with m minimal
such that 2ᵐ ≥ 4·order -/
theorem table_correct_partial (hH : NoOrder2 H) {P : PJ} {g} (hP : PJRep p a b H P g) {o : ℤ}
    (ho : truthy P.order = some o) (hpos : 0 < o) :
    ∃ table, precomputeTable P = .ok table ∧
      (∀ j (hj : j < table.length), EntryRep p a b H table[j] ((2 : ℤ) ^ j • g)) ∧
      ∃ m : ℕ, table.length = m + 1 ∧ 4 * o ≤ 2 ^ m ∧ 2 ^ (m - 1) < 4 * o :=
  precomputeTable_correct_min hH hP ho hpos

/-- `P * k` of a generator point on a fresh object: the table is built and its signed-digit recoding consumes the scalar -/
theorem mul_table_correct_partial (hp2 : p ≠ 2) (hH : NoOrder2 H) {P : PJ} {g} (hP : PJRep p a b H P g)
    {o : ℤ} (ho : truthy P.order = some o) (hpos : 0 < o) (hog : o • g = 0) (hgen : P.generator = true)
    (k : ℤ) (hk0 : k ≠ 0) (hk1 : k ≠ 1) : ∃ R, pjMul P k = .ok R ∧ PtRep p a b H R (k • g) :=
  pjMul_generator_correct hp2 hH hP ho hpos hog hgen k hk0 hk1

/-- the dispatch of `__mul__`: k = 0 and Y = 0 give INFINITY, k = 1 returns the same object, and the reduction
`k % (2·order)` does not change the multiple -/
theorem mul_dispatch (P : PJ) (k : ℤ) :
    pjMul P 0 = .ok .infinity ∧ (P.y = 0 → pjMul P k = .ok .infinity) ∧
      (P.y ≠ 0 → pjMul P 1 = .ok (.jac P)) ∧
      (∀ (g : Grp (a : ZMod p) (b : ZMod p)), (∀ n, truthy P.order = some n → n • g = 0) →
        (match truthy P.order with
          | some o => pmod k (o * 2)
          | none => k) • g = k • g) := by
  refine ⟨by simp [pjMul, pjMulWith], fun h => by simp [pjMul, pjMulWith, h],
    fun h => by simp [pjMul, pjMulWith, h], fun g ho => reduce_smul ho k⟩

/-- **P * k = k • P**, both paths, every integer k -/
theorem mul_correct_partial (hp2 : p ≠ 2) (hH : NoOrder2 H) {P : PJ} {g} (hP : MulOK p a b H P g) (k : ℤ) :
    ∃ R, pjMul P k = .ok R ∧ PtRep p a b H R (k • g) :=
  pjMul_correct hp2 hH hP k

/-- **P.mul_add(a, Q, b) = a • P + b • Q** for all integers a, b and Q ∈ {INFINITY, any `PointJacobi` (table or not),
any legacy `Point`} — in particular Q = P, Q = −P, zero multipliers; `ho`: self's order (by which the code reduces BOTH
scalars) annihilates Q as well -/
theorem mul_add_correct_partial (hp2 : p ≠ 2) (hH : NoOrder2 H) {P : PJ} {other : Pt} {g h}
    (hP : MulOK p a b H P g) (hO : PtMulOK p a b H other h)
    (ho : ∀ n, truthy P.order = some n → n • h = 0) (sm om : ℤ) :
    ∃ R, pjMulAdd P sm other om = .ok R ∧ PtRep p a b H R (sm • g + om • h) :=
  pjMulAdd_correct hp2 hH hP hO ho sm om

/-- a WARMED-UP generator: the table `pre` is already in the object (any list whose entry i is the canonical affine pair
of 2ⁱ • ⟦P⟧ and whose length is m + 1 with 2ᵐ ≥ 4·order — what `table_correct_partial` says `_maybe_precompute`
builds); `pre` is then used as it is, whatever the current scaling of P -/
theorem mul_warm_table_correct_partial (hp2 : p ≠ 2) (hH : NoOrder2 H) {P : PJ} {g} (hP : PJRep p a b H P g)
    {o : ℤ} (ho : truthy P.order = some o) (hpos : 0 < o) (hog : o • g = 0) {pre : List (ℤ × ℤ)}
    (hT : ∀ j (hj : j < pre.length), EntryRep p a b H pre[j] ((2 : ℤ) ^ j • g))
    (hlen : ∃ m : ℕ, pre.length = m + 1 ∧ 4 * o ≤ 2 ^ m) (k : ℤ) (hk0 : k ≠ 0) (hk1 : k ≠ 1) :
    ∃ R, pjMulWith pre P k = .ok R ∧ PtRep p a b H R (k • g) :=
  pjMulWith_table_correct hp2 hH hP ho hpos hog hT hlen k hk0 hk1

/-- `P * k` when P may be an identity-valued `PointJacobi` (Y = 0: the `not self.__coords[1]` exit; Z = 0, Y ≠ 0: the
NAF loop over the scaled (0, 0, 1)); `MulOK0` = `MulOK` with `PJRep0`; an identity-valued object must not be
generator-flagged (then `_maybe_precompute` raises AttributeError, in the code and in the model) -/
theorem mul_all_correct_partial (hp2 : p ≠ 2) (hH : NoOrder2 H) {P : PJ} {g} (hP : MulOK0 p a b H P g) (k : ℤ) :
    ∃ R, pjMul P k = .ok R ∧ PtRep0 p a b H R (k • g) :=
  pjMul_correct0 hp2 hH hP k

/-- `P.mul_add(a, Q, b)` when P and/or Q may be identity-valued `PointJacobi` objects -/
theorem mul_add_all_correct_partial (hp2 : p ≠ 2) (hH : NoOrder2 H) {P : PJ} {other : Pt} {g h}
    (hP : MulOK0 p a b H P g) (hO : PtMulOK0 p a b H other h)
    (ho : ∀ n, truthy P.order = some n → n • h = 0) (sm om : ℤ) :
    ∃ R, pjMulAdd P sm other om = .ok R ∧ PtRep0 p a b H R (sm • g + om • h) :=
  pjMulAdd_correct0 hp2 hH hP hO ho sm om

/-- the legacy affine class: `Point.__mul__` (X9.62 D.3.2 with `leftmost_bit`; the result is canonical) -/
theorem legacy_mul_correct_partial (hp2 : p ≠ 2) (hH : NoOrder2 H) {A : AffPt} {g}
    (hA : AffRep p a b H A g) (ho : ∀ n, truthy A.order = some n → n • g = 0) (e : ℤ) :
    ∃ R, affMul A e = .ok R ∧ PtRep p a b H R (e • g) :=
  affMul_correct hp2 hH hA ho e

/-- results of `*` are canonical: `x()`, `y()` of the product are the residues in [0, p−1] of k • ⟦P⟧ -/
theorem mul_result_canonical_partial (hp2 : p ≠ 2) (hH : NoOrder2 H) {P : PJ} {g} (hP : MulOK p a b H P g)
    (k : ℤ) (J : PJ) (hJ : pjMul P k = .ok (.jac J)) :
    ∃ x y, pjX J = .ok x ∧ pjY J = .ok y ∧ 0 ≤ x ∧ x < p ∧ 0 ≤ y ∧ y < p ∧
      ∃ hn : (shortW (a : ZMod p) (b : ZMod p)).toAffine.Nonsingular (x : ZMod p) (y : ZMod p),
        k • g = Affine.Point.some _ _ hn := by
  obtain ⟨R, e, hR⟩ := pjMul_correct hp2 hH hP k
  rw [hJ] at e
  cases e
  obtain ⟨x, y, ex, ey, rx, ry, hn⟩ := pjXY_correct (show PJRep p a b H J (k • g) from hR)
  exact ⟨x, y, ex, ey, rx.1, rx.2, ry.1, ry.2, hn⟩

/-- TIE: the step functions folded by the model's loops are the loop bodies GENERATED from the current source
(`Generated/Steps.lean`: bodies of `_naf`, `_mul_precompute`, `__mul__`, `mul_add`, and its four combined points) -/
theorem loop_bodies_are_generated :
    (∀ m, nafStep m = Gen.s_naf_step m) ∧
    (∀ p a st e, mulPrecomputeStep p a st e =
      Gen.s_mul_precompute_step st.1 st.2.1 st.2.2.1 st.2.2.2 e.1 e.2 p a) ∧
    (∀ p a X2 Y2 acc i, mulNafStep p a X2 Y2 acc i = Gen.s_mul_step acc.1 acc.2.1 acc.2.2 X2 Y2 i p a) ∧
    (∀ p a P1 P2 mAmB pAmB mApB pApB acc A B, mulAddStep p a P1 P2 mAmB pAmB mApB pApB acc (A, B) =
      Gen.s_mul_add_step acc.1 acc.2.1 acc.2.2 A B P1.1 P1.2.1 P1.2.2 P2.1 P2.2.1 P2.2.2
        mAmB.1 mAmB.2.1 mAmB.2.2 pAmB.1 pAmB.2.1 pAmB.2.2 mApB.1 mApB.2.1 mApB.2.2 pApB.1 pApB.2.1 pApB.2.2
        p a) :=
  ⟨StepsTie.nafStep_tie, StepsTie.mulPrecomputeStep_tie, StepsTie.mulNafStep_tie, StepsTie.mulAddStep_tie⟩

/-! ### concrete evaluations on y² = x³ + x + 6 over F₁₁ (G = (2, 7) has order 13) -/

theorem naf_2 : naf 2 = [0, 1] := by
  simp [Naf.naf_of_ne_zero, Naf.naf_zero, nafStep, pmod, pdiv]

theorem toy_2G : pjMul toyG 2 = .ok (.jac ⟨toyC, 1, 10, 3, none, false⟩) := by
  simp only [pjMul, pjMulWith, naf_2, toyG, truthy, maybePrecompute]
  decide

/-- G with the WRONG declared order 5 (its order is 13): `G * 12` is computed as `(12 % 10) • G = 2G` -/
theorem toy_wrong_order : pjMul { toyG with order := some 5 } 12 = .ok (.jac ⟨toyC, 1, 10, 3, some 5, false⟩) := by
  simp only [pjMul, pjMulWith, toyG, truthy, maybePrecompute]
  simp [pmod, naf_2]
  decide

/-- the hypothesis "the declared order annihilates the point" is needed: with a declared order that does not, the
product is wrong (the model agrees with the code here: the check replays it) -/
theorem order_annihilates_needed :
    ∃ (P : PJ) (g : Grp ((1 : ℤ) : ZMod 11) ((6 : ℤ) : ZMod 11)) (k : ℤ) (R : Pt),
      PJRep 11 1 6 ⊤ P g ∧ P.order = some 5 ∧ P.generator = false ∧ pjMul P k = .ok R ∧
        ¬ PtRep 11 1 6 ⊤ R (k • g) := by
  obtain ⟨g, hg⟩ := toyG_rep
  refine ⟨{ toyG with order := some 5 }, g, 12, _, toyG_with hg _ _, rfl, rfl, toy_wrong_order, ?_⟩
  intro h12
  have z13 := toyG_order hg
  -- the same triple denotes 2 • g
  obtain ⟨R2, e2, h2⟩ := pjMul_naf_correct (by decide) toy_n2t hg rfl toyG_order_none 2
  change pjMul toyG 2 = _ at e2
  rw [toy_2G] at e2; cases e2
  have e : (12 : ℤ) • g = (2 : ℤ) • g := by
    have a1 : PJRep 11 1 6 ⊤ _ ((12 : ℤ) • g) := h12
    have a2 : PJRep 11 1 6 ⊤ _ ((2 : ℤ) • g) := h2
    rw [← a1.good.toAffine_eq, ← a2.good.toAffine_eq]
  have z10 : (10 : ℤ) • g = 0 := by
    have : (12 : ℤ) • g - (2 : ℤ) • g = 0 := sub_eq_zero.mpr e
    rwa [← sub_smul] at this
  have : g = 0 := by
    have h1 : (1 : ℤ) • g = (4 * 10 - 3 * 13 : ℤ) • g := by norm_num
    rw [one_smul, sub_smul, mul_smul, mul_smul, z10, z13, smul_zero, smul_zero, sub_zero] at h1
    exact h1
  exact good_ne_zero hg.good this

theorem toyG_mulOK {g} (hg : PJRep 11 1 6 ⊤ toyG g) : MulOK 11 1 6 ⊤ toyG g :=
  ⟨hg, toyG_order_none, by intro h; simp [toyG] at h⟩

example : ∃ g R, MulOK 11 1 6 ⊤ toyG g ∧ pjMul toyG 13 = .ok R ∧ PtRep 11 1 6 ⊤ R ((13 : ℤ) • g) := by
  obtain ⟨g, hg⟩ := toyG_rep
  have hm := toyG_mulOK hg
  obtain ⟨R, e, hR⟩ := mul_correct_partial (by decide) toy_n2t hm 13
  exact ⟨g, R, hm, e, hR⟩

example : ∃ g h R, pjMulAdd toyG 5 (.jac toyQ) (-3) = .ok R ∧ PtRep 11 1 6 ⊤ R ((5 : ℤ) • g + (-3 : ℤ) • h) := by
  obtain ⟨g, hg⟩ := toyG_rep
  obtain ⟨h, hh⟩ := toyQ_rep
  have hm := toyG_mulOK hg
  have hq : PtMulOK 11 1 6 ⊤ (.jac toyQ) h :=
    ⟨hh, by intro n hn; simp [toyQ, truthy] at hn, by intro h; simp [toyQ] at h⟩
  obtain ⟨R, e, hR⟩ := mul_add_correct_partial (by decide) toy_n2t hm hq
    toyG_order_none 5 (-3)
  exact ⟨g, h, R, e, hR⟩

example : naf (-7) = [1, 0, 0, -1] := by
  simp [Naf.naf_of_ne_zero, Naf.naf_zero, nafStep, pmod, pdiv]


example : ∃ g, MulOK 11 1 6 ⊤ { toyG with order := some 13, generator := true } g ∧
    (∃ R, pjMul { toyG with order := some 13, generator := true } 29 = .ok R ∧
      PtRep 11 1 6 ⊤ R ((29 : ℤ) • g)) ∧
    (∃ table, precomputeTable { toyG with order := some 13, generator := true } = .ok table ∧ table.length = 7) := by
  obtain ⟨g, hg⟩ := toyG_rep
  have z13 := toyG_order hg
  have hm : MulOK 11 1 6 ⊤ { toyG with order := some 13, generator := true } g := by
    refine ⟨toyG_with hg _ _, ?_, fun _ => ⟨13, by simp [truthy], by decide⟩⟩
    intro n hn
    rwa [truthy_some_eq hn]
  refine ⟨g, hm, mul_correct_partial (by decide) toy_n2t hm 29, ?_⟩
  obtain ⟨table, et, _, m, hl, h1, h2⟩ :=
    table_correct_partial toy_n2t hm.1 (o := 13) (by simp [truthy]) (by decide)
  refine ⟨table, et, ?_⟩
  -- 4·13 = 52 ≤ 2^m and 2^(m-1) < 52 force m = 6
  have : m = 6 := by
    have h64 : (2 : ℤ) ^ m ≥ 52 := h1
    have hlt : (2 : ℤ) ^ (m - 1) < 52 := h2
    by_contra hne
    rcases Nat.lt_or_gt_of_ne hne with h | h
    · have : (2 : ℤ) ^ m ≤ 2 ^ 5 := pow_le_pow_right₀ (by norm_num) (by omega)
      norm_num at this; omega
    · have : (2 : ℤ) ^ 6 ≤ 2 ^ (m - 1) := pow_le_pow_right₀ (by norm_num) (by omega)
      norm_num at this; omega
  omega


/-- the table `_maybe_precompute` builds is fed back as `pre` -/
example : ∃ g table R, precomputeTable { toyG with order := some 13, generator := true } = .ok table ∧ table ≠ [] ∧
    pjMulWith table { toyG with order := some 13, generator := true } 29 = .ok R ∧
    PtRep 11 1 6 ⊤ R ((29 : ℤ) • g) := by
  obtain ⟨g, hg⟩ := toyG_rep
  have z13 := toyG_order hg
  have hP := toyG_with hg (some 13) true
  obtain ⟨table, et, hT, m, hl, h1, _⟩ := table_correct_partial toy_n2t hP (o := 13) (by simp [truthy]) (by decide)
  obtain ⟨R, e, hR⟩ := mul_warm_table_correct_partial (by decide) toy_n2t hP (o := 13) (by simp [truthy]) (by decide)
    z13 hT ⟨m, hl, h1⟩ 29 (by decide) (by decide)
  exact ⟨g, table, R, et, by intro h0; simp [h0] at hl, e, hR⟩

example : ∃ g, (∃ R, pjMul ⟨toyC, 3, 6, 0, none, false⟩ 7 = .ok R ∧ PtRep0 11 1 6 ⊤ R ((7 : ℤ) • 0)) ∧
    (∃ R, pjMulAdd toyG 5 (.jac ⟨toyC, 0, 0, 1, none, false⟩) 9 = .ok R ∧
      PtRep0 11 1 6 ⊤ R ((5 : ℤ) • g + (9 : ℤ) • 0)) := by
  obtain ⟨g, hg⟩ := toyG_rep
  have z1 : MulOK0 11 1 6 ⊤ ⟨toyC, 3, 6, 0, none, false⟩ 0 :=
    ⟨pjRep0_zero toyC_on (toy_inRange3 (by decide)) (Or.inr rfl),
      by intro n hn; simp [truthy] at hn, by intro h; simp at h⟩
  have z2 : MulOK0 11 1 6 ⊤ ⟨toyC, 0, 0, 1, none, false⟩ 0 :=
    ⟨pjRep0_zero toyC_on (toy_inRange3 (by decide)) (Or.inl rfl),
      by intro n hn; simp [truthy] at hn, by intro h; simp at h⟩
  have hm := (toyG_mulOK hg).ok0
  exact ⟨g, mul_all_correct_partial (by decide) toy_n2t z1 7,
    mul_add_all_correct_partial (by decide) toy_n2t hm (other := .jac _) z2
      toyG_order_none 5 9⟩

end C07
