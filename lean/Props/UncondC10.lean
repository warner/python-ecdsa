import Proofs.UncondBase
import Props.C10
/-!
# UncondC10 — C10: loaders / verify raise only documented errors on the named curves with NO primality hypothesis

For every curve of `NamedPrimes.unconditionalCurves` (all 17 curves of the table: p and n carry kernel-checked Pocklington certificates, the
order of the base point is checked by kernel evaluation) the headline statements of C10 hold without any hypothesis about the
curve, except `#E(𝔽_p) = n` where stated.
-/
namespace UncondC10
open Uncond Named NamedPrimes Ecdsa GroupInterface Jac
open Keys KeysP Asn1Spec
variable {r : Gen.CurveRow}

/-- `verify_digest` / `verify` with each of the three decoders: `True`, `BadSignatureError` or `BadDigestError`, nothing else -/
theorem verify_total_all_decoders (hr : r ∈ unconditionalCurves) :
    haveI := factP hr
    ∀ (Q : Curve.Pt), OnCurve.Valid (baseCtx r (checked_of_mem (mem_table hr))) Q →
    ∀ (sig : Bytes) (sigs : List Bytes) (dg : Bytes), dg ≠ [] → ∀ (H : Bytes → Bytes), (∀ m, H m ≠ []) →
    ∀ (data : Bytes) (allow : Bool),
    C10.VerifyOutcome (verifyDigest (OnCurve.ops (crvOf r)) Q Util.sigdecodeString sig dg allow) ∧
    C10.VerifyOutcome (verifyDigest (OnCurve.ops (crvOf r)) Q Util.sigdecodeStrings sigs dg allow) ∧
    C10.VerifyOutcome (verifyDigest (OnCurve.ops (crvOf r)) Q Util.sigdecodeDer sig dg allow) ∧
    C10.VerifyOutcome (verify (OnCurve.ops (crvOf r)) Q H Util.sigdecodeString sig data allow) ∧
    C10.VerifyOutcome (verify (OnCurve.ops (crvOf r)) Q H Util.sigdecodeStrings sigs data allow) ∧
    C10.VerifyOutcome (verify (OnCurve.ops (crvOf r)) Q H Util.sigdecodeDer sig data allow) := by
  haveI := factP hr
  intro Q hQ sig sigs dg hne H hH data allow
  exact C10.verify_total_all_decoders_named r (mem_table hr) (primeN hr) Q hQ sig sigs dg hne H hH data allow

/-- all six key loaders raise only documented errors — a table-wide statement (any uncertified number of the table would
appear as a hypothesis; with all 34 certified there is none) -/
theorem all_loaders_total :
    C10.ExtOK KeysWire.modelExt ∧ ∀ bs : Bytes,
      (∀ e, VK.fromDer KeysWire.modelExt bs = .error e → Documented e) ∧
      (∀ e, VK.fromPem KeysWire.modelExt bs = .error e → Documented e) ∧
      (∀ e, SK.fromDer KeysWire.modelExt bs = .error e → Documented e) ∧
      (∀ e, SK.fromPem KeysWire.modelExt bs = .error e → Documented e) ∧
      (∀ c ∈ Gen.curveTable, ∀ v e, VK.fromString KeysWire.modelExt c bs v = .error e → e = .malformedPoint) ∧
      (∀ c ∈ Gen.curveTable, ∀ e, SK.fromString KeysWire.modelExt c bs = .error e → e = .malformedPoint) :=
  C10.all_loaders_total_model all_primes

/-- … and the ECDH loaders are those key loaders -/
theorem ecdh_loaders_total {Pt Ent : Type}
    (mkPt : Curve → Nat → Nat → Pt) (mul : Pt → Int → Res Pt) (isInf : Pt → Bool) (xOf : Pt → Res Int)
    (generate : Curve → Ent → Res (Ecdh.SKey Curve Pt)) :
    LoadersAreKeys KeysWire.modelExt mkPt (ecdhEnv KeysWire.modelExt mkPt mul isInf xOf generate) ∧
      C10.ExtOK KeysWire.modelExt :=
  C10.ecdh_loaders_total_model all_primes mkPt mul isInf xOf generate

end UncondC10
