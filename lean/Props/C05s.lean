import Generated.EcdhSkel
import Props.C05
/-!
# C05 (translator half) — the generated text of `ecdh.py` *is* the state machine of the C05 theorems

`Generated/EcdhSkel.lean` is rewritten from `src/ecdsa/ecdh.py` on every run (`harness/translate/gen_ecdhskel.py`): each
method of class `ECDH` as a list of statements, interpreted by `EcdhSkel.stepProg`.  So every theorem of `Props/C05*.lean`
is a theorem about the statements the source consists of *now*; if `ecdh.py` changes, either the proof fails on the new
statements or the translator rejects the new syntax.

One of two independent ties of `ecdh.py`.  Its language (`Model/EcdhSkel.lean`) has one statement form per idiom of the class,
so a reordered guard or a changed exception shows at a glance; it does not see `__init__`, the spelling of the expressions
or the import lines, which the other tie does (`Proofs/EcdhTie.lean`, `Props/C05t.lean`).
-/
namespace C05s
open Ecdh EcdhSkel

variable {Crv Pt Ent : Type} [DecidableEq Crv]

theorem sharedSecret_generated (env : Env Crv Pt Ent) (s : State Crv Pt) :
    sharedSecretOf env Gen.EcdhProg.prog s = getSharedSecret env s := by
  unfold sharedSecretOf getSharedSecret
  simp only [Gen.EcdhProg.prog, exec, evalCond]
  cases hp : s.priv with
  | none => simp
  | some sk =>
    cases hq : s.pub with
    | none => simp
    | some vk =>
      simp only [Option.isNone_some, evalCurve, hp, hq, bind, Except.bind]
      -- the interpreter tests `a == b`, then `b == c`; the model has the conjunction
      by_cases h1 : some sk.curve = s.curve
      · by_cases h2 : s.curve = some vk.curve
        · simp only [ne_eq, h1, h2, not_true_eq_false, if_false, decide_false, and_self]
          cases env.mul vk.point sk.d with
          | error e => rfl
          | ok r =>
            simp only
            cases hi : env.isInf r with
            | true => rfl
            | false => simp only [Bool.false_eq_true, if_false]; cases env.xOf r <;> rfl
        · simp [h1, h2]
      · simp [h1]

theorem loadPriv_generated (env : Env Crv Pt Ent) (cal : Callees Crv Pt Ent) (s : State Crv Pt) (k : SKey Crv Pt) :
    exec env cal (.sk k) s none Gen.EcdhProg.prog.loadPrivateKey = loadPrivate s k := by
  obtain ⟨cv, pv, pb⟩ := s
  unfold loadPrivate
  simp only [Gen.EcdhProg.prog, exec, evalCond, evalCurve, bind, Except.bind]
  cases cv with
  | none => simp
  | some c =>
    simp only [Option.isNone_some]
    by_cases h : c = k.curve
    · simp [h]
    · simp [h]

theorem loadPub_generated (env : Env Crv Pt Ent) (cal : Callees Crv Pt Ent) (s : State Crv Pt) (k : VKey Crv Pt) :
    exec env cal (.vk k) s none Gen.EcdhProg.prog.loadReceivedPublicKey = loadPublic s k := by
  obtain ⟨cv, pv, pb⟩ := s
  unfold loadPublic
  simp only [Gen.EcdhProg.prog, exec, evalCond, evalCurve, bind, Except.bind]
  cases cv with
  | none => simp
  | some c =>
    simp only [Option.isNone_some]
    by_cases h : c = k.curve
    · simp [h]
    · simp [h]

theorem callees_generated (env : Env Crv Pt Ent) :
    callees env Gen.EcdhProg.prog = ⟨loadPrivate, loadPublic, getSharedSecret env⟩ := by
  unfold callees
  congr
  · funext s k; exact loadPriv_generated env _ s k
  · funext s k; exact loadPub_generated env _ s k
  · funext s; exact sharedSecret_generated env s

theorem exec_retLoad (env : Env Crv Pt Ent) (cal : Callees Crv Pt Ent) (arg : Arg Crv Pt Ent) (s : State Crv Pt)
    (c : Ctor) (rest : List Stmt) :
    exec env cal arg s none (.retLoadPriv c :: rest) = viaLoader s (runSkCtor env s arg c) cal.loadPriv ∧
    exec env cal arg s none (.retLoadPub c :: rest) = viaLoader s (runVkCtor env s arg c) cal.loadPub := by
  constructor
  · unfold exec viaLoader; cases runSkCtor env s arg c <;> rfl
  · unfold exec viaLoader; cases runVkCtor env s arg c <;> rfl

/-- **generated_is_model** -/
theorem generated_is_model (env : Env Crv Pt Ent) (s : State Crv Pt) (op : Op Crv Pt Ent) :
    stepProg env Gen.EcdhProg.prog s op = step env s op := by
  cases op <;> simp only [stepProg, callees_generated]
  case setCurve c => rfl
  case loadPriv k => exact loadPriv_generated env _ s k
  case loadPub k => exact loadPub_generated env _ s k
  case genPriv e =>
    -- `if not self.curve: raise NoCurveError`, then the delegation
    simp only [Gen.EcdhProg.prog, step]
    cases hc : s.curve with
    | none => simp only [exec, evalCond, hc, Option.isNone_none]
    | some c =>
      simp only [exec, evalCond, hc, Option.isNone_some, runSkCtor, viaLoader]
      cases env.generate c e <;> rfl
  case loadPrivBytes b =>
    simp only [Gen.EcdhProg.prog, step]
    cases hc : s.curve with
    | none => simp only [exec, evalCond, hc, Option.isNone_none]
    | some c =>
      simp only [exec, evalCond, hc, Option.isNone_some, runSkCtor, viaLoader]
      cases env.skFromString c b <;> rfl
  case loadPrivDer b => exact (exec_retLoad env _ _ s _ _).1
  case loadPrivPem b => exact (exec_retLoad env _ _ s _ _).1
  case loadPubBytes b =>
    -- no guard in the source: `VerifyingKey.from_string(s, None)` raises `AttributeError`
    refine (exec_retLoad env _ _ s _ _).2.trans ?_
    simp only [step, runVkCtor]
    cases s.curve <;> rfl
  case loadPubDer b => exact (exec_retLoad env _ _ s _ _).2
  case loadPubPem b => exact (exec_retLoad env _ _ s _ _).2
  case getPub =>
    simp only [step, Gen.EcdhProg.prog, exec]
    cases s.priv <;> rfl
  case secret =>
    simp only [step, Gen.EcdhProg.prog, exec]
    cases getSharedSecret env s <;> rfl
  case secretBytes =>
    simp only [step, Gen.EcdhProg.prog, exec, secretBytes]
    cases getSharedSecret env s with
    | error e => rfl
    | ok v =>
      cases hp : s.priv with
      | none => rfl
      | some sk =>
        simp only [Option.map_some]
        cases numberToStringInt v (env.fieldP sk.curve) <;> rfl

theorem generated_run (env : Env Crv Pt Ent) (s : State Crv Pt) (ops : List (Op Crv Pt Ent)) :
    ops.foldl (fun st op => (stepProg env Gen.EcdhProg.prog st op).1) s = run env s ops := by
  induction ops generalizing s with
  | nil => rfl
  | cons op ops ih =>
    simp only [List.foldl, run]
    rw [generated_is_model]
    exact ih _

/-- non-vacuity: an exchange run through the generated statements on the toy environment of `Props/C05.lean` -/
example : Gen.EcdhProg.prog.getSharedSecret.length = 6 ∧
    (stepProg C05.Toy.env Gen.EcdhProg.prog
      (List.foldl (fun st op => (stepProg C05.Toy.env Gen.EcdhProg.prog st op).1) C05.Toy.fresh
        [.loadPriv C05.Toy.skA, .loadPubBytes [1]]) .secret).2 = .ok (.int 10) := ⟨rfl, rfl⟩

end C05s
