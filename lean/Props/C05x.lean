import Props.C05g
import Props.C05b
import Props.C08
import Props.C09
import Proofs.KeysInstPub
import Props.NamedPrimes
/-!
# C05 (end to end) — two parties on a named curve, keys as the library builds and transports them

The property, literally: *for any two key pairs (d_A, Q_A), (d_B, Q_B) on the same curve, the two ECDH objects compute the
same shared secret, equal to the x-coordinate of d_A d_B G*.  Every ingredient is the model that is driven against the real
code: keys from `Keys.SK.fromSecretExponent` (public point through `Model/Curve.lean`), transported in every serialisation
`ecdh.py` can load, the state machine of `Model/Ecdh.lean` with the driver's environment `EcdhWire.env`, Mathlib's group of
the curve with the base point of the generated table.

Hypotheses: `p` and `n` prime for the row; `Props/NamedPrimes` proves both for all 17 rows.
-/
namespace C05x
open Ecdh Keys KeysP Curve Jac GroupInterface WeierstrassCurve

variable (r : Gen.CurveRow) [Fact r.p.Prime]

abbrev ctx (hr : r ∈ Gen.curveTable) := Named.baseCtx r (Named.checked_of_mem hr)

/-- the public point of `d` exists, is a valid point and denotes d • G -/
theorem pubKey_denotes (hr : r ∈ Gen.curveTable) (hn : r.n.Prime) (d : Nat) (h1 : 1 ≤ d) (h2 : d < r.n) :
    ∃ x y : Nat, KeysWire.pubPointModel r d = some ((x : Int), (y : Int)) ∧ ValidPoint KeysWire.modelExt r x y ∧
      PJRep r.p r.a r.b (ctx r hr).H
        ⟨EcdhWire.fpOf r, x, y, 1, some (r.n : ℤ), false⟩ ((d : ℤ) • (ctx r hr).G) := by
  obtain ⟨X, Y, hp, hx, hy, hns, hg⟩ := pubPoint_denotes r hr hn d h1 h2
  have hm : Affine.Point.some _ _ hns ∈ (ctx r hr).H := by
    rw [← hg]; exact (ctx r hr).smul_mem d
  obtain ⟨v1, v2⟩ := valid_of_mem r (Named.checked_of_mem hr) hn X Y hx hy hns hm
  have hP := pjRep_of_coords (ctx r hr).n2t (EcdhWire.fpOf r) ⟨rfl, rfl, rfl⟩ X Y hx hy hns hm (some (r.n : ℤ)) false
  refine ⟨X.toNat, Y.toNat, by rw [hp, Int.toNat_of_nonneg hx.1, Int.toNat_of_nonneg hy.1], ⟨by omega, by omega, ?_, fun _ => v2⟩, ?_⟩
  · rw [Int.toNat_of_nonneg hx.1, Int.toNat_of_nonneg hy.1]; exact v1
  · rw [Int.toNat_of_nonneg hx.1, Int.toNat_of_nonneg hy.1, hg]; exact hP

omit [Fact r.p.Prime] in
theorem fromSecexp_ok (d x y : Nat) (h1 : 1 ≤ d) (h2 : d < r.n)
    (hp : KeysWire.pubPointModel r d = some ((x : Int), (y : Int))) (hv : ValidPoint KeysWire.modelExt r x y) :
    SK.fromSecretExponent KeysWire.modelExt r (d : Int) = .ok ⟨r, d, ⟨r, x, y⟩⟩ :=
  fromSecretExponent_ok KeysWire.modelExt ⟨r, d, ⟨r, x, y⟩⟩ ⟨h1, h2, rfl, hv.1, hv.2.1, hp⟩

omit [Fact r.p.Prime] in
theorem generate_ok (d x y : Nat) (h1 : 1 ≤ d) (h2 : d < r.n)
    (hp : KeysWire.pubPointModel r d = some ((x : Int), (y : Int))) (hv : ValidPoint KeysWire.modelExt r x y) :
    (EcdhWire.env #[r]).generate 0 (d : Int) = .ok (EcdhWire.ofKeysSK 0 ⟨r, d, ⟨r, x, y⟩⟩) := by
  show (SK.fromSecretExponent KeysWire.modelExt (#[r] : Array Keys.Curve)[0]! (d : Int)).map (EcdhWire.ofKeysSK 0) = _
  rw [show (#[r] : Array Keys.Curve)[0]! = r from rfl, fromSecexp_ok r d x y h1 h2 hp hv]
  rfl

theorem load_ok (hr : r ∈ Gen.curveTable) (x y : Nat) (hv : ValidPoint KeysWire.modelExt r x y) (enc : PointEnc) :
    ∃ bs, (⟨r, x, y⟩ : Keys.VK).toString enc = .ok bs ∧
      (EcdhWire.env #[r]).vkFromString 0 bs = .ok (EcdhWire.ofKeysVK 0 ⟨r, x, y⟩) := by
  have hp : r.p.Prime := Fact.out
  have hp2 : r.p ≠ 2 := by
    intro h2; have := (C08.table_p_odd r hr).1; rw [h2] at this; cases this
  obtain ⟨bs, e1, e2⟩ := C09.vk_from_string_to_string KeysWire.modelExt ⟨r, x, y⟩ hr hp
    (sqrtSpec_modelExt r.p hp hp2) hv enc
  refine ⟨bs, e1, ?_⟩
  show (if 0 < (#[r] : Array Keys.Curve).size then
      (VK.fromString KeysWire.modelExt (#[r] : Array Keys.Curve)[0]! bs true).map (EcdhWire.ofKeysVK 0) else .error .other) = _
  rw [show (#[r] : Array Keys.Curve)[0]! = r from rfl, e2]
  rfl

omit [Fact r.p.Prime] in
/-- the state of a party after `set_curve(c); generate_private_key() [→ d]; load_received_public_key_bytes(bytes)` -/
theorem party_state (d : Nat) (bs : Bytes) (sk : EcdhWire.SK) (vk : EcdhWire.VK) (hsk : sk.curve = 0) (hvk : vk.curve = 0)
    (hg : (EcdhWire.env #[r]).generate 0 (d : Int) = .ok sk) (hl : (EcdhWire.env #[r]).vkFromString 0 bs = .ok vk) :
    run (EcdhWire.env #[r]) ⟨none, none, none⟩ [.setCurve (some 0), .genPriv (d : Int), .loadPubBytes bs]
      = ⟨some 0, some sk, some vk⟩ := by
  simp [run, step, viaLoader, hg, hl, loadPrivate, loadPublic, hsk, hvk]

def ExchangeAgrees (hr : r ∈ Gen.curveTable) (dA dB : Nat) (encA encB : PointEnc) : Prop :=
  ∃ (QA QB : Keys.VK) (bytesA bytesB : Bytes),
    QA.toString encA = .ok bytesA ∧ QB.toString encB = .ok bytesB ∧
    let env := EcdhWire.env #[r]
    let C := Named.baseCtx r (Named.checked_of_mem hr)
    let sA := run env ⟨none, none, none⟩ [.setCurve (some 0), .genPriv (dA : Int), .loadPubBytes bytesB]
    let sB := run env ⟨none, none, none⟩ [.setCurve (some 0), .genPriv (dB : Int), .loadPubBytes bytesA]
    (step env sA .secret).2 = (step env sB .secret).2 ∧
    (step env sA .secretBytes).2 = (step env sB .secretBytes).2 ∧
    getSharedSecret env sA = (if ((dA : ℤ) * (dB : ℤ)) • C.G = 0 then .error .invalidSharedSecret
      else .ok (GroupInterface.xOf (((dA : ℤ) * (dB : ℤ)) • C.G)))

/-- `op` loads the private key `k`: generated, or decoded from what C09's round trips say was written -/
def PrivOp (k : Keys.SK) : Op Nat EcdhWire.WPt Int → Prop
  | .genPriv d => d = (k.d : Int)
  | .loadPrivBytes bs => k.toString = .ok bs
  | .loadPrivDer bs => ∃ enc fmt, enc ≠ PointEnc.raw ∧ k.toDer enc fmt = .ok bs
  | .loadPrivPem bs => ∃ enc fmt, enc ≠ PointEnc.raw ∧ k.toPem enc fmt = .ok bs
  | _ => False

def PubOp (q : Keys.VK) : Op Nat EcdhWire.WPt Int → Prop
  | .loadPubBytes bs => ∃ enc, q.toString enc = .ok bs
  | .loadPubDer bs => ∃ enc, enc ≠ PointEnc.raw ∧ q.toDer enc = .ok bs
  | .loadPubPem bs => ∃ enc, enc ≠ PointEnc.raw ∧ q.toPem enc = .ok bs
  | _ => False

/-- `EcdhWire.indexOfCurve` does not find a row named "toy" (the driver's own test curve) -/
theorem table_name_ne_toy : ∀ c ∈ Gen.curveTable, c.name ≠ "toy" := by decide +kernel

omit [Fact r.p.Prime] in
theorem index_self (hr : r ∈ Gen.curveTable) : EcdhWire.indexOfCurve #[r] r = some 0 := by
  have := table_name_ne_toy r hr
  simp [EcdhWire.indexOfCurve, this]

omit [Fact r.p.Prime] in
theorem locate_self {α β} (hr : r ∈ Gen.curveTable) (k : α) (crv : α → Keys.Curve) (f : Nat → α → β) (hk : crv k = r) :
    EcdhWire.locate #[r] (.ok k) crv f = .ok (f 0 k) := by
  simp [EcdhWire.locate, hk, index_self r hr]

theorem priv_step (hr : r ∈ Gen.curveTable) (hn : r.n.Prime) (k : Keys.SK) (hk : SK.fromSecretExponent KeysWire.modelExt r k.d = .ok k)
    (h1 : 1 ≤ k.d ∧ k.d < r.n) (op : Op Nat EcdhWire.WPt Int) (hop : PrivOp k op)
    (s : State Nat EcdhWire.WPt) (hs : s.curve = some 0) :
    (step (EcdhWire.env #[r]) s op).1 = { s with priv := some (EcdhWire.ofKeysSK 0 k) } := by
  obtain ⟨k', e', hc', _, _, _, hstr, _, hrest⟩ := C09.all_round_trips_model r hr Fact.out hn k.d h1.1 h1.2
  obtain rfl : k' = k := by rw [hk] at e'; exact (Except.ok.inj e').symm
  have hcur : (#[r] : Array Keys.Curve)[0]! = r := rfl
  have hloc := locate_self r hr k' (·.curve) EcdhWire.ofKeysSK hc'
  -- a constructor that returns the key: the loader stores it
  have stored : ∀ res : Res EcdhWire.SK, res = .ok (EcdhWire.ofKeysSK 0 k') →
      (viaLoader s res loadPrivate).1 = { s with priv := some (EcdhWire.ofKeysSK 0 k') } := by
    rintro _ rfl; exact congrArg Prod.fst (C05.loadPrivate_same hs)
  cases op with
  | genPriv d =>
    cases hop
    rw [(C05.step_of_curve _ hs _ []).1]
    exact stored _ (by simp only [EcdhWire.env, hcur, hk]; rfl)
  | loadPrivBytes bs =>
    obtain ⟨bs', t1, t2⟩ := hstr
    obtain rfl : bs' = bs := Except.ok.inj (t1.symm.trans hop)
    rw [(C05.step_of_curve _ hs 0 _).2.1]
    exact stored _ (by simp only [EcdhWire.env, hcur, t2]; rfl)
  | loadPrivDer bs =>
    obtain ⟨enc, fmt, henc, t⟩ := hop
    obtain ⟨bs', t1, t2, _⟩ := (hrest enc henc).2 fmt
    obtain rfl : bs' = bs := Except.ok.inj (t1.symm.trans t)
    exact stored _ (by simp only [EcdhWire.env, t2, hloc])
  | loadPrivPem bs =>
    obtain ⟨enc, fmt, henc, t⟩ := hop
    obtain ⟨_, _, _, pem, t1, t2⟩ := (hrest enc henc).2 fmt
    obtain rfl : pem = bs := Except.ok.inj (t1.symm.trans t)
    exact stored _ (by simp only [EcdhWire.env, t2, hloc])
  | _ => exact absurd hop id

theorem pub_step (hr : r ∈ Gen.curveTable) (hn : r.n.Prime) (k : Keys.SK) (hk : SK.fromSecretExponent KeysWire.modelExt r k.d = .ok k)
    (h1 : 1 ≤ k.d ∧ k.d < r.n) (op : Op Nat EcdhWire.WPt Int) (hop : PubOp k.vk op)
    (s : State Nat EcdhWire.WPt) (hs : s.curve = some 0) :
    (step (EcdhWire.env #[r]) s op).1 = { s with pub := some (EcdhWire.ofKeysVK 0 k.vk) } := by
  obtain ⟨k', e', _, _, hvc, _, _, hvstr, hrest⟩ := C09.all_round_trips_model r hr Fact.out hn k.d h1.1 h1.2
  obtain rfl : k' = k := by rw [hk] at e'; exact (Except.ok.inj e').symm
  have hcur : (#[r] : Array Keys.Curve)[0]! = r := rfl
  have hloc := locate_self r hr k'.vk (·.curve) EcdhWire.ofKeysVK hvc
  have stored : ∀ res : Res EcdhWire.VK, res = .ok (EcdhWire.ofKeysVK 0 k'.vk) →
      (viaLoader s res loadPublic).1 = { s with pub := some (EcdhWire.ofKeysVK 0 k'.vk) } := by
    rintro _ rfl; exact congrArg Prod.fst (C05.loadPublic_same hs)
  cases op with
  | loadPubBytes bs =>
    obtain ⟨enc, t⟩ := hop
    obtain ⟨bs', t1, t2⟩ := hvstr enc
    obtain rfl : bs' = bs := Except.ok.inj (t1.symm.trans t)
    rw [(C05.step_of_curve _ hs 0 _).2.2]
    exact stored _ (by simp only [EcdhWire.env, hcur, t2, List.size_toArray, List.length_singleton, Nat.lt_one_iff, if_true]; rfl)
  | loadPubDer bs =>
    obtain ⟨enc, henc, t⟩ := hop
    obtain ⟨bs', t1, t2, _⟩ := (hrest enc henc).1
    obtain rfl : bs' = bs := Except.ok.inj (t1.symm.trans t)
    exact stored _ (by simp only [EcdhWire.env, t2, hloc])
  | loadPubPem bs =>
    obtain ⟨enc, henc, t⟩ := hop
    obtain ⟨_, _, _, pem, t1, t2⟩ := (hrest enc henc).1
    obtain rfl : pem = bs := Except.ok.inj (t1.symm.trans t)
    exact stored _ (by simp only [EcdhWire.env, t2, hloc])
  | _ => exact absurd hop id

/-- `PrivOp`, or a `SigningKey` object of the agreed curve with multiplier `d` handed over -/
def PrivLoad (k : Keys.SK) (op : Op Nat EcdhWire.WPt Int) : Prop :=
  PrivOp k op ∨ ∃ sk : EcdhWire.SK, op = .loadPriv sk ∧ sk.curve = 0 ∧ sk.d = (k.d : Int)

/-- `PubOp`, or a `VerifyingKey` object handed over whose stored point denotes `d • G` in any representation (any Z,
declared order n or none), not only the one the library's constructors build -/
def PubLoad (hr : r ∈ Gen.curveTable) (k : Keys.SK) (op : Op Nat EcdhWire.WPt Int) : Prop :=
  PubOp k.vk op ∨ ∃ vk : EcdhWire.VK, op = .loadPub vk ∧ vk.curve = 0 ∧
    C05g.KeyPoint (Named.baseCtx r (Named.checked_of_mem hr)) vk.point (((k.d : ℕ) : ℤ) • (Named.baseCtx r (Named.checked_of_mem hr)).G)

theorem keyPoint_of (hr : r ∈ Gen.curveTable) (hn : r.n.Prime) (k : Keys.SK)
    (hk : SK.fromSecretExponent KeysWire.modelExt r k.d = .ok k) (h1 : 1 ≤ k.d ∧ k.d < r.n) :
    C05g.KeyPoint (ctx r hr) (EcdhWire.ofKeysVK 0 k.vk).point
      (((k.d : ℕ) : ℤ) • (ctx r hr).G) := by
  obtain ⟨x, y, px, vx, rx⟩ := pubKey_denotes r hr hn k.d h1.1 h1.2
  rw [show k = ⟨r, k.d, ⟨r, x, y⟩⟩ from Except.ok.inj (hk.symm.trans (fromSecexp_ok r k.d x y h1.1 h1.2 px vx))]
  exact ⟨_, rfl, rx, Or.inl rfl⟩

theorem priv_load_step (hr : r ∈ Gen.curveTable) (hn : r.n.Prime) (k : Keys.SK) (hk : SK.fromSecretExponent KeysWire.modelExt r k.d = .ok k)
    (h1 : 1 ≤ k.d ∧ k.d < r.n) (op : Op Nat EcdhWire.WPt Int) (hop : PrivLoad k op)
    (s : State Nat EcdhWire.WPt) (hs : s.curve = some 0) :
    ∃ sk : EcdhWire.SK, (step (EcdhWire.env #[r]) s op).1 = { s with priv := some sk } ∧ sk.curve = 0 ∧ sk.d = (k.d : Int) := by
  rcases hop with hop | ⟨sk, rfl, hc, hd⟩
  · exact ⟨EcdhWire.ofKeysSK 0 k, priv_step r hr hn k hk h1 op hop s hs, rfl, rfl⟩
  · exact ⟨sk, congrArg Prod.fst (C05.loadPrivate_same (hc ▸ hs)), hc, hd⟩

theorem pub_load_step (hr : r ∈ Gen.curveTable) (hn : r.n.Prime) (k : Keys.SK) (hk : SK.fromSecretExponent KeysWire.modelExt r k.d = .ok k)
    (h1 : 1 ≤ k.d ∧ k.d < r.n) (op : Op Nat EcdhWire.WPt Int) (hop : PubLoad r hr k op)
    (s : State Nat EcdhWire.WPt) (hs : s.curve = some 0) :
    ∃ vk : EcdhWire.VK, (step (EcdhWire.env #[r]) s op).1 = { s with pub := some vk } ∧ vk.curve = 0 ∧
      C05g.KeyPoint (ctx r hr) vk.point (((k.d : ℕ) : ℤ) • (ctx r hr).G) := by
  rcases hop with hop | ⟨vk, rfl, hc, hd⟩
  · exact ⟨EcdhWire.ofKeysVK 0 k.vk, pub_step r hr hn k hk h1 op hop s hs, rfl, keyPoint_of r hr hn k hk h1⟩
  · exact ⟨vk, congrArg Prod.fst (C05.loadPublic_same (hc ▸ hs)), hc, hd⟩

/-- a party's calls: `set_curve`, then its two loaders in either order -/
def calls (privFirst : Bool) (opP opQ : Op Nat EcdhWire.WPt Int) : List (Op Nat EcdhWire.WPt Int) :=
  if privFirst then [.setCurve (some 0), opP, opQ] else [.setCurve (some 0), opQ, opP]

theorem party_state_all (hr : r ∈ Gen.curveTable) (hn : r.n.Prime) (k k' : Keys.SK)
    (hk : SK.fromSecretExponent KeysWire.modelExt r k.d = .ok k) (h1 : 1 ≤ k.d ∧ k.d < r.n)
    (hk' : SK.fromSecretExponent KeysWire.modelExt r k'.d = .ok k') (h1' : 1 ≤ k'.d ∧ k'.d < r.n)
    (pf : Bool) (opP opQ : Op Nat EcdhWire.WPt Int) (hP : PrivLoad k opP) (hQ : PubLoad r hr k' opQ) :
    ∃ (sk : EcdhWire.SK) (vk : EcdhWire.VK),
      run (EcdhWire.env #[r]) ⟨none, none, none⟩ (calls pf opP opQ) = ⟨some 0, some sk, some vk⟩ ∧ sk.curve = 0 ∧ sk.d = (k.d : Int) ∧
      vk.curve = 0 ∧ C05g.KeyPoint (ctx r hr) vk.point
        (((k'.d : ℕ) : ℤ) • (ctx r hr).G) := by
  cases pf with
  | true =>
    obtain ⟨sk, s1, c1, d1⟩ := priv_load_step r hr hn k hk h1 opP hP ⟨some 0, none, none⟩ rfl
    obtain ⟨vk, s2, c2, kp⟩ := pub_load_step r hr hn k' hk' h1' opQ hQ ⟨some 0, some sk, none⟩ rfl
    refine ⟨sk, vk, ?_, c1, d1, c2, kp⟩
    show run (EcdhWire.env #[r]) (step (EcdhWire.env #[r]) (step (EcdhWire.env #[r]) ⟨some 0, none, none⟩ opP).1 opQ).1 [] = _
    rw [s1, s2]; rfl
  | false =>
    obtain ⟨vk, s1, c2, kp⟩ := pub_load_step r hr hn k' hk' h1' opQ hQ ⟨some 0, none, none⟩ rfl
    obtain ⟨sk, s2, c1, d1⟩ := priv_load_step r hr hn k hk h1 opP hP ⟨some 0, none, some vk⟩ rfl
    refine ⟨sk, vk, ?_, c1, d1, c2, kp⟩
    show run (EcdhWire.env #[r]) (step (EcdhWire.env #[r]) (step (EcdhWire.env #[r]) ⟨some 0, none, none⟩ opQ).1 opP).1 [] = _
    rw [s1, s2]; rfl

/-- `opPA`, `opQA` are A's calls that load its private key and B's public key, `opPB`, `opQB` likewise for B, in either
order (`pfA`, `pfB`).  Both obtain x((d_A d_B)•G) and the same bytes: its big-endian digits left-padded to ⌈bitlen p / 8⌉. -/
def ExchangeAgreesAll (hr : r ∈ Gen.curveTable) (dA dB : Nat) : Prop :=
  ∃ kA kB : Keys.SK, kA.d = dA ∧ kB.d = dB ∧
    SK.fromSecretExponent KeysWire.modelExt r dA = .ok kA ∧ SK.fromSecretExponent KeysWire.modelExt r dB = .ok kB ∧
    ∀ (pfA pfB : Bool) opPA opQA opPB opQB, PrivLoad kA opPA → PubLoad r hr kB opQA → PrivLoad kB opPB → PubLoad r hr kA opQB →
      let env := EcdhWire.env #[r]
      let C := Named.baseCtx r (Named.checked_of_mem hr)
      let sA := run env ⟨none, none, none⟩ (calls pfA opPA opQA)
      let sB := run env ⟨none, none, none⟩ (calls pfB opPB opQB)
      let v := GroupInterface.xOf (((dA : ℤ) * (dB : ℤ)) • C.G)
      let L := (bitLength r.p + 7) / 8
      (step env sA .secret).2 = (step env sB .secret).2 ∧
      (step env sA .secretBytes).2 = (step env sB .secretBytes).2 ∧
      getSharedSecret env sA = (if ((dA : ℤ) * (dB : ℤ)) • C.G = 0 then .error .invalidSharedSecret else .ok v) ∧
      (((dA : ℤ) * (dB : ℤ)) • C.G ≠ 0 →
        (step env sA .secretBytes).2 = .ok (.bytes (beFixed L v.toNat)) ∧
        (step env sB .secretBytes).2 = .ok (.bytes (beFixed L v.toNat)) ∧
        (beFixed L v.toNat).length = L ∧ (beVal (beFixed L v.toNat) : ℤ) = v)

/-- **named_exchange_agrees_all_loaders** — the exchange theorem for every combination of loaders: private key generated,
loaded from bytes / DER (ssleay, PKCS#8) / PEM or given as an object; peer's public key loaded from raw / uncompressed /
compressed / hybrid bytes, DER, PEM or given as an object; with the explicit value of the shared bytes -/
theorem named_exchange_agrees_all_loaders (hr : r ∈ Gen.curveTable) (hn : r.n.Prime) (dA dB : Nat)
    (hA : 1 ≤ dA ∧ dA < r.n) (hB : 1 ≤ dB ∧ dB < r.n) : ExchangeAgreesAll r hr dA dB := by
  obtain ⟨xA, yA, pA, vA, rA⟩ := pubKey_denotes r hr hn dA hA.1 hA.2
  obtain ⟨xB, yB, pB, vB, rB⟩ := pubKey_denotes r hr hn dB hB.1 hB.2
  have eA := fromSecexp_ok r dA xA yA hA.1 hA.2 pA vA
  have eB := fromSecexp_ok r dB xB yB hB.1 hB.2 pB vB
  refine ⟨⟨r, dA, ⟨r, xA, yA⟩⟩, ⟨r, dB, ⟨r, xB, yB⟩⟩, rfl, rfl, eA, eB, ?_⟩
  intro pfA pfB opPA opQA opPB opQB hPA hQA hPB hQB env C sA sB v L
  -- the two states
  obtain ⟨skA, vkB, stA, cA, dAe, cvB, kpB⟩ := party_state_all r hr hn ⟨r, dA, ⟨r, xA, yA⟩⟩ ⟨r, dB, ⟨r, xB, yB⟩⟩ eA hA eB hB pfA opPA opQA hPA hQA
  obtain ⟨skB, vkA, stB, cB, dBe, cvA, kpA⟩ := party_state_all r hr hn ⟨r, dB, ⟨r, xB, yB⟩⟩ ⟨r, dA, ⟨r, xA, yA⟩⟩ eB hB eA hA pfB opPB opQB hPB hQB
  change sA = _ at stA
  change sB = _ at stB
  have hp2 : r.p ≠ 2 := (Named.matches_row (Named.checked_of_mem hr) hn).hp2
  have hu := C05g.driver_uses_curve_model #[r]
  simp only at dAe dBe kpA kpB
  rw [← dAe] at kpA
  rw [← dBe] at kpB
  have agA : C05.Agreed sA skA vkB := by
    rw [stA]; exact ⟨rfl, rfl, by rw [cA], by rw [cvB, cA]⟩
  have agB : C05.Agreed sB skB vkA := by
    rw [stB]; exact ⟨rfl, rfl, by rw [cB], by rw [cvA, cB]⟩
  obtain ⟨h1, h2, h3, h4⟩ := C05g.shared_secret_value hp2 C env hu sA sB skA skB vkA vkB agA agB (cA.trans cB.symm) kpA kpB
  rw [dAe, dBe] at h3 h4
  refine ⟨by rw [h1], by rw [h2], h3, ?_⟩
  intro hne
  have hv : getSharedSecret env sA = .ok v := by rw [h3, if_neg hne]
  have hfp : env.fieldP skA.curve = r.p := by rw [cA]; rfl
  have key := C05b.secret_bytes env sA v skA (by rw [stA]) hv h4.1 (by rw [hfp]; exact h4.2)
  simp only [hfp] at key
  have bA : (step env sA .secretBytes).2 = .ok (.bytes (beFixed L v.toNat)) := by rw [key.1]
  refine ⟨bA, ?_, key.2.1, ?_⟩
  · rw [← bA, h2]
  · rw [key.2.2]; exact Int.toNat_of_nonneg h4.1

/-- **named_exchange_agrees** — on every curve of the generated table (p, n prime), for all d_A, d_B ∈ [1, n-1] and all
point encodings: A and B build their keys, send `to_string(enc)` of their public keys, load the other's bytes — and then
`generate_sharedsecret()` returns the same result on both sides, `generate_sharedsecret_bytes()` the same bytes, and the
integer is the x-coordinate of (d_A d_B) • G (an `InvalidSharedSecretError` on both sides iff that point is the identity). -/
theorem named_exchange_agrees (hr : r ∈ Gen.curveTable) (hn : r.n.Prime) (dA dB : Nat)
    (hA : 1 ≤ dA ∧ dA < r.n) (hB : 1 ≤ dB ∧ dB < r.n) (encA encB : PointEnc) :
    ExchangeAgrees r hr dA dB encA encB := by
  obtain ⟨kA, kB, hdA, hdB, eA, eB, H⟩ := named_exchange_agrees_all_loaders r hr hn dA dB hA hB
  -- the bytes the two public keys travel as
  obtain ⟨_, eA', _, _, _, _, _, strA, _⟩ := C09.all_round_trips_model r hr Fact.out hn dA hA.1 hA.2
  obtain ⟨_, eB', _, _, _, _, _, strB, _⟩ := C09.all_round_trips_model r hr Fact.out hn dB hB.1 hB.2
  obtain rfl := Except.ok.inj (eA'.symm.trans eA)
  obtain rfl := Except.ok.inj (eB'.symm.trans eB)
  obtain ⟨bytesA, tA, _⟩ := strA encA
  obtain ⟨bytesB, tB, _⟩ := strB encB
  obtain ⟨h1, h2, h3, _⟩ := H true true (.genPriv dA) (.loadPubBytes bytesB) (.genPriv dB) (.loadPubBytes bytesA)
    (.inl (congrArg Nat.cast hdA.symm)) (.inl ⟨encB, tB⟩) (.inl (congrArg Nat.cast hdB.symm)) (.inl ⟨encA, tA⟩)
  exact ⟨_, _, bytesA, bytesB, tA, tB, h1, h2, h3⟩

/-- non-vacuity of the object clauses -/
theorem object_loaders_inhabited (hr : r ∈ Gen.curveTable) (hn : r.n.Prime) (k : Keys.SK)
    (hk : SK.fromSecretExponent KeysWire.modelExt r k.d = .ok k) (h1 : 1 ≤ k.d ∧ k.d < r.n) :
    PrivLoad k (.loadPriv (EcdhWire.ofKeysSK 0 k)) ∧ ¬ PrivOp k (.loadPriv (EcdhWire.ofKeysSK 0 k)) ∧
    PubLoad r hr k (.loadPub (EcdhWire.ofKeysVK 0 k.vk)) ∧ ¬ PubOp k.vk (.loadPub (EcdhWire.ofKeysVK 0 k.vk)) := by
  exact ⟨Or.inr ⟨_, rfl, rfl, rfl⟩, id, Or.inr ⟨_, rfl, rfl, keyPoint_of r hr hn k hk h1⟩, id⟩

open Named in
/-- **P-256, unconditional** -/
theorem nist256p_exchange_agrees (dA dB : Nat) (hA : 1 ≤ dA ∧ dA < Gen.curve_NIST256p.n)
    (hB : 1 ≤ dB ∧ dB < Gen.curve_NIST256p.n) (encA encB : PointEnc) :
    ExchangeAgrees Gen.curve_NIST256p mem_NIST256p dA dB encA encB :=
  named_exchange_agrees Gen.curve_NIST256p mem_NIST256p NamedPrimes.prime_n_NIST256p dA dB hA hB encA encB

open Named in
/-- **secp256k1, unconditional** -/
theorem secp256k1_exchange_agrees (dA dB : Nat) (hA : 1 ≤ dA ∧ dA < Gen.curve_SECP256k1.n)
    (hB : 1 ≤ dB ∧ dB < Gen.curve_SECP256k1.n) (encA encB : PointEnc) :
    ExchangeAgrees Gen.curve_SECP256k1 mem_SECP256k1 dA dB encA encB :=
  named_exchange_agrees Gen.curve_SECP256k1 mem_SECP256k1 NamedPrimes.prime_n_SECP256k1 dA dB hA hB encA encB

open Named in
/-- **SECP112r2 (cofactor 4), unconditional**: honest exchanges agree there too (K2 concerns dishonest remote keys) -/
theorem secp112r2_exchange_agrees (dA dB : Nat) (hA : 1 ≤ dA ∧ dA < Gen.curve_SECP112r2.n)
    (hB : 1 ≤ dB ∧ dB < Gen.curve_SECP112r2.n) (encA encB : PointEnc) :
    ExchangeAgrees Gen.curve_SECP112r2 mem_SECP112r2 dA dB encA encB :=
  named_exchange_agrees Gen.curve_SECP112r2 mem_SECP112r2 NamedPrimes.prime_n_SECP112r2 dA dB hA hB encA encB

open Named in
/-- **P-256, unconditional, every loader** -/
theorem nist256p_exchange_agrees_all_loaders (dA dB : Nat) (hA : 1 ≤ dA ∧ dA < Gen.curve_NIST256p.n)
    (hB : 1 ≤ dB ∧ dB < Gen.curve_NIST256p.n) : ExchangeAgreesAll Gen.curve_NIST256p mem_NIST256p dA dB :=
  named_exchange_agrees_all_loaders Gen.curve_NIST256p mem_NIST256p NamedPrimes.prime_n_NIST256p dA dB hA hB

/-- **every loader, every curve of the table**: p and n carry kernel-checked primality certificates, n • G = 0 is checked by
kernel evaluation; no hypothesis about the curve is left -/
theorem exchange_agrees_all_loaders_unconditional (r : Gen.CurveRow) (hr : r ∈ NamedPrimes.unconditionalCurves) (dA dB : Nat)
    (hA : 1 ≤ dA ∧ dA < r.n) (hB : 1 ≤ dB ∧ dB < r.n) :
    haveI : Fact r.p.Prime := ⟨(NamedPrimes.unconditional_subset r hr).2.1⟩
    ExchangeAgreesAll r (NamedPrimes.unconditional_subset r hr).1 dA dB := by
  have : Fact r.p.Prime := ⟨(NamedPrimes.unconditional_subset r hr).2.1⟩
  exact named_exchange_agrees_all_loaders r (NamedPrimes.unconditional_subset r hr).1 (NamedPrimes.unconditional_subset r hr).2.2 dA dB hA hB

/-- all 17 curves, among them one with cofactor 4 -/
example : NamedPrimes.unconditionalCurves.length = 17 ∧ Gen.curve_SECP112r2 ∈ NamedPrimes.unconditionalCurves ∧
    Gen.curve_BRAINPOOLP320r1 ∈ NamedPrimes.unconditionalCurves := by
  refine ⟨rfl, ?_, ?_⟩ <;> simp [NamedPrimes.unconditionalCurves]

example : (1 ≤ 1 ∧ 1 < Gen.curve_NIST256p.n) ∧ (1 ≤ 2 ∧ 2 < Gen.curve_NIST256p.n) := by decide

def k1 : Keys.SK := ⟨Gen.curve_NIST256p, 1, ⟨Gen.curve_NIST256p, Gen.curve_NIST256p.gx, Gen.curve_NIST256p.gy⟩⟩

/-- non-vacuity of `PrivOp` / `PubOp`: the serialisers succeed (kernel evaluation) -/
example : (∃ bs, PrivOp k1 (.loadPrivDer bs)) ∧ (∃ bs, PubOp k1.vk (.loadPubPem bs)) ∧ (∃ bs, PrivOp k1 (.loadPrivBytes bs)) := by
  have h1 : (match k1.toDer .compressed .pkcs8 with | .ok _ => true | .error _ => false) = true := by decide +kernel
  have h2 : (match k1.vk.toPem .hybrid with | .ok _ => true | .error _ => false) = true := by decide +kernel
  have h3 : (match k1.toString with | .ok _ => true | .error _ => false) = true := by decide +kernel
  refine ⟨?_, ?_, ?_⟩
  · cases h : k1.toDer .compressed .pkcs8 with
    | ok bs => exact ⟨bs, .compressed, .pkcs8, by decide, h⟩
    | error e => rw [h] at h1; cases h1
  · cases h : k1.vk.toPem .hybrid with
    | ok bs => exact ⟨bs, .hybrid, by decide, h⟩
    | error e => rw [h] at h2; cases h2
  · cases h : k1.toString with
    | ok bs => exact ⟨bs, h⟩
    | error e => rw [h] at h3; cases h3

end C05x
