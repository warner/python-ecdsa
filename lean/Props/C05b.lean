import Props.C05
import Proofs.UtilNum
/-!
# C05 (bytes half) — `secret_bytes` with the `number_to_string` facts discharged

The hypothesis structure of `C05.secret_bytes_of_facts` is filled in, and the length is given in the property's own
words: ⌈bitlen p / 8⌉.
-/
namespace C05b
open Ecdh

theorem number_to_string_facts : C05.NumberToStringFacts where
  n2s := Util.numberToString_eq
  lt_pow := fun _ _ h => Util.lt_pow_orderlen_of_lt h
  len := beFixed_length
  val := beVal_beFixed_of_lt
  uniq := Util.orderlen_unique

/-- Python's `int.bit_length` -/
theorem bitLength_spec (n : Nat) : n < 2 ^ bitLength n ∧ (0 < n → 2 ^ (bitLength n - 1) ≤ n) :=
  ⟨lt_two_pow_bitLength n, two_pow_bitLength_le n⟩

theorem orderlen_eq_ceil_bitlen (p : Nat) (hp : 1 ≤ p) : Util.orderlen p = (bitLength p + 7) / 8 :=
  Util.orderlen_eq_bitLength p hp

variable {Crv Pt Ent : Type} [DecidableEq Crv]

/-- **secret_bytes** — whenever `generate_sharedsecret()` returns `v` with `0 ≤ v < p` (p = the field prime of the agreed
curve), `generate_sharedsecret_bytes()` returns exactly the big-endian bytes of `v` left-padded with zeros to
`L = ⌈bitlen p / 8⌉` bytes; the length does not depend on `v`, and `v` is recovered from the bytes. -/
theorem secret_bytes (env : Env Crv Pt Ent) (s : State Crv Pt) (v : Int) (sk : SKey Crv Pt) (hs : s.priv = some sk)
    (hv : getSharedSecret env s = .ok v) (h0 : 0 ≤ v) (hp : v < (env.fieldP sk.curve : Int)) :
    let p := env.fieldP sk.curve
    let L := (bitLength p + 7) / 8
    step env s .secretBytes = (s, .ok (.bytes (beFixed L v.toNat))) ∧
    (beFixed L v.toNat).length = L ∧ beVal (beFixed L v.toNat) = v.toNat := by
  have hp1 : 1 ≤ env.fieldP sk.curve := by omega
  have key := C05.secret_bytes_of_facts number_to_string_facts env s v sk hs hv h0 hp
  simp only [orderlen_eq_ceil_bitlen _ hp1] at key
  exact ⟨key.1, key.2.1, key.2.2.1⟩

/-- non-vacuity: field prime 1009, two bytes: the secret 6 is `00 06` -/
example : (step C05.Toy.env (run C05.Toy.env C05.Toy.fresh [.loadPriv C05.Toy.skA, .loadPub C05.Toy.skB.vk]) .secretBytes).2
    = .ok (.bytes [0, 6]) ∧ (bitLength 1009 + 7) / 8 = 2 := by
  have hL : (bitLength 1009 + 7) / 8 = 2 := by
    rw [← orderlen_eq_ceil_bitlen 1009 (by decide)]
    exact Util.orderlen_unique 1009 2 (by decide) (by decide) (by decide)
  have key := secret_bytes C05.Toy.env (run C05.Toy.env C05.Toy.fresh [.loadPriv C05.Toy.skA, .loadPub C05.Toy.skB.vk])
    6 C05.Toy.skA rfl rfl (by decide) (by decide)
  simp only [show C05.Toy.env.fieldP C05.Toy.skA.curve = 1009 from rfl, hL] at key
  refine ⟨?_, hL⟩
  rw [key.1]
  rfl

end C05b
