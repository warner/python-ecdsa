import Proofs.KeysTie
/-!
# C09t — translator tie of `Model/Keys.lean` to the text of keys.py / curves.py / der.py (PEM) / ecdsa.point_is_valid

`Gen.KeysT.*` (Generated/KeysSlices.lean) is regenerated from the working tree on every run by
`harness/translate/gen_keys.py`: every statement of every function the model transcribes is pinned textually
(signature and defaults, byte-level work, DER calls, exception classes, delegation and its arguments — `Unsupported`
on any other shape), and the integer / boolean decisions inside them are cut out as definitions.  The theorems below
restate each model function with those generated decisions in place of its own tests.
(`Gen.Ecdsa.pubkey_*`, `secexp_bad` are the slices of gen_ecdsa.py for `Public_key.__init__` / `from_secret_exponent`.)
-/
namespace C09t
open Keys Gen.KeysT KeysTie

theorem from_string_dispatch_is_source (E : Ext) (c : Curve) (s : Bytes) (validate : Bool) :
    decodePoint E c s validate =
      if from_string_raw s.length c.vkLen then
        (fromRawEncoding c s).map fun (x, y) => ((x : Int), (y : Int))
      else if from_string_prefixed s.length c.vkLen then
        if s.take 1 = [0x06] ∨ s.take 1 = [0x07] then
          (fromHybrid c s validate).map fun (x, y) => ((x : Int), (y : Int))
        else if s.take 1 = [0x04] then
          (fromRawEncoding c (s.drop 1)).map fun (x, y) => ((x : Int), (y : Int))
        else .error .malformedPoint
      else if from_string_compressed s.length c.vkLen then fromCompressed E c s
      else .error .malformedPoint := by
  unfold decodePoint
  simp only [from_string_raw, eq_nat, from_string_prefixed_nat, from_string_compressed_nat, decide_eq_true_eq]

/-- non-vacuity: on NIST192p (vkl = 48) the three accepted lengths are 48, 49, 25 -/
example : from_string_raw 48 48 = true ∧ from_string_prefixed 49 48 = true ∧ from_string_compressed 25 48 = true ∧
    from_string_compressed 24 48 = false := by decide

theorem raw_encoding_is_source (c : Curve) (s : Bytes) :
    fromRawEncoding c s =
      if ¬ raw_len_ok s.length c.vkLen then .error .assertionError
      else
        let xs := s.take (raw_split_x c.vkLen).toNat
        let ys := s.drop (raw_split_y c.vkLen).toNat
        if ¬ raw_xs_ok xs.length c.vkLen then .error .assertionError
        else if ¬ raw_ys_ok ys.length c.vkLen then .error .assertionError
        else (Util.stringToNumber xs).bind fun x => (Util.stringToNumber ys).bind fun y => .ok (x, y) := by
  unfold fromRawEncoding
  simp only [raw_len_ok, eq_nat, raw_split_x, half_toNat, raw_split_y, raw_xs_ok, eq_half_nat, raw_ys_ok, decide_eq_true_eq]
  congr

theorem compressed_is_source (E : Ext) (c : Curve) (s : Bytes) (x : Nat) :
    alphaOf c x = compressed_alpha x c.p c.a c.b ∧
    fromCompressed E c s =
      if s.take 1 ≠ [0x02] ∧ s.take 1 ≠ [0x03] then .error .malformedPoint
      else
        let isEven : Bool := s.take 1 = [0x02]
        match Util.stringToNumber (s.drop 1) with
        | .error e => .error e
        | .ok x =>
          if c.p = 0 then .error .valueError
          else
          match E.sqrtModP (compressed_alpha x c.p c.a c.b) c.p with
          | .error .squareRoot => .error .malformedPoint
          | .error e => .error e
          | .ok beta =>
            let y : Int := if isEven = compressed_beta_odd beta then compressed_y_flip c.p beta else beta
            .ok ((x : Int), y) := ⟨rfl, rfl⟩

/-- non-vacuity: y² = x³ − 3x + b at x = 2 on a toy field, and the flip `p − β` -/
example : compressed_alpha 2 23 (-3) 5 = 7 ∧ compressed_beta_odd 7 = true ∧ compressed_y_flip 23 7 = 16 := by decide

theorem hybrid_is_source (c : Curve) (s : Bytes) (validate : Bool) :
    fromHybrid c s validate =
      if s.take 1 ≠ [0x06] ∧ s.take 1 ≠ [0x07] then .error .assertionError
      else
        match fromRawEncoding c (s.drop 1) with
        | .error e => .error e
        | .ok (x, y) =>
          if validate ∧ ((hybrid_y_odd y ∧ s.take 1 ≠ [0x07]) ∨ (¬ hybrid_y_odd2 y ∧ s.take 1 ≠ [0x06])) then .error .malformedPoint
          else .ok (x, y) := by
  unfold fromHybrid
  simp only [hybrid_y_odd, hybrid_y_odd2, y_odd_nat, decide_eq_true_eq]
  congr

theorem encoders_are_source (k : VK) :
    (k.compressedEncode = (Util.numberToString k.x k.curve.p).bind fun xs =>
      if compressed_encode_y_odd k.y then .ok (0x03 :: xs) else .ok (0x02 :: xs)) ∧
    (k.hybridEncode = k.rawEncode.bind fun raw =>
      if hybrid_encode_y_odd k.y then .ok (0x07 :: raw) else .ok (0x06 :: raw)) := by
  constructor
  · unfold VK.compressedEncode; simp only [compressed_encode_y_odd, y_odd_nat, decide_eq_true_eq]; congr
  · unfold VK.hybridEncode; simp only [hybrid_encode_y_odd, y_odd_nat, decide_eq_true_eq]; congr

theorem vk_from_der_is_source (E : Ext) (str : Bytes) :
    VK.fromDer E str = (do
      let (s1, empty) ← Der.removeSequence str
      if empty ≠ [] then .error .unexpectedDER
      else do
        let (s2, pointStrBitstring) ← Der.removeSequence s1
        let (oidPk, rest) ← Der.removeObject s2
        let (oidCurve, empty) ← Der.removeObject rest
        if empty ≠ [] then .error .unexpectedDER
        else if oidPk ≠ Gen.oid_ecPublicKey then .error .unexpectedDER
        else do
          let curve ← findCurve oidCurve
          let (pointStr, _, empty) ← Der.removeBitstring pointStrBitstring (.some 0)
          if empty ≠ [] then .error .unexpectedDER
          else if vk_der_raw_len pointStr.length curve.vkLen then .error .unexpectedDER
          else VK.fromString E curve pointStr true) := by
  unfold VK.fromDer
  simp only [vk_der_raw_len, eq_nat, decide_eq_true_eq]

theorem public_key_init_is_source (E : Ext) (c : Curve) (x y : Int) (validate : Bool) :
    fromPublicPoint E c x y validate =
      if Gen.Ecdsa.pubkey_x_out x c.p ∨ Gen.Ecdsa.pubkey_y_out y c.p then .error .malformedPoint
      else if validate ∧ ¬ onCurve c x y then .error .malformedPoint
      else if Gen.Ecdsa.pubkey_no_order c.n then .error .malformedPoint
      else if validate ∧ c.h ≠ 1 ∧ ¬ E.subgroupOk c x.toNat y.toNat then .error .malformedPoint
      else .ok ⟨c, x.toNat, y.toNat⟩ := by
  unfold fromPublicPoint Gen.Ecdsa.pubkey_x_out Gen.Ecdsa.pubkey_y_out Gen.Ecdsa.pubkey_no_order
  simp only [not_in_range, decide_eq_true_eq, Int.natCast_eq_zero]

theorem point_is_valid_is_source (E : Ext) (c : Curve) (x y : Int) :
    pointIsValid E c x y =
      if piv_x_out x c.p ∨ piv_y_out y c.p then false
      else if ¬ onCurve c x y then false
      else if c.h ≠ 1 ∧ ¬ E.subgroupOk c x.toNat y.toNat then false
      else true := by
  unfold pointIsValid piv_x_out piv_y_out
  simp only [not_in_range]

theorem sk_from_string_is_source (E : Ext) (c : Curve) (s : Bytes) :
    SK.fromString E c s =
      if sk_len_bad s.length c.baselen then .error .malformedPoint
      else
        match Util.stringToNumber s with
        | .error e => .error e
        | .ok secexp => SK.fromSecretExponent E c secexp := by
  unfold SK.fromString
  simp only [sk_len_bad_nat, decide_eq_true_eq]
  congr

theorem sk_from_secret_exponent_is_source (E : Ext) (c : Curve) (secexp : Int) :
    SK.fromSecretExponent E c secexp =
      if Gen.Ecdsa.secexp_bad secexp c.n then .error .malformedPoint
      else
        match E.pubPoint c secexp.toNat with
        | none => .error .malformedPoint
        | some (x, y) =>
          match fromPublicPoint E c x y false with
          | .error e => .error e
          | .ok vk => .ok ⟨c, secexp.toNat, vk⟩ := by
  unfold SK.fromSecretExponent Gen.Ecdsa.secexp_bad
  simp only [not_in_range]
  rfl

theorem sk_from_der_is_source (E : Ext) (str : Bytes) (version : Nat) (s : Bytes) (curve : Option Curve) :
    (SK.fromDer E str = (do
      let (s, empty) ← Der.removeSequence str
      if empty ≠ [] then .error .unexpectedDER
      else do
        let (version, s) ← Der.removeInteger s
        if isSequence s then
          if sk_der_pkcs8_version_bad version then .error .unexpectedDER
          else do
            let (sequence, s) ← Der.removeSequence s
            let (algorithmOid, algorithmIdentifier) ← Der.removeObject sequence
            let (curveOid, empty) ← Der.removeObject algorithmIdentifier
            let curve ← findCurve curveOid
            if algorithmOid ≠ Gen.oid_ecPublicKey ∧ algorithmOid ≠ Gen.oid_ecDH ∧ algorithmOid ≠ Gen.oid_ecMQV then
              .error .unexpectedDER
            else if empty ≠ [] then .error .unexpectedDER
            else do
              let (s, _) ← Der.removeOctetString s
              let (s, empty) ← Der.removeSequence s
              if empty ≠ [] then .error .unexpectedDER
              else do
                let (version, s) ← Der.removeInteger s
                SK.ecPrivateKeyTail E version s (some curve)
        else SK.ecPrivateKeyTail E version s none)) ∧
    (SK.ecPrivateKeyTail E version s curve =
      (if sk_der_version_bad version then .error .unexpectedDER
      else do
        let (privkeyStr, s) ← Der.removeOctetString s
        let curve ← (match curve with
          | some c => (.ok c : Res Curve)
          | none => do
            let (tag, curveOidStr, _) ← Der.removeConstructed s
            if sk_der_tag_bad tag then .error .unexpectedDER
            else do
              let (curveOid, empty) ← Der.removeObject curveOidStr
              if empty ≠ [] then .error .unexpectedDER
              else findCurve curveOid)
        let privkeyStr :=
          if sk_der_short privkeyStr.length curve.baselen then List.replicate (sk_der_pad privkeyStr.length curve.baselen).toNat 0 ++ privkeyStr
          else privkeyStr
        SK.fromString E curve privkeyStr)) := by
  constructor
  · unfold SK.fromDer
    simp only [sk_der_pkcs8_version_bad_nat, decide_eq_true_eq]
  · unfold SK.ecPrivateKeyTail
    simp only [sk_der_version_bad_nat, sk_der_tag_bad_nat, sk_der_short_nat, sk_der_pad_nat, decide_eq_true_eq]
    rfl

/-- non-vacuity: PKCS#8 accepts versions 0 and 1 only, ECPrivateKey version 1 only; a 23-byte key on a 24-byte curve gets one zero -/
example : sk_der_pkcs8_version_bad 0 = false ∧ sk_der_pkcs8_version_bad 1 = false ∧ sk_der_pkcs8_version_bad 2 = true ∧
    sk_der_version_bad 0 = true ∧ sk_der_version_bad 1 = false ∧ sk_der_short 23 24 = true ∧ sk_der_pad 23 24 = 1 := by decide

theorem curve_lengths_are_source (c : Curve) :
    (c.baselen : Int) = curve_baselen c.n orderlenInt ∧
    (c.vkLen : Int) = curve_vkl c.p orderlenInt ∧
    ((2 * c.baselen : Nat) : Int) = curve_siglen c.baselen := by
  refine ⟨rfl, ?_, ?_⟩
  · unfold Curve.vkLen curve_vkl orderlenInt; simp
  · unfold curve_siglen; simp

theorem pem_line_length_is_source (s : Bytes) :
    chunk64 s = if s = [] then [] else s.take pem_line_len.toNat ++ [10] ++ chunk64 (s.drop pem_line_step.toNat) := by
  rw [chunk64]; rfl

end C09t
