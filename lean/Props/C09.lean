import Proofs.KeysPem
import Proofs.KeysInstPub
/-!
# C09 — keys round-trip through every serialisation and emit exact standard DER

Facts about the *generated* tables (`Generated/Curves.lean`, rewritten from the working tree on every run) by kernel
evaluation; then the raw-string layer, DER, PEM, and everything together on the composed model.
-/
namespace C09
open Keys KeysP Gen Asn1Spec

/-! ## the curve / OID tables of the working tree (`decide +kernel` on the generated definitions) -/

theorem oids_pairwise_distinct : (curveTable.map (·.oid)).Nodup := table_oids_nodup

theorem names_pairwise_distinct : (curveTable.map (·.name)).Nodup := by decide +kernel

theorem find_curve_table : ∀ c ∈ curveTable, findCurve c.oid = .ok c := table_findCurve

theorem curve_oids_not_algorithm_oids :
    ∀ c ∈ curveTable, c.oid ≠ oid_ecPublicKey ∧ c.oid ≠ oid_ecDH ∧ c.oid ≠ oid_ecMQV := by decide +kernel

theorem generator_on_curve : ∀ c ∈ curveTable, onCurve c c.gx c.gy = true := by decide +kernel

theorem discriminant_nonzero : ∀ c ∈ curveTable, Int.fmod (4 * c.a ^ 3 + 27 * c.b ^ 2) c.p ≠ 0 := by decide +kernel

theorem table_sanity : ∀ c ∈ curveTable, c.p % 2 = 1 ∧ c.n ≠ 0 ∧ c.gx < c.p ∧ c.gy < c.p ∧ 0 < c.h ∧ 1 < c.n :=
  KeysP.table_sanity

/-- so the compressed form is never shadowed by the raw form -/
theorem table_orderlen_ne_one : ∀ c ∈ curveTable, Util.orderlen c.p ≠ 1 := fun c hc => (table_orderlen c hc).1

/-- `baselen`, `verifying_key_length`, `signature_length` as `Curve.__init__` computed them in the working tree are
what the model computes (`orderlen`) -/
theorem derived_lengths :
    curveTable.map (fun (c : Curve) => (c.name, c.baselen, c.vkLen, 2 * c.baselen))
      = curveDerived.map (fun d => (d.name, d.baselen, d.vkLen, d.sigLen)) := by decide +kernel

/-- `encoded_oid` as the code computed it in the working tree -/
theorem derived_encoded_oid :
    curveTable.map (fun (c : Curve) => c.encodedOid) = curveDerived.map (fun d => Except.ok d.encodedOid) := by decide +kernel

theorem encoded_oid_ecPublicKey_eq : encodeOidList oid_ecPublicKey = .ok encoded_oid_ecPublicKey := by decide +kernel

theorem vk_to_string_fixedlen (k : VK) (hx : k.x < k.curve.p) (hy : k.y < k.curve.p) (enc : PointEnc) :
    k.toString enc = .ok (encBytes k enc) ∧
    (encBytes k enc).length = (match enc with
      | .raw => 2 * Util.orderlen k.curve.p
      | .compressed => Util.orderlen k.curve.p + 1
      | _ => 2 * Util.orderlen k.curve.p + 1) :=
  ⟨toString_eq k hx hy enc, encBytes_length k enc⟩

theorem sk_to_string_fixedlen (k : SK) (h : k.d < k.curve.n) :
    k.toString = .ok (beFixed (Util.orderlen k.curve.n) k.d) ∧
      (beFixed (Util.orderlen k.curve.n) k.d).length = Util.orderlen k.curve.n ∧
      beVal (beFixed (Util.orderlen k.curve.n) k.d) = k.d :=
  ⟨sk_toString_eq k h, beFixed_length _ _, beVal_beFixed_of_lt _ _ (Nat.lt_trans h (Util.lt_pow_orderlen _))⟩

/-- Hypotheses: `p` prime (SEC 2 fact), the square-root contract (C15), the key is valid. -/
theorem vk_from_string_to_string (E : Ext) (k : VK) (hc : k.curve ∈ curveTable) (hp : k.curve.p.Prime)
    (hsqrt : SqrtSpec E.sqrtModP k.curve.p) (hv : ValidPoint E k.curve k.x k.y) (enc : PointEnc) :
    ∃ bs, k.toString enc = .ok bs ∧ VK.fromString E k.curve bs true = .ok k :=
  fromString_toString E k hp (table_sanity _ hc).1 (table_sanity _ hc).2.1 hsqrt hv enc
    (fun _ => table_orderlen_ne_one _ hc)

theorem sk_from_string_to_string (E : Ext) (k : SK) (hw : SK.WF E k) :
    ∃ bs, k.toString = .ok bs ∧ SK.fromString E k.curve bs = .ok k := by
  refine ⟨_, sk_toString_eq k hw.2.1, ?_⟩
  rw [sk_fromString_eq E k.curve (beFixed (Util.orderlen k.curve.n) k.d) (beFixed_length _ _), beVal_beFixed_of_lt _ _ (Nat.lt_trans hw.2.1 (Util.lt_pow_orderlen _))]
  exact fromSecretExponent_ok E k hw

theorem sk_from_string_value (E : Ext) (c : Curve) (s : Bytes) (h : s.length = c.baselen) :
    SK.fromString E c s = SK.fromSecretExponent E c (beVal s) :=
  sk_fromString_eq E c s h

/-! ## exact standard DER (byte equality with the abstract-syntax encoder of `Proofs/Asn1.lean`) -/

theorem oid_ecPublicKey_is_rfc5480 :
    oid_ecPublicKey = id_ecPublicKey ∧ encoded_oid_ecPublicKey = Asn1.enc (.oid id_ecPublicKey) :=
  ⟨oid_ecPublicKey_spec, encoded_oid_ecPublicKey_spec⟩

theorem encoded_oid_is_der : ∀ c ∈ curveTable, Curve.encodedOid c = .ok (Asn1.enc (.oid c.oid)) := table_encodedOid

/-- `VerifyingKey.to_der(enc)` = DER of `SubjectPublicKeyInfo { { id-ecPublicKey, namedCurve }, BIT STRING point }`
(RFC 5480) with the fixed-length SEC 1 point encoding; `enc = "raw"` raises `ValueError` -/
theorem vk_to_der_is_spki (k : VK) (hc : k.curve ∈ curveTable) (hx : k.x < k.curve.p) (hy : k.y < k.curve.p)
    (enc : PointEnc) :
    (enc ≠ .raw → k.toDer enc = .ok (spki k.curve.oid (encBytes k enc)).enc) ∧
    (enc = .raw → k.toDer enc = .error .valueError) :=
  ⟨vk_toDer_spki k hc hx hy enc, fun h => by subst h; rfl⟩

/-- `SigningKey.to_der(enc, "ssleay")` = DER of `ECPrivateKey { 1, OCTET STRING d (orderlen n bytes), [0] namedCurve,
[1] BIT STRING point }` (RFC 5915) -/
theorem sk_to_der_is_ecprivatekey (k : SK) (hc : k.curve ∈ curveTable) (hd : k.d < k.curve.n)
    (hvc : k.vk.curve = k.curve) (hx : k.vk.x < k.curve.p) (hy : k.vk.y < k.curve.p) (enc : PointEnc) (henc : enc ≠ .raw) :
    k.toDer enc .ssleay =
      .ok (ecPrivateKey (beFixed (Util.orderlen k.curve.n) k.d) k.curve.oid (encBytes k.vk enc)).enc := by
  have hsize := (sk_sizes k hc hvc enc).1
  unfold SK.toDer
  rw [if_neg henc, sk_ecPrivateKeyDer_spec k hc hd hvc hx hy enc (lt_pow127_of_lt_65536 _ (by omega))]
  rfl

/-- `SigningKey.to_der(enc, "pkcs8")` = DER of `OneAsymmetricKey { 1, { id-ecPublicKey, namedCurve }, OCTET STRING
(DER of that ECPrivateKey) }` (RFC 5958) -/
theorem sk_to_der_pkcs8_is_oneasymmetrickey (k : SK) (hc : k.curve ∈ curveTable) (hd : k.d < k.curve.n)
    (hvc : k.vk.curve = k.curve) (hx : k.vk.x < k.curve.p) (hy : k.vk.y < k.curve.p) (enc : PointEnc) (henc : enc ≠ .raw) :
    k.toDer enc .pkcs8 =
      .ok (oneAsymmetricKey (beFixed (Util.orderlen k.curve.n) k.d) k.curve.oid (encBytes k.vk enc)).enc := by
  have hsize := (sk_sizes k hc hvc enc).2
  have h : (oneAsymmetricKey (beFixed (Util.orderlen k.curve.n) k.d) k.curve.oid (encBytes k.vk enc)).enc.length
      < 256 ^ 127 := lt_pow127_of_lt_65536 _ (by omega)
  have hbody := lt_of_seq h
  obtain ⟨_, t1⟩ := lt_of_cons hbody
  obtain ⟨halg, t2⟩ := lt_of_cons t1
  have hec := lt_of_octets (lt_of_cons t2).1
  unfold SK.toDer
  rw [if_neg henc, sk_ecPrivateKeyDer_spec k hc hd hvc hx hy enc hec]
  simp only [bind, Except.bind]
  rw [encodeOid_ecPublicKey_spec, table_encodedOid _ hc]
  simp only
  refine congrArg Except.ok (encodeSequence_enc [.int 1, .seq [.oid id_ecPublicKey, .oid k.curve.oid],
    .octets (ecPrivateKey (beFixed (Util.orderlen k.curve.n) k.d) k.curve.oid (encBytes k.vk enc)).enc] _ ?_ hbody)
  rw [← enc_int 1 intBody_one_lt, encodeSequence_enc [.oid id_ecPublicKey, .oid k.curve.oid] _ rfl (lt_of_seq halg), ← enc_octets _ hec]
  rfl

/-- `VerifyingKey.from_der(vk.to_der(enc)) = vk`: every curve of the table, every valid key, every DER point encoding -/
theorem vk_from_der_to_der (E : Ext) (k : VK) (hc : k.curve ∈ curveTable) (hp : k.curve.p.Prime)
    (hsqrt : SqrtSpec E.sqrtModP k.curve.p) (hv : ValidPoint E k.curve k.x k.y) (enc : PointEnc) (henc : enc ≠ .raw) :
    ∃ bs, k.toDer enc = .ok bs ∧ VK.fromDer E bs = .ok k := by
  refine ⟨_, vk_toDer_spki k hc hv.1 hv.2.1 enc henc, ?_⟩
  rw [vk_fromDer_spec E k.curve hc _ (encBytes_length_le k enc (table_orderlen_le _ hc).1)
    (encBytes_not_raw_len k enc henc (table_orderlen_ne_one _ hc))]
  exact (fromString_ok_iff E k.curve hp (table_sanity _ hc).1 (table_sanity _ hc).2.1 hsqrt _ k).mpr
    ⟨rfl, encBytes_encodes k hv.1 hv.2.1 enc (fun _ => table_orderlen_ne_one _ hc), hv⟩

/-- `SigningKey.from_der(sk.to_der(enc, fmt)) = sk`: every curve, every `d ∈ [1, n-1]`, both formats, every encoding -/
theorem sk_from_der_to_der (E : Ext) (k : SK) (hc : k.curve ∈ curveTable) (hw : SK.WF E k) (enc : PointEnc)
    (henc : enc ≠ .raw) (fmt : PrivFmt) :
    ∃ bs, k.toDer enc fmt = .ok bs ∧ SK.fromDer E bs = .ok k := by
  obtain ⟨h1, h2, hvc, hx, hy, hpub⟩ := hw
  have hol := table_orderlen_le _ hc
  obtain ⟨r1, r2⟩ := sk_fromDer_spec E k.curve hc (beFixed (Util.orderlen k.curve.n) k.d) (encBytes k.vk enc)
    (by rw [beFixed_length]; exact hol.2) (encBytes_length_le k.vk enc (by rw [hvc]; exact hol.1))
  -- the scalar is written on exactly `baselen` bytes, so the loader's left padding adds nothing
  have hpad : padLeft k.curve (beFixed (Util.orderlen k.curve.n) k.d) = beFixed (Util.orderlen k.curve.n) k.d := by
    unfold padLeft Curve.baselen
    rw [if_neg (by rw [beFixed_length]; omega)]
  obtain ⟨bs0, hts, hfs⟩ := sk_from_string_to_string E k ⟨h1, h2, hvc, hx, hy, hpub⟩
  rw [sk_toString_eq k h2] at hts
  rw [← Except.ok.inj hts] at hfs
  cases fmt
  · exact ⟨_, sk_to_der_is_ecprivatekey k hc h2 hvc hx hy enc henc, by rw [r1, hpad]; exact hfs⟩
  · exact ⟨_, sk_to_der_pkcs8_is_oneasymmetrickey k hc h2 hvc hx hy enc henc, by rw [r2, hpad]; exact hfs⟩

/-- `der.unpem(der.topem(d, name)) = d` for a label without newline, given `b64decode(b64encode(d)) = d` (base64 is an
external function: the hypothesis is its contract; the text between the armour lines is proved to be exactly
`b64encode(d)`: `pemPayload_topem`) -/
theorem unpem_topem (E : Ext) (d name : Bytes) (hname : ∀ b ∈ name, b ≠ 10)
    (hb64 : E.b64decode (b64encode d) = some d) : unpem E (topem d name) = .ok d :=
  KeysP.unpem_topem E d name hname hb64

theorem vk_from_pem_to_pem (E : Ext) (k : VK) (hc : k.curve ∈ curveTable) (hp : k.curve.p.Prime)
    (hsqrt : SqrtSpec E.sqrtModP k.curve.p) (hv : ValidPoint E k.curve k.x k.y) (enc : PointEnc) (henc : enc ≠ .raw)
    (hb64 : ∀ d, E.b64decode (b64encode d) = some d) :
    ∃ pem, k.toPem enc = .ok pem ∧ VK.fromPem E pem = .ok k := by
  obtain ⟨bs, h1, h2⟩ := vk_from_der_to_der E k hc hp hsqrt hv enc henc
  exact vk_fromPem_toPem E k enc bs h1 h2 (hb64 bs)

/-- `SigningKey.from_pem(sk.to_pem(enc, fmt)) = sk` (the `EC PRIVATE KEY` header is not found inside a `PRIVATE KEY`
armour: `dropToSub_ec_in_p8`) -/
theorem sk_from_pem_to_pem (E : Ext) (k : SK) (hc : k.curve ∈ curveTable) (hw : SK.WF E k) (enc : PointEnc)
    (henc : enc ≠ .raw) (fmt : PrivFmt) (hb64 : ∀ d, E.b64decode (b64encode d) = some d) :
    ∃ pem, k.toPem enc fmt = .ok pem ∧ SK.fromPem E pem = .ok k := by
  obtain ⟨bs, h1, h2⟩ := sk_from_der_to_der E k hc hw enc henc fmt
  exact sk_fromPem_toPem E k enc fmt bs h1 h2 (hb64 bs)

/-- keys written by an independent (spec) encoder load to the same values: a spec-encoded SPKI loads as `from_string`
of its point bytes; spec-encoded ECPrivateKey and OneAsymmetricKey load as `from_string` of the scalar bytes — left-padded
with zeros to `baselen`, which does not change the scalar — independently of the public-point bytes they carry (so of
the point encoding chosen by the writer) -/
theorem loads_independent_encoding (E : Ext) (c : Curve) (hc : c ∈ curveTable) (skStr pt : Bytes)
    (hs : skStr.length ≤ 66) (hpt : pt.length ≤ 133) :
    SK.fromDer E (ecPrivateKey skStr c.oid pt).enc = SK.fromString E c (padLeft c skStr) ∧
    SK.fromDer E (oneAsymmetricKey skStr c.oid pt).enc = SK.fromString E c (padLeft c skStr) ∧
    beVal (padLeft c skStr) = beVal skStr ∧
    (pt.length ≠ c.vkLen → VK.fromDer E (spki c.oid pt).enc = VK.fromString E c pt true) :=
  ⟨(sk_fromDer_spec E c hc skStr pt hs hpt).1, (sk_fromDer_spec E c hc skStr pt hs hpt).2, (padLeft_spec c skStr).1,
   vk_fromDer_spec E c hc pt hpt⟩

/-- the other direction of the string round trip: an accepted byte string is exactly what `to_string` writes for the
accepted key in one of the four forms (one accepted encoding per key and form) -/
theorem vk_to_string_from_string (E : Ext) (c : Curve) (hc : c ∈ curveTable) (hp : c.p.Prime)
    (hsqrt : SqrtSpec E.sqrtModP c.p) (s : Bytes) (k : VK) (h : VK.fromString E c s true = .ok k) :
    ∃ enc, k.toString enc = .ok s := by
  obtain ⟨enc, he⟩ := fromString_ok_bytes E c hp (table_sanity _ hc).1 (table_sanity _ hc).2.1 hsqrt s k h
  obtain ⟨hcv, _, hv⟩ := (fromString_ok_iff E c hp (table_sanity _ hc).1 (table_sanity _ hc).2.1 hsqrt s k).mp h
  refine ⟨enc, ?_⟩
  rw [he]
  exact toString_eq k (by rw [hcv]; exact hv.1) (by rw [hcv]; exact hv.2.1) enc

/-- the driver's concrete model of CPython's lenient `base64.b64decode` inverts `b64encode` — so for that decoder the
PEM round trips need no base64 hypothesis -/
theorem b64decode_model_inverts_b64encode (d : Bytes) : b64decodeCPython (b64encode d) = some d := by
  unfold b64decodeCPython
  rw [a2b_encode]; rfl

/-! ## everything together on the composed model

`KeysWire.modelExt` = the executable models of the other layers.  Their contracts are theorems (C15 `sqrt_spec`; C07 `mul`
via `GroupInterface`, base-point order checked by the kernel in `Proofs/NamedCurves`;
`b64decode_model_inverts_b64encode`), so the only hypotheses left are the SEC 2 / FIPS / RFC 5639 facts **p prime, n prime**. -/

/-- **every curve of the table × every d ∈ [1, n−1] × every point encoding × both private formats × raw string, DER,
PEM**: the key pair built from `d` exists, its public point is valid, and every serialisation of both keys loads back
to the same key -/
theorem all_round_trips_model (c : Curve) (hc : c ∈ curveTable) (hp : c.p.Prime) (hn : c.n.Prime) (d : Nat)
    (h1 : 1 ≤ d) (h2 : d < c.n) :
    ∃ k : SK, SK.fromSecretExponent KeysWire.modelExt c d = .ok k ∧ k.curve = c ∧ k.d = d ∧ k.vk.curve = c ∧
      ValidPoint KeysWire.modelExt c k.vk.x k.vk.y ∧
      (∃ bs, k.toString = .ok bs ∧ SK.fromString KeysWire.modelExt c bs = .ok k) ∧
      (∀ enc, ∃ bs, k.vk.toString enc = .ok bs ∧ VK.fromString KeysWire.modelExt c bs true = .ok k.vk) ∧
      (∀ enc, enc ≠ .raw →
        (∃ bs, k.vk.toDer enc = .ok bs ∧ VK.fromDer KeysWire.modelExt bs = .ok k.vk ∧
          ∃ pem, k.vk.toPem enc = .ok pem ∧ VK.fromPem KeysWire.modelExt pem = .ok k.vk) ∧
        (∀ fmt, ∃ bs, k.toDer enc fmt = .ok bs ∧ SK.fromDer KeysWire.modelExt bs = .ok k ∧
          ∃ pem, k.toPem enc fmt = .ok pem ∧ SK.fromPem KeysWire.modelExt pem = .ok k)) := by
  have := Fact.mk hp
  obtain ⟨x, y, hpub, hv⟩ := pubKey_model c hc hn d h1 h2
  have hodd := (table_sanity _ hc).1
  have hsq : SqrtSpec KeysWire.modelExt.sqrtModP c.p := sqrtSpec_modelExt c.p hp (by omega)
  have hb64 : ∀ bs, KeysWire.modelExt.b64decode (b64encode bs) = some bs := b64decode_model_inverts_b64encode
  let k : SK := ⟨c, d, ⟨c, x, y⟩⟩
  have hw : SK.WF KeysWire.modelExt k := ⟨h1, h2, rfl, hv.1, hv.2.1, hpub⟩
  have hv' : ValidPoint KeysWire.modelExt k.vk.curve k.vk.x k.vk.y := hv
  refine ⟨k, fromSecretExponent_ok _ k hw, rfl, rfl, rfl, hv, sk_from_string_to_string _ k hw, ?_, ?_⟩
  · intro enc
    exact vk_from_string_to_string _ k.vk hc hp hsq hv' enc
  · intro enc henc
    constructor
    · obtain ⟨bs, e1, e2⟩ := vk_from_der_to_der _ k.vk hc hp hsq hv' enc henc
      exact ⟨bs, e1, e2, vk_fromPem_toPem _ k.vk enc bs e1 e2 (hb64 bs)⟩
    · intro fmt
      obtain ⟨bs, e1, e2⟩ := sk_from_der_to_der _ k hc hw enc henc fmt
      exact ⟨bs, e1, e2, sk_fromPem_toPem _ k enc fmt bs e1 e2 (hb64 bs)⟩

/-! ### the PKCS#8 version field and the optional fields (RFC 5958 §2, RFC 5915 §3)

What the library WRITES for `format="pkcs8"` is `Asn1Spec.oneAsymmetricKey` = `oneAsymmetricKeyG` at **version 1 (v2)**
with the embedded ECPrivateKey carrying `[0] namedCurve` and `[1] publicKey` and **no** top-level optional field
(`pkcs8_written_form`).  RFC 5958 §2 ties v2 to the presence of the top-level `publicKey [1]`; without it a conforming
writer (OpenSSL) emits version 0.  So `sk_to_der_pkcs8_is_oneasymmetrickey` proves "canonical DER of the
OneAsymmetricKey syntax with version 1", and the version VALUE is a deviation from the RFC's rule (known finding K3; not
a decoding problem: the loader accepts both).  What the library READS: -/

theorem pkcs8_written_form (d : Bytes) (curveOid : List Nat) (pt : Bytes) :
    oneAsymmetricKey d curveOid pt =
      oneAsymmetricKeyG 1 d curveOid [.ctx 0 (.oid curveOid), .ctx 1 (.bits 0 pt)] [] ∧
    ecPrivateKey d curveOid pt = ecPrivateKeyG d [.ctx 0 (.oid curveOid), .ctx 1 (.bits 0 pt)] :=
  ⟨oneAsymmetricKey_eq_general d curveOid pt, ecPrivateKey_eq_general d curveOid pt⟩

/-- **PKCS#8 files written by an independent encoder**: version 0 (RFC 5958 v1, what OpenSSL writes) AND version 1,
with any optional fields after `privateKey` (`[0] attributes`, `[1] publicKey`, …: `tail`) and any optional fields in the
embedded ECPrivateKey (`opts`: none, `[0] parameters`, `[1] publicKey`, both) load to the same key: `from_string` of the
left-padded scalar bytes on the curve named by the AlgorithmIdentifier -/
theorem loads_independent_encoding_pkcs8 (E : Ext) (c : Curve) (hc : c ∈ curveTable) (v : Nat) (hv : v = 0 ∨ v = 1)
    (d : Bytes) (opts tail : List Asn1) (hsize : (oneAsymmetricKeyG v d c.oid opts tail).enc.length < 65536) :
    SK.fromDer E (oneAsymmetricKeyG v d c.oid opts tail).enc = SK.fromString E c (padLeft c d) ∧
      beVal (padLeft c d) = beVal d :=
  ⟨sk_fromDer_pkcs8_general E c (table_encodedOid c hc) (table_findCurve c hc) v hv d opts tail (lt_pow127_of_lt_65536 _ hsize),
    (padLeft_spec c d).1⟩

/-- in particular the version-0 and the version-1 rendering of the same key load to the same result -/
theorem pkcs8_version_irrelevant (E : Ext) (c : Curve) (hc : c ∈ curveTable) (d : Bytes) (opts tail : List Asn1)
    (h0 : (oneAsymmetricKeyG 0 d c.oid opts tail).enc.length < 65536)
    (h1 : (oneAsymmetricKeyG 1 d c.oid opts tail).enc.length < 65536) :
    SK.fromDer E (oneAsymmetricKeyG 0 d c.oid opts tail).enc = SK.fromDer E (oneAsymmetricKeyG 1 d c.oid opts tail).enc := by
  rw [(loads_independent_encoding_pkcs8 E c hc 0 (Or.inl rfl) d opts tail h0).1,
    (loads_independent_encoding_pkcs8 E c hc 1 (Or.inr rfl) d opts tail h1).1]

/-- **bare ECPrivateKey files**: `[0] namedCurve` present (the loader needs it), anything after it — with or without
`[1] publicKey` -/
theorem loads_independent_encoding_ecprivatekey (E : Ext) (c : Curve) (hc : c ∈ curveTable) (d : Bytes) (rest : List Asn1)
    (hsize : (ecPrivateKeyG d (.ctx 0 (.oid c.oid) :: rest)).enc.length < 65536) :
    SK.fromDer E (ecPrivateKeyG d (.ctx 0 (.oid c.oid) :: rest)).enc = SK.fromString E c (padLeft c d) :=
  sk_fromDer_ssleay_general E c (table_encodedOid c hc) (table_findCurve c hc) d rest (lt_pow127_of_lt_65536 _ hsize)

/-- non-vacuity: an OpenSSL-style PKCS#8 file (version 0, embedded ECPrivateKey without parameters, with publicKey) and
the version-1 file with a top-level `[0]` attributes field, for d = 1 on NIST P-256, both load to the key (d = 1, G) -/
example :
    let E : Ext := { subgroupOk := fun _ _ _ => true, sqrtModP := fun _ _ => .error .squareRoot,
                     pubPoint := fun c _ => some (c.gx, c.gy), b64decode := fun _ => none }
    let k : SK := ⟨curve_NIST256p, 1, ⟨curve_NIST256p, curve_NIST256p.gx, curve_NIST256p.gy⟩⟩
    SK.fromDer E (oneAsymmetricKeyG 0 (beFixed 32 1) curve_NIST256p.oid [.ctx 1 (.bits 0 (encBytes k.vk .uncompressed))] []).enc
      = .ok k ∧
    SK.fromDer E (oneAsymmetricKeyG 1 (beFixed 32 1) curve_NIST256p.oid [] [.ctx 0 (.seq [])]).enc = .ok k := by
  decide +kernel

/-- non-vacuity of the DER theorems: kernel evaluation of the model on a concrete NIST P-256 key (d = 1), both formats -/
example :
    let k : SK := ⟨curve_NIST256p, 1, ⟨curve_NIST256p, curve_NIST256p.gx, curve_NIST256p.gy⟩⟩
    k.toDer .compressed .pkcs8 = .ok (oneAsymmetricKey (beFixed 32 1) curve_NIST256p.oid (encBytes k.vk .compressed)).enc
    ∧ k.toDer .hybrid .ssleay = .ok (ecPrivateKey (beFixed 32 1) curve_NIST256p.oid (encBytes k.vk .hybrid)).enc := by
  decide +kernel

/-- non-vacuity: a well-formed signing key exists on NIST P-256 (d = 1, Q = G) for a suitable `pubPoint` -/
example : SK.WF { subgroupOk := fun _ _ _ => true, sqrtModP := fun _ _ => .error .squareRoot,
                  pubPoint := fun c _ => some (c.gx, c.gy), b64decode := fun _ => none }
    ⟨curve_NIST256p, 1, ⟨curve_NIST256p, curve_NIST256p.gx, curve_NIST256p.gy⟩⟩ := by
  unfold SK.WF; decide +kernel

end C09
