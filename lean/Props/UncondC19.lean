import Proofs.UncondBase
import Props.C19g
/-!
# UncondC19 — C19: history independence on the named curves with NO primality hypothesis

For every curve of `NamedPrimes.unconditionalCurves` (all 17 curves of the table: p and n carry kernel-checked Pocklington certificates, the
order of the base point is checked by kernel evaluation) the headline statements of C19 hold without any hypothesis about the
curve, except `#E(𝔽_p) = n` where stated.
Generated from `Props/Uncond.lean` by harness/tools/primecerts/mkuncond_split.py.
-/
namespace UncondC19
open Uncond Named NamedPrimes Ecdsa GroupInterface Jac

variable {r : Gen.CurveRow}

theorem history_independent (hr : r ∈ unconditionalCurves) :
    haveI := factP hr
    ∀ (ops : List PointObj.Op) {h : PointObj.Heap} {ah : PointObj.AHeap (baseCtx r (checked_of_mem (mem_table hr))).H}
      (_ : PointObj.Inv (C19g.HS (baseCtx r (checked_of_mem (mem_table hr)))) (C19g.HA (baseCtx r (checked_of_mem (mem_table hr)))) h ah)
      (_ : @C19.CoveredAll (baseCtx r (checked_of_mem (mem_table hr))).H _ (Classical.decEq _)
        (C19g.spec (baseCtx r (checked_of_mem (mem_table hr))) (OnCurve.crvOf (crvOf r))) ah ops),
      PointObj.outputs h ops = @PointObj.aoutputs (baseCtx r (checked_of_mem (mem_table hr))).H _ (Classical.decEq _)
        (C19g.spec (baseCtx r (checked_of_mem (mem_table hr))) (OnCurve.crvOf (crvOf r))) ah ops := by
  haveI := factP hr
  intro ops h ah hi hcov
  exact C19g.history_independent_curve (matches_named (mem_table hr) (primeN hr)).hp2 _ _ (crv_onCurve r) ops hi hcov

end UncondC19
