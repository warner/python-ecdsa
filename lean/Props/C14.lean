import Proofs.EcdsaCodec
import Proofs.NamedCurves
import Proofs.EcdsaInstToyRec
import Proofs.EcdsaInstNamed
import Proofs.EcdsaInstNt
import Proofs.EcdsaInstRecover
import Proofs.EcdsaRecover2
import Proofs.EcdsaToy2
/-!
# C14 — public-key recovery returns the signer's key and only keys that verify

Model: `Ecdsa.recoverPublicKeys` = `Signature.recover_public_keys` (with the repairs F9: a candidate at infinity is
skipped, F10: the second candidate is built with `-y % p`), `Ecdsa.fromPublicKeyRecoveryWithDigest`,
`Ecdsa.fromPublicKeyRecovery`.  Point layer: any `ops` with `RecoverOpsCorrect` (Proofs/EcdsaRecoverBase.lean);
square root: any `sqrt` with `SqrtSpec sqrt p` (returns a root whenever one exists — C15).
`Honest ops G xc d e k r s x₀`: `(r, s) = Private_key.sign(e, k)` for the secret `d`, `n ∤ d`, `n ∤ k`, and the nonce
point `k • G` has abscissa `x₀ < n` (the property's hypothesis; it fails only for a fraction ≈ (p−n)/p of nonces).
The cofactor is arbitrary here (with cofactor ≠ 1 the extra `n * Q == INFINITY` check of `Public_key` passes because
every candidate lies in ⟨G⟩).
-/
namespace C14
open Ecdsa

variable {P : Type} {𝔾 : Type} [AddCommGroup 𝔾]
variable {ops : PointOps P} {G : 𝔾} {den : P → 𝔾} {xc : 𝔾 → Option ℤ} {valid : P → Prop}

/-- the list contains the signer's key `Q = d • G` -/
theorem recovered_contains_Q (C : RecoverOpsCorrect ops G den xc valid) (sqrt : ℤ → ℤ → Res ℤ) (hsq : SqrtSpec sqrt ops.p)
    (d e k r s x0 : ℤ) (H : Honest ops G xc d e k r s x0) :
    ∃ l, recoverPublicKeys ops sqrt r s e = .ok l ∧ ∃ A ∈ l, valid A ∧ den A = d • G := by
  obtain ⟨Q1, Q2, T, hT, v1, v2, d1, d2, hrec, -⟩ := recover_structure C sqrt hsq d e k r s x0 H
  obtain ⟨-, -, -, hr, -, hsk⟩ := sign_eq_ok C.toPointOpsCorrect H.hk H.hsig
  obtain ⟨-, -, -, hri⟩ := inverseMod_eq_invZ C.n_prime hr.1 hr.2
  have key := candidate_is_key C.nG d k e r s (invZ ops.order r) hsk hri
  -- the candidate built from `k • G` is the key; it is not at infinity, so the filter keeps it
  have keep (A : P) (vA : valid A) (dA : den A = d • G) (hA : A ∈ [Q1, Q2]) :
      ∃ A ∈ [Q1, Q2].filter (fun Q => !(ops.isInfinity Q)), valid A ∧ den A = d • G := by
    refine ⟨A, List.mem_filter.mpr ⟨hA, ?_⟩, vA, dA⟩
    have : ¬ ops.isInfinity A = true := fun hi => C.smul_ne_zero H.hd (dA ▸ (C.isInf A vA).mp hi)
    simpa using this
  refine ⟨_, hrec, ?_⟩
  rcases hT with h | h
  · exact keep Q1 v1 (by rw [d1, h, key]) (by simp)
  · exact keep Q2 v2 (by rw [d2, h, neg_neg, key]) (by simp)

/-- at most two entries — for every input whatsoever on which recovery returns -/
theorem recovered_length_le_two (ops : PointOps P) (sqrt : ℤ → ℤ → Res ℤ) (r s e : ℤ) (l : List P)
    (h : recoverPublicKeys ops sqrt r s e = .ok l) : l.length ≤ 2 := by
  unfold recoverPublicKeys at h
  split at h
  · cases h
  · obtain ⟨β, -, h⟩ := Res.bind_ok h
    obtain ⟨Q1, -, h⟩ := Res.bind_ok h
    obtain ⟨Q2, -, h⟩ := Res.bind_ok h
    -- `mapM` keeps the length, `filter` does not increase it
    rw [mapM_length _ _ _ h]
    exact le_trans (List.length_filter_le _ _) (by simp)

/-- every returned key is a valid non-zero point of ⟨G⟩ and verifies the signature -/
theorem recovered_all_verify (C : RecoverOpsCorrect ops G den xc valid) (sqrt : ℤ → ℤ → Res ℤ) (hsq : SqrtSpec sqrt ops.p)
    (d e k r s x0 : ℤ) (H : Honest ops G xc d e k r s x0) (l : List P)
    (hl : recoverPublicKeys ops sqrt r s e = .ok l) :
    ∀ A ∈ l, valid A ∧ den A ≠ 0 ∧ ops.order • den A = 0 ∧ verifies ops A e r s = .ok true := by
  obtain ⟨Q1, Q2, T, -, -, -, d1, d2, hrec, ⟨hT0, hxT, hnT⟩, hlist⟩ := recover_structure C sqrt hsq d e k r s x0 H
  rw [hrec] at hl; injection hl with hl; subst hl
  obtain ⟨x, hx, hxr, hr, hs, -⟩ := sign_eq_ok C.toPointOpsCorrect H.hk H.hsig
  rw [H.hx0] at hx; cases hx
  obtain ⟨-, -, -, hri⟩ := inverseMod_eq_invZ C.n_prime hr.1 hr.2
  obtain ⟨-, -, -, hsi⟩ := inverseMod_eq_invZ C.n_prime hs.1 hs.2
  -- a candidate built from a non-zero `T'` of ⟨G⟩ with the abscissa of `k•G` verifies: `u₁G + u₂Q = T'`
  have main (A : P) (T' : 𝔾) (vA : valid A) (hT' : T' ≠ 0 ∧ xc T' = some x0 ∧ ops.order • T' = 0)
      (dA : den A = invZ ops.order r • (s • T' + ((-e) % ops.order) • G)) : verifies ops A e r s = .ok true := by
    have hR : ((e * invZ ops.order s) % ops.order) • G + ((r * invZ ops.order s) % ops.order) • den A = T' := by
      rw [dA]; exact recover_core C.nG hT'.2.2 e r s (invZ ops.order s) (invZ ops.order r) hsi hri
    exact (verifies_iff C.toPointOpsCorrect A vA e r s).mpr
      ⟨hr.1, by omega, hs.1, by omega, hR ▸ hT'.1, x0, hR ▸ hT'.2.1, hxr⟩
  intro A hA
  obtain ⟨vA, nA, oA⟩ := hlist A hA
  refine ⟨vA, nA, oA, ?_⟩
  rcases List.mem_cons.mp (List.mem_filter.mp hA).1 with h | h
  · subst h; exact main _ T vA ⟨hT0, hxT, hnT⟩ d1
  · obtain rfl := List.mem_singleton.mp h
    exact main _ (-T) vA ⟨neg_ne_zero.mpr hT0, (C.xc_neg T).trans hxT, by rw [zsmul_neg, hnT, neg_zero]⟩ d2

/-- the shape of the answer, including the F9 case: the two candidates `r⁻¹(s•(±k•G) − e•G)`, minus those at infinity -/
theorem recovered_structure (C : RecoverOpsCorrect ops G den xc valid) (sqrt : ℤ → ℤ → Res ℤ) (hsq : SqrtSpec sqrt ops.p)
    (d e k r s x0 : ℤ) (H : Honest ops G xc d e k r s x0) :
    ∃ Q1 Q2 : P, ∃ T : 𝔾, (T = k • G ∨ T = -(k • G)) ∧ valid Q1 ∧ valid Q2 ∧
      den Q1 = invZ ops.order r • (s • T + ((-e) % ops.order) • G) ∧
      den Q2 = invZ ops.order r • (s • (-T) + ((-e) % ops.order) • G) ∧
      recoverPublicKeys ops sqrt r s e = .ok ([Q1, Q2].filter (fun Q => !(ops.isInfinity Q))) := by
  obtain ⟨Q1, Q2, T, hT, v1, v2, d1, d2, hrec, -⟩ := recover_structure C sqrt hsq d e k r s x0 H
  exact ⟨Q1, Q2, T, hT, v1, v2, d1, d2, hrec⟩

/-- the wrapper `from_public_key_recovery_with_digest` (any decoder that reads the honest pair back, either truncation
flag): the keys of `recover_public_keys`, converted by `from_public_point`; same three claims, verification through
`verify_digest` with the same decoder and flag -/
theorem recovery_with_digest {σ : Type} (C : RecoverOpsCorrect ops G den xc valid) (sqrt : ℤ → ℤ → Res ℤ)
    (hsq : SqrtSpec sqrt ops.p) (d e k r s x0 : ℤ) (H : Honest ops G xc d e k r s x0)
    (dec : σ → ℕ → Res (ℕ × ℕ)) (sig : σ) (dg : Bytes) (allow : Bool)
    (hdec : dec sig ops.order.toNat = .ok (r.toNat, s.toNat))
    (htr : truncateAndConvertDigest dg (baselen ops) ops.order allow = .ok e) :
    ∃ l, fromPublicKeyRecoveryWithDigest ops sqrt dec sig dg allow = .ok l ∧ l.length ≤ 2 ∧
      (∃ A ∈ l, valid A ∧ den A = d • G) ∧ ∀ A ∈ l, verifyDigest ops A dec sig dg allow = .ok true := by
  obtain ⟨-, -, -, r1, s1, -⟩ := sign_eq_ok C.toPointOpsCorrect H.hk H.hsig
  have hr : ((r.toNat : ℕ) : ℤ) = r := Int.toNat_of_nonneg (by omega)
  have hs : ((s.toNat : ℕ) : ℤ) = s := Int.toNat_of_nonneg (by omega)
  obtain ⟨l, hl, A, hA, vA, dA⟩ := recovered_contains_Q C sqrt hsq d e k r s x0 H
  have hall := recovered_all_verify C sqrt hsq d e k r s x0 H l hl
  refine ⟨l.map ops.fromAffine, ?_, ?_, ⟨ops.fromAffine A, List.mem_map_of_mem hA, ?_⟩, ?_⟩
  · unfold fromPublicKeyRecoveryWithDigest
    simp only [hdec, htr, bind, Except.bind, hr, hs, hl]
    exact mapM_fromPublicPoint C l (fun B hB => ⟨(hall B hB).1, (hall B hB).2.1, (hall B hB).2.2.1⟩)
  · rw [List.length_map]; exact recovered_length_le_two ops sqrt r s e l hl
  · obtain ⟨vF, dF⟩ := C.fromAffine A vA
    exact ⟨vF, by rw [dF, dA]⟩
  · intro B' hB'
    obtain ⟨B, hB, rfl⟩ := List.mem_map.mp hB'
    obtain ⟨vB, -, -, hvB⟩ := hall B hB
    obtain ⟨vF, dF⟩ := C.fromAffine B vB
    -- the converted object denotes the same element, hence verifies the same signature
    refine verifyDigest_of_verifies htr hdec ?_
    rw [hr, hs, verifies_congr C.toPointOpsCorrect vF vB dF]; exact hvB

/-- the hashing wrapper `from_public_key_recovery`, any hash function -/
theorem recovery_with_data {σ : Type} (C : RecoverOpsCorrect ops G den xc valid) (sqrt : ℤ → ℤ → Res ℤ)
    (hsq : SqrtSpec sqrt ops.p) (d e k r s x0 : ℤ) (H : Honest ops G xc d e k r s x0)
    (Hash : Bytes → Bytes) (dec : σ → ℕ → Res (ℕ × ℕ)) (sig : σ) (data : Bytes) (allow : Bool)
    (hdec : dec sig ops.order.toNat = .ok (r.toNat, s.toNat))
    (htr : truncateAndConvertDigest (Hash data) (baselen ops) ops.order allow = .ok e) :
    ∃ l, fromPublicKeyRecovery ops sqrt Hash dec sig data allow = .ok l ∧ l.length ≤ 2 ∧
      (∃ A ∈ l, valid A ∧ den A = d • G) ∧ ∀ A ∈ l, verify ops A Hash dec sig data allow = .ok true :=
  recovery_with_digest C sqrt hsq d e k r s x0 H dec sig (Hash data) allow hdec htr

/-- the two concrete decoders of the wrappers' signature (`sigdecode_string`, the default, and `sigdecode_der`): the
hypothesis "the decoder reads the honest pair back" of `recovery_with_digest` is discharged by C12 — the signature is
the one `sigencode_string` / `sigencode_der` emits for the honest `(r, s)` (`2 ≤ n ≤ 256^126` for DER) -/
theorem recovery_with_digest_string_and_der (C : RecoverOpsCorrect ops G den xc valid) (sqrt : ℤ → ℤ → Res ℤ)
    (hsq : SqrtSpec sqrt ops.p) (hbig : ops.order ≤ 256 ^ 126) (d e k r s x0 : ℤ) (H : Honest ops G xc d e k r s x0)
    (dg : Bytes) (allow : Bool) (htr : truncateAndConvertDigest dg (baselen ops) ops.order allow = .ok e) :
    (∀ sig, encString r s ops.order = .ok sig →
      ∃ l, fromPublicKeyRecoveryWithDigest ops sqrt Util.sigdecodeString sig dg allow = .ok l ∧ l.length ≤ 2 ∧
        (∃ A ∈ l, valid A ∧ den A = d • G) ∧ ∀ A ∈ l, verifyDigest ops A Util.sigdecodeString sig dg allow = .ok true)
    ∧ (∀ sig, encDer r s ops.order = .ok sig →
      ∃ l, fromPublicKeyRecoveryWithDigest ops sqrt Util.sigdecodeDer sig dg allow = .ok l ∧ l.length ≤ 2 ∧
        (∃ A ∈ l, valid A ∧ den A = d • G) ∧ ∀ A ∈ l, verifyDigest ops A Util.sigdecodeDer sig dg allow = .ok true) := by
  obtain ⟨-, -, -, hr, hs, -⟩ := sign_eq_ok C.toPointOpsCorrect H.hk H.hsig
  have hn := C.two_le
  have r0 : 0 ≤ r := by omega
  have s0 : 0 ≤ s := by omega
  have henc (f : ℕ → ℕ → ℕ → Res Bytes) (neg : PyErr) : encInt f neg r s ops.order = f r.toNat s.toNat ops.order.toNat := encInt_eq neg r0 s0 (by omega)
  exact ⟨fun sig h => recovery_with_digest C sqrt hsq d e k r s x0 H _ sig dg allow
      (decode_encode (roundTrips_string _ (by omega)) r0 hr.2 hs.2 ((henc _ _).symm.trans h)) htr,
    fun sig h => recovery_with_digest C sqrt hsq d e k r s x0 H _ sig dg allow
      (decode_encode (roundTrips_der _ (by omega) (toNat_le_pow hbig)) r0 hr.2 hs.2 ((henc _ _).symm.trans h)) htr⟩

/-! ### non-vacuity: y² = x³ + 2x + 1 over 𝔽₅, order 7, G = (0,1); d = 3, k = 2 (k•G = (1,3), x₀ = 1 < 7) -/

example : RecoverOpsCorrect Toy2.ops (1 : ZMod 7) id Toy2.xc (fun _ => True) := Toy2.correct
example : SqrtSpec Toy2.sqrt Toy2.ops.p := Toy2.sqrt_spec

/-- an honest signature: e = 5 gives (r, s) = (1, 4) -/
example : Honest Toy2.ops (1 : ZMod 7) Toy2.xc 3 5 2 1 4 1 where
  hk := by decide
  hd := by decide
  hsig := by decide +kernel
  hx0 := by decide +kernel
  hlt := by decide

/-- recovery returns two keys, the signer's (3 = d) among them; in the F9 situation (e = 2 ≡ −r·d/2: the other
candidate is the point at infinity) it returns the signer's key alone -/
example : recoverPublicKeys Toy2.ops Toy2.sqrt 1 4 5 = .ok [1, 3]
    ∧ verifies Toy2.ops 1 5 1 4 = .ok true ∧ verifies Toy2.ops 3 5 1 4 = .ok true
    ∧ sign Toy2.ops 3 2 2 = .ok (1, 6) ∧ recoverPublicKeys Toy2.ops Toy2.sqrt 1 6 2 = .ok [3] := by
  decide +kernel

/-! ### the same, for the model of the real point classes and of `square_root_mod_prime`
`RecoverOpsCorrect` is *proved* for `OnCurve.ops c` under `OnCurve.Matches c C` alone — no cofactor assumption
(Proofs/EcdsaInstRecover.lean) — and `SqrtSpec` for `NT.squareRootModPrime` (from `C15.sqrt_spec`, every odd prime,
including the Cipolla branch p ≡ 1 mod 8 used by P-224). -/
section OnCurve
open GroupInterface
variable {p : ℕ} [hp : Fact p.Prime] {a b : ℤ}

/-- recovery on the real point model, any cofactor — NOT #E(𝔽_p) = n: for an honest signature the two points the code
constructs from `r` are `±k•G`, members of ⟨G⟩ whatever the cofactor (`OnCurve.lift_point`), and the extra
`n * Q == INFINITY` test of `Public_key` passes because every candidate lies in ⟨G⟩ -/
theorem recovery_honest (c : Affine.Crv) (C : Ctx p a b) (M : OnCurve.Matches c C)
    (d e k r s x0 : ℤ) (H : Honest (OnCurve.ops c) C.G OnCurve.xcOf d e k r s x0) :
    ∃ l, recoverPublicKeys (OnCurve.ops c) NT.squareRootModPrime r s e = .ok l ∧ l.length ≤ 2 ∧
      (∃ A ∈ l, OnCurve.Valid C A ∧ OnCurve.den C A = d • C.G) ∧
      ∀ A ∈ l, verifies (OnCurve.ops c) A e r s = .ok true := by
  have hsq : SqrtSpec NT.squareRootModPrime (OnCurve.ops c).p := by
    have : (OnCurve.ops c).p = (p : ℤ) := M.cp
    rw [this]; exact sqrtSpec_nt p hp.out M.hp2
  have RC := OnCurve.recoverOpsCorrect c C M
  obtain ⟨l, hl, hc⟩ := recovered_contains_Q RC _ hsq d e k r s x0 H
  exact ⟨l, hl, recovered_length_le_two _ _ r s e l hl, hc,
    fun A hA => (recovered_all_verify RC _ hsq d e k r s x0 H l hl A hA).2.2.2⟩

/-- for callers that hold `OnCurve.MatchesRec` (which extends `Matches`) -/
theorem recovery_on_curve (c : Affine.Crv) (C : Ctx p a b) (M : OnCurve.MatchesRec c C)
    (d e k r s x0 : ℤ) (H : Honest (OnCurve.ops c) C.G OnCurve.xcOf d e k r s x0) :
    ∃ l, recoverPublicKeys (OnCurve.ops c) NT.squareRootModPrime r s e = .ok l ∧ l.length ≤ 2 ∧
      (∃ A ∈ l, OnCurve.Valid C A ∧ OnCurve.den C A = d • C.G) ∧
      ∀ A ∈ l, verifies (OnCurve.ops c) A e r s = .ok true :=
  recovery_honest c C M.toMatches d e k r s x0 H

/-! #### a closed instance on the real point model (kernel-evaluated; no hypothesis left)
Toy curve y² = x³ + x + 6 over 𝔽₁₁, G = (2,7), n = 13 (driver token `11,1,6,2,7,13,1,j`): secret d = 3 (Q = 3G = (8,3)),
e = 5, nonce k = 2 (2G = (5,2), x₀ = 5 < 13), signature (r, s) = (5, 10).  `Honest` holds, so `recovery_honest`
applies; and the model's answer, evaluated: two `PointJacobi` objects whose `x()`, `y()` are (8,3) = Q and (3,5). -/
example : ∃ C : Ctx 11 1 6, OnCurve.Matches OnCurve.toyCrv C ∧
    Honest (OnCurve.ops OnCurve.toyCrv) C.G OnCurve.xcOf 3 5 2 5 10 5 := OnCurve.toy_honest

set_option maxRecDepth 4000 in
example : sign (OnCurve.ops OnCurve.toyCrv) 3 5 2 = .ok (5, 10)
    ∧ (recoverPublicKeys (OnCurve.ops OnCurve.toyCrv) NT.squareRootModPrime 5 10 5).map
        (fun l => l.map (fun A => ((OnCurve.ops OnCurve.toyCrv).xOf A, (OnCurve.ops OnCurve.toyCrv).yOf A)))
      = .ok [(.ok 8, .ok 3), (.ok 3, .ok 5)]
    ∧ fromSecretExponent (OnCurve.ops OnCurve.toyCrv) 3 = .ok (.jac ⟨OnCurve.crvOf OnCurve.toyCrv, 8, 3, 1, some 13, false⟩) :=
  ⟨OnCurve.toy_sign, by decide +kernel, OnCurve.toy_pubkey⟩

end OnCurve

/-! ### the named curves
Every row of the generated curve table (the cofactor-4 curve SECP112r2 included) under **p prime, n prime** alone;
`n • G = 0`, G on the curve, reduced coordinates are computed by the kernel on the extracted row (`Named.checked_of_mem`). -/
section Named
open GroupInterface

theorem recovery_named (row : Gen.CurveRow) (hrow : row ∈ Gen.curveTable) [Fact row.p.Prime] (hnp : row.n.Prime) :
    ∀ d e k r s x0 : ℤ,
      Honest (OnCurve.ops (Named.crvOf row)) (Named.baseCtx row (Named.checked_of_mem hrow)).G OnCurve.xcOf d e k r s x0 →
      ∃ l, recoverPublicKeys (OnCurve.ops (Named.crvOf row)) NT.squareRootModPrime r s e = .ok l ∧ l.length ≤ 2 ∧
        (∃ A ∈ l, OnCurve.Valid (Named.baseCtx row (Named.checked_of_mem hrow)) A ∧
          OnCurve.den (Named.baseCtx row (Named.checked_of_mem hrow)) A = d • (Named.baseCtx row (Named.checked_of_mem hrow)).G) ∧
        ∀ A ∈ l, verifies (OnCurve.ops (Named.crvOf row)) A e r s = .ok true :=
  fun d e k r s x0 H => recovery_honest _ _ (Named.matches_row (Named.checked_of_mem hrow) hnp) d e k r s x0 H

end Named

/-- the ECDSA model's `inverse_mod` (hand-written extended Euclid, proved to be the `ZMod` inverse) returns exactly
what nt's model of `numbertheory.inverse_mod` — regenerated from the source text (C15) — returns, for every `a` and
every positive modulus -/
theorem inverse_mod_model_agrees (a m : ℤ) (hm : 1 ≤ m) : inverseMod a m = NT.inverseMod a m := by
  by_cases ha : a = 0
  · subst ha; rw [inverseMod_zero, (C15.inverse_mod_other_inputs 0 m).1]
  by_cases hg : Int.gcd a m = 1
  · obtain ⟨c, hc, c0, c1, hcm⟩ := inverseMod_ok a m (by omega) ha hg
    obtain ⟨i, hi, i0, i1, him⟩ := C15.inverse_mod_spec a m hm hg
    -- both are the inverse of `a` in `[0, m)`
    rw [hc, hi, ← invZ_unique (by omega) c0 c1 hcm, ← invZ_unique (by omega) i0 i1 him]
  · rw [inverseMod_err a m (by omega) ha hg, ((C15.inverse_mod_other_inputs a m).2.2.1 ha (by omega) hg)]

end C14
