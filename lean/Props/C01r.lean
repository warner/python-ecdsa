import Props.C09
import Props.Named
import Props.NamedPrimes
/-!
# C01 × C09 — signatures still verify after the key is serialised and re-loaded, and a re-loaded signing key makes the
same signatures

C09 (`C09.all_round_trips_model`, keys' model `Model/Keys.lean`: a key is its curve row and the integers `d`, `(x, y)`)
proves that every serialisation of a key pair built from `d` loads back to the *same* key value.  Here that value is
linked to the ECDSA model: the point object a loader builds for the verifying key, `PointJacobi(curve, x, y, 1, order)`,
is a valid point object denoting `d • G`, so C01's theorems apply to it; and the re-loaded signing key carries the same
scalar, so it signs identically.  All 17 named curves; hypotheses `p`, `n` prime (the order of `G` is kernel-checked).
-/
namespace C01r
open Ecdsa Keys GroupInterface Jac Named Curve WeierstrassCurve

variable {r : Gen.CurveRow} [Fact (Nat.Prime r.p)]

/-- the point object of a loaded verifying key: `PointJacobi(curve.curve, x, y, 1, order)` -/
def vkPoint (r : Gen.CurveRow) (vk : VK) : Curve.Pt := .jac ⟨KeysWire.curveFp r, vk.x, vk.y, 1, some r.n, false⟩

/-- **tie of `vkPoint`**: it is the model function `OnCurve.loadedKeyPoint` (Model/EcdsaCurve.lean) at the key's
coordinates — the function the model driver uses for every public-key argument of the `ecdsa_*` lines and exposes as
`ecdsa_loaded_key_point`; the correspondence run of C01 (`loaded_key_point` stream) compares it, field by field
(class, X, Y, Z, order, generator flag), with `VerifyingKey.from_string / from_der / from_pem(...).pubkey.point` of the
real code for every container × point encoding on all 17 curves -/
theorem vkPoint_is_model_loader (r : Gen.CurveRow) (vk : VK) :
    vkPoint r vk = OnCurve.loadedKeyPoint (Named.crvOf r) vk.x vk.y := rfl

theorem vk_of_fromSecretExponent {c : Keys.Curve} {d : ℕ} {k : SK}
    (h : SK.fromSecretExponent KeysWire.modelExt c d = .ok k) :
    k.d = d ∧ ∃ X Y : ℤ, KeysWire.pubPointModel c d = some (X, Y) ∧ 0 ≤ X ∧ 0 ≤ Y ∧ k.vk.x = X.toNat ∧ k.vk.y = Y.toNat := by
  obtain ⟨⟨_, _, _, _, _, hpub⟩, hc, hdz⟩ := KeysP.fromSecretExponent_wf _ c d k h
  have hd : k.d = d := Int.ofNat.inj hdz
  rw [hc, hd] at hpub
  exact ⟨hd, k.vk.x, k.vk.y, hpub, Int.natCast_nonneg _, Int.natCast_nonneg _, (Int.toNat_natCast _).symm,
    (Int.toNat_natCast _).symm⟩

/-- **the loaded verifying key denotes `d • G`**: the point object built from the coordinates stored for `d` is a valid
point object of ⟨G⟩ with that denotation -/
theorem loaded_vk_denotes_dG (hr : r ∈ Gen.curveTable) (hn : Nat.Prime r.n) (d : ℕ) (h1 : 1 ≤ d) (h2 : d < r.n) (k : SK)
    (hk : SK.fromSecretExponent KeysWire.modelExt r d = .ok k) :
    OnCurve.Valid (baseCtx r (checked_of_mem hr)) (vkPoint r k.vk) ∧
      OnCurve.den (baseCtx r (checked_of_mem hr)) (vkPoint r k.vk) = (d : ℤ) • (baseCtx r (checked_of_mem hr)).G := by
  obtain ⟨-, X, Y, hp, X0, Y0, ex, ey⟩ := vk_of_fromSecretExponent hk
  obtain ⟨X', Y', hp', hx, hy, hns, hg⟩ := KeysP.pubPoint_denotes r hr hn d h1 h2
  obtain ⟨rfl, rfl⟩ := Prod.mk.inj (Option.some.inj (hp.symm.trans hp'))
  have hm : Affine.Point.some _ _ hns ∈ (baseCtx r (checked_of_mem hr)).H := by
    rw [← hg]; exact (baseCtx r (checked_of_mem hr)).smul_mem d
  have hpt : PtRep r.p r.a r.b (baseCtx r (checked_of_mem hr)).H (vkPoint r k.vk) (Affine.Point.some _ _ hns) := by
    unfold vkPoint
    rw [ex, ey, Int.toNat_of_nonneg X0, Int.toNat_of_nonneg Y0]
    exact pjRep_of_coords (baseCtx r (checked_of_mem hr)).n2t (KeysWire.curveFp r) ⟨rfl, rfl, rfl⟩ X Y hx hy hns hm
      (some (r.n : ℤ)) false
  exact ⟨⟨Or.inl rfl, _, hpt⟩, by rw [OnCurve.den_eq hpt, hg]⟩

/-- **C01 after re-loading the verifying key.**  For every named curve and `d ∈ [1, n−1]`: the key pair `k` exists; every
serialisation of its verifying key (raw/uncompressed/compressed/hybrid string; DER and PEM with any explicit point
encoding) loads back to `k.vk`; and whatever `sign_digest` returns for `d` (any digest, nonce source, codec pair,
truncation flag) verifies under the point object of that loaded key. -/
theorem reloaded_verifying_key_verifies (hr : r ∈ Gen.curveTable) (hn : Nat.Prime r.n) (d : ℕ) (h1 : 1 ≤ d) (h2 : d < r.n) :
    ∃ k : SK, SK.fromSecretExponent KeysWire.modelExt r d = .ok k ∧
      (∀ enc, ∃ bs, k.vk.toString enc = .ok bs ∧ VK.fromString KeysWire.modelExt r bs true = .ok k.vk) ∧
      (∀ enc, enc ≠ .raw → ∃ bs, k.vk.toDer enc = .ok bs ∧ VK.fromDer KeysWire.modelExt bs = .ok k.vk ∧
        ∃ pem, k.vk.toPem enc = .ok pem ∧ VK.fromPem KeysWire.modelExt pem = .ok k.vk) ∧
      ∀ {β σ : Type} (dg : Bytes) (kk : Option ℤ) (rand : ℤ → Res ℤ) (enc : ℤ → ℤ → ℤ → Res β) (wrap : β → σ)
        (dec : σ → ℕ → Res (ℕ × ℕ)), Codec enc wrap dec r.n → ∀ (allow : Bool) (sig : β),
        signDigest (OnCurve.ops (crvOf r)) d dg kk rand enc allow = .ok sig →
        verifyDigest (OnCurve.ops (crvOf r)) (vkPoint r k.vk) dec (wrap sig) dg allow = .ok true := by
  have hp : Nat.Prime r.p := Fact.out
  obtain ⟨k, hk, -, -, -, -, -, hstr, hder⟩ := C09.all_round_trips_model r hr hp hn d h1 h2
  refine ⟨k, hk, hstr, fun enc he => (hder enc he).1, ?_⟩
  intro β σ dg kk rand enc wrap dec hcodec allow sig hsig
  obtain ⟨hv, hd⟩ := loaded_vk_denotes_dG hr hn d h1 h2 k hk
  exact C01.sign_then_verify (OnCurve.pointOpsCorrect (crvOf r) _ (matches_named hr hn)) (d : ℤ) _ hv hd dg kk rand
    enc wrap dec hcodec allow sig hsig

/-- **a re-loaded signing key makes the same signatures.**  Every serialisation of the signing key (raw string; DER / PEM
in SSLeay and PKCS#8 form with any point encoding DER allows, i.e. not `raw`) loads back to a key with the same scalar, so `sign_digest`
with the loaded key is `sign_digest` with `d`: same `(r, s)` for the same nonce, same bytes for the same encoder. -/
theorem reloaded_signing_key_signs_same (hr : r ∈ Gen.curveTable) (hn : Nat.Prime r.n) (d : ℕ) (h1 : 1 ≤ d) (h2 : d < r.n) :
    ∃ k : SK, SK.fromSecretExponent KeysWire.modelExt r d = .ok k ∧
      (∀ k' : SK, ((∃ bs, k.toString = .ok bs ∧ SK.fromString KeysWire.modelExt r bs = .ok k') ∨
          (∃ enc fmt bs, enc ≠ .raw ∧ k.toDer enc fmt = .ok bs ∧ SK.fromDer KeysWire.modelExt bs = .ok k') ∨
          (∃ enc fmt pem, enc ≠ .raw ∧ k.toPem enc fmt = .ok pem ∧ SK.fromPem KeysWire.modelExt pem = .ok k')) →
        k'.d = d ∧ k'.vk = k.vk ∧
          ∀ {β : Type} (dg : Bytes) (kk : Option ℤ) (rand : ℤ → Res ℤ) (enc : ℤ → ℤ → ℤ → Res β) (allow : Bool),
            signDigest (OnCurve.ops (crvOf r)) (k'.d : ℤ) dg kk rand enc allow
              = signDigest (OnCurve.ops (crvOf r)) (d : ℤ) dg kk rand enc allow) := by
  have hp : Nat.Prime r.p := Fact.out
  obtain ⟨k, hk, -, hkd, -, -, ⟨bs0, hs0, hl0⟩, -, hder⟩ := C09.all_round_trips_model r hr hp hn d h1 h2
  refine ⟨k, hk, ?_⟩
  intro k' hload
  have hkk : k' = k := by
    rcases hload with ⟨bs, e1, e2⟩ | ⟨enc, fmt, bs, he, e1, e2⟩ | ⟨enc, fmt, pem, he, e1, e2⟩
    · rw [hs0] at e1; injection e1 with e1; subst e1
      rw [hl0] at e2; injection e2 with e2; exact e2.symm
    · obtain ⟨bs', f1, f2, _⟩ := (hder enc he).2 fmt
      rw [f1] at e1; injection e1 with e1; subst e1
      rw [f2] at e2; injection e2 with e2; exact e2.symm
    · obtain ⟨bs', f1, f2, pem', g1, g2⟩ := (hder enc he).2 fmt
      rw [g1] at e1; injection e1 with e1; subst e1
      rw [g2] at e2; injection e2 with e2; exact e2.symm
  subst hkk
  exact ⟨hkd, rfl, fun dg kk rand enc allow => by rw [hkd]⟩

/-! ### unconditional on the curves (all 17 of the table) whose p and n carry primality certificates (`NamedPrimes.unconditionalCurves`) -/

theorem reloaded_verifying_key_verifies_unconditional (r : Gen.CurveRow) (hr : r ∈ NamedPrimes.unconditionalCurves)
    (d : ℕ) (h1 : 1 ≤ d) (h2 : d < r.n) :
    ∃ k : SK, SK.fromSecretExponent KeysWire.modelExt r d = .ok k ∧
      (∀ enc, ∃ bs, k.vk.toString enc = .ok bs ∧ VK.fromString KeysWire.modelExt r bs true = .ok k.vk) ∧
      (∀ enc, enc ≠ .raw → ∃ bs, k.vk.toDer enc = .ok bs ∧ VK.fromDer KeysWire.modelExt bs = .ok k.vk ∧
        ∃ pem, k.vk.toPem enc = .ok pem ∧ VK.fromPem KeysWire.modelExt pem = .ok k.vk) ∧
      ∀ {β σ : Type} (dg : Bytes) (kk : Option ℤ) (rand : ℤ → Res ℤ) (enc : ℤ → ℤ → ℤ → Res β) (wrap : β → σ)
        (dec : σ → ℕ → Res (ℕ × ℕ)), Codec enc wrap dec r.n → ∀ (allow : Bool) (sig : β),
        signDigest (OnCurve.ops (crvOf r)) d dg kk rand enc allow = .ok sig →
        verifyDigest (OnCurve.ops (crvOf r)) (vkPoint r k.vk) dec (wrap sig) dg allow = .ok true := by
  obtain ⟨hm, hp, hn⟩ := NamedPrimes.unconditional_subset r hr
  have := Fact.mk hp
  exact reloaded_verifying_key_verifies hm hn d h1 h2

theorem reloaded_signing_key_signs_same_unconditional (r : Gen.CurveRow) (hr : r ∈ NamedPrimes.unconditionalCurves)
    (d : ℕ) (h1 : 1 ≤ d) (h2 : d < r.n) :
    ∃ k : SK, SK.fromSecretExponent KeysWire.modelExt r d = .ok k ∧
      (∀ k' : SK, ((∃ bs, k.toString = .ok bs ∧ SK.fromString KeysWire.modelExt r bs = .ok k') ∨
          (∃ enc fmt bs, enc ≠ .raw ∧ k.toDer enc fmt = .ok bs ∧ SK.fromDer KeysWire.modelExt bs = .ok k') ∨
          (∃ enc fmt pem, enc ≠ .raw ∧ k.toPem enc fmt = .ok pem ∧ SK.fromPem KeysWire.modelExt pem = .ok k')) →
        k'.d = d ∧ k'.vk = k.vk ∧
          ∀ {β : Type} (dg : Bytes) (kk : Option ℤ) (rand : ℤ → Res ℤ) (enc : ℤ → ℤ → ℤ → Res β) (allow : Bool),
            signDigest (OnCurve.ops (crvOf r)) (k'.d : ℤ) dg kk rand enc allow
              = signDigest (OnCurve.ops (crvOf r)) (d : ℤ) dg kk rand enc allow) := by
  obtain ⟨hm, hp, hn⟩ := NamedPrimes.unconditional_subset r hr
  have := Fact.mk hp
  exact reloaded_signing_key_signs_same hm hn d h1 h2

end C01r
