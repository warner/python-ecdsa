import Proofs.EcdsaInstLegacy
import Proofs.EcdsaCodec
import Proofs.EcdsaInstNamed
import Proofs.EcdsaInstToy
import Proofs.EcdsaInstCurve
import Proofs.EcdsaVerify
import Proofs.EcdsaDecode
import Proofs.EcdsaToy
/-!
# C02 — verification accepts exactly the signatures the ECDSA equation accepts

Model: `Ecdsa.verifies` = `Public_key.verifies` (with the F4 repair: `R = ∞` → `False`), `Ecdsa.verifyDigest` =
`VerifyingKey.verify_digest`, `Ecdsa.verify` = `VerifyingKey.verify`; integer tests and expressions are
`Gen.Ecdsa.*` (regenerated from the source on every run).  `Ecdsa.Fips n G Q xc e r s` is the rule of
FIPS 186-4 §6.4.2 / SEC 1 §4.1.4 read literally.  `Q` is any point object the point layer accepts (`valid Q`).
-/
namespace C02
open Ecdsa

variable {P : Type} {𝔾 : Type} [AddCommGroup 𝔾]
variable {ops : PointOps P} {G : 𝔾} {den : P → 𝔾} {xc : 𝔾 → Option ℤ} {valid : P → Prop}

/-- `verifies` returns (never raises), and returns `True` **iff** `1 ≤ r, s ≤ n−1`,
`R = (e·s⁻¹ mod n)•G + (r·s⁻¹ mod n)•Q ≠ 0` and `x(R) mod n = r` — for all integers `e, r, s`. -/
theorem verifies_iff_fips (C : PointOpsCorrect ops G den xc valid) (Q : P) (hQ : valid Q) (e r s : ℤ) :
    (verifies ops Q e r s = .ok true ∨ verifies ops Q e r s = .ok false) ∧
    (verifies ops Q e r s = .ok true ↔
      1 ≤ r ∧ r ≤ ops.order - 1 ∧ 1 ≤ s ∧ s ≤ ops.order - 1 ∧
      ((e * invZ ops.order s) % ops.order) • G + ((r * invZ ops.order s) % ops.order) • den Q ≠ 0 ∧
      ∃ x, xc (((e * invZ ops.order s) % ops.order) • G + ((r * invZ ops.order s) % ops.order) • den Q) = some x
        ∧ x % ops.order = r) :=
  ⟨verifies_total C Q hQ e r s, verifies_iff C Q hQ e r s⟩

/-- when the key lies in the group generated by `G` (`n • Q = 0`) the reductions of `u₁, u₂` mod n can be dropped:
`R = (e/s)•G + (r/s)•Q` -/
theorem fips_unreduced (C : PointOpsCorrect ops G den xc valid) (Q : 𝔾) (hQ : ops.order • Q = 0) (e r s : ℤ) :
    ((e * invZ ops.order s) % ops.order) • G + ((r * invZ ops.order s) % ops.order) • Q
      = (e * invZ ops.order s) • G + (r * invZ ops.order s) • Q := by
  rw [zsmul_congr_mod C.nG (Int.mod_modEq _ _), zsmul_congr_mod hQ (Int.mod_modEq _ _)]

/-- **Outcomes of `verify_digest`** (for a NON-EMPTY digest, hypothesis `hne`; see `verify_digest_empty_digest`) for anything offered as a signature through a decoder whose failures are
`UnexpectedDER` / `MalformedSignature` only: the result is `True`, `BadSignatureError` or `BadDigestError` —
never a false value, never another exception; `BadDigestError` iff truncation is disabled and the digest is
longer than the order; `True` iff the digest converts, the signature decodes and the FIPS rule holds. -/
theorem verify_digest_outcomes {σ : Type} (C : PointOpsCorrect ops G den xc valid) (Q : P) (hQ : valid Q)
    (dec : σ → ℕ → Res (ℕ × ℕ)) (hdec : DecodeErrorsCaught dec) (sig : σ) (dg : Bytes) (hne : dg ≠ []) (allow : Bool) :
    (verifyDigest ops Q dec sig dg allow = .ok true ∨ verifyDigest ops Q dec sig dg allow = .error .badSignature
      ∨ verifyDigest ops Q dec sig dg allow = .error .badDigest) ∧
    (verifyDigest ops Q dec sig dg allow = .error .badDigest ↔ allow = false ∧ dg.length > baselen ops) ∧
    (verifyDigest ops Q dec sig dg allow = .ok true ↔
      ∃ e r s, truncateAndConvertDigest dg (baselen ops) ops.order allow = .ok e ∧
        dec sig ops.order.toNat = .ok (r, s) ∧ Fips ops.order G (den Q) xc e r s) := by
  have ht := truncate_total ops C.n_pos dg hne allow
  -- in each case the value of `verify_digest` is computed first; the three claims are then read off
  by_cases hna : allow = false ∧ dg.length > baselen ops
  · rw [if_pos hna] at ht
    have hres : verifyDigest ops Q dec sig dg allow = .error .badDigest := by
      unfold verifyDigest; rw [ht]; rfl
    rw [hres]
    refine ⟨?outcome, ?bad_digest, ?accepted⟩
    case outcome => exact .inr (.inr rfl)
    case bad_digest => exact iff_of_true rfl hna
    case accepted => exact ⟨nofun, fun ⟨e, r, s, h1, _⟩ => by rw [ht] at h1; cases h1⟩
  rw [if_neg hna] at ht
  generalize (if allow = true then _ else _ : ℤ) = e at ht
  cases hd : dec sig ops.order.toNat with
  | error err =>
    have hres : verifyDigest ops Q dec sig dg allow = .error .badSignature := by
      unfold verifyDigest; rw [ht, hd]
      rcases hdec _ _ _ hd with h | h <;> subst h <;> rfl
    rw [hres]
    refine ⟨?outcome, ?bad_digest, ?accepted⟩
    case outcome => exact .inr (.inl rfl)
    case bad_digest => exact ⟨nofun, fun h => absurd h hna⟩
    case accepted => exact ⟨nofun, fun ⟨_, _, _, _, h2, _⟩ => by cases h2⟩
  | ok rs =>
    obtain ⟨r, s⟩ := rs
    rw [verifyDigest_eq_fips C Q hQ ht hd]
    by_cases hf : Fips ops.order G (den Q) xc e r s
    · rw [if_pos hf]
      refine ⟨?outcome, ?bad_digest, ?accepted⟩
      case outcome => exact .inl rfl
      case bad_digest => exact ⟨nofun, fun h => absurd h hna⟩
      case accepted => exact iff_of_true rfl ⟨e, r, s, ht, rfl, hf⟩
    · rw [if_neg hf]
      refine ⟨?outcome, ?bad_digest, ?accepted⟩
      case outcome => exact .inr (.inl rfl)
      case bad_digest => exact ⟨nofun, fun h => absurd h hna⟩
      case accepted => exact ⟨nofun, fun ⟨_, _, _, h1, h2, h3⟩ => by rw [ht] at h1; cases h1; cases h2; exact absurd h3 hf⟩

/-- **the hypothesis `dg ≠ []` above is necessary**: on an empty digest `verify_digest` raises `ValueError` (from
`int(b"", 16)` in `string_to_number`), whatever the signature, key and flag — the one input class on which the outcome is
not in {True, BadSignatureError, BadDigestError}.  The property quantifies over non-empty digests (DESIGN §2, §10.3). -/
theorem verify_digest_empty_digest {σ : Type} (ops : PointOps P) (Q : P) (dec : σ → ℕ → Res (ℕ × ℕ)) (sig : σ) (allow : Bool) :
    verifyDigest ops Q dec sig [] allow = .error .valueError := by
  unfold verifyDigest
  rw [truncate_empty]; rfl

/-- the raw-string decoder qualifies -/
theorem verify_digest_outcomes_string (C : PointOpsCorrect ops G den xc valid) (Q : P) (hQ : valid Q)
    (sig dg : Bytes) (hne : dg ≠ []) (allow : Bool) :
    verifyDigest ops Q Util.sigdecodeString sig dg allow = .ok true
      ∨ verifyDigest ops Q Util.sigdecodeString sig dg allow = .error .badSignature
      ∨ verifyDigest ops Q Util.sigdecodeString sig dg allow = .error .badDigest :=
  (verify_digest_outcomes C Q hQ _ sigdecodeString_errors sig dg hne allow).1

/-- the string-pair decoder qualifies (any list of byte strings is offered) -/
theorem verify_digest_outcomes_strings (C : PointOpsCorrect ops G den xc valid) (Q : P) (hQ : valid Q)
    (sig : List Bytes) (dg : Bytes) (hne : dg ≠ []) (allow : Bool) :
    verifyDigest ops Q Util.sigdecodeStrings sig dg allow = .ok true
      ∨ verifyDigest ops Q Util.sigdecodeStrings sig dg allow = .error .badSignature
      ∨ verifyDigest ops Q Util.sigdecodeStrings sig dg allow = .error .badDigest :=
  (verify_digest_outcomes C Q hQ _ sigdecodeStrings_errors sig dg hne allow).1

/-- the DER decoder qualifies (`C12.sigdecode_der_errors`: it fails only with `UnexpectedDER`): every byte string
offered as a DER signature ends in `True`, `BadSignatureError` or `BadDigestError` -/
theorem verify_digest_outcomes_der (C : PointOpsCorrect ops G den xc valid) (Q : P) (hQ : valid Q)
    (sig dg : Bytes) (hne : dg ≠ []) (allow : Bool) :
    verifyDigest ops Q Util.sigdecodeDer sig dg allow = .ok true
      ∨ verifyDigest ops Q Util.sigdecodeDer sig dg allow = .error .badSignature
      ∨ verifyDigest ops Q Util.sigdecodeDer sig dg allow = .error .badDigest :=
  (verify_digest_outcomes C Q hQ _ derErrorsCaught sig dg hne allow).1

/-- accepted DER signatures are canonical: `True` only for the bytes `sigencode_der(r, s)` of the decoded pair
(`C12.sigdecode_der_canonical`) — a padded / non-minimal / trailing-junk rendering of a valid pair is refused -/
theorem verify_digest_der_accepts_only_canonical (C : PointOpsCorrect ops G den xc valid) (Q : P) (hQ : valid Q)
    (sig dg : Bytes) (hne : dg ≠ []) (allow : Bool)
    (h : verifyDigest ops Q Util.sigdecodeDer sig dg allow = .ok true) :
    ∃ r s : ℕ, Util.sigencodeDer r s ops.order.toNat = .ok sig := by
  obtain ⟨e, r, s, -, hd, -⟩ := (verify_digest_outcomes C Q hQ _ derErrorsCaught sig dg hne allow).2.2.mp h
  exact ⟨r, s, C12.sigdecode_der_canonical hd⟩

/-- `verify` (hashing entry point) is `verify_digest` of the hash: same outcomes for every hash function with
non-empty output -/
theorem verify_outcomes {σ : Type} (C : PointOpsCorrect ops G den xc valid) (Q : P) (hQ : valid Q)
    (H : Bytes → Bytes) (hH : ∀ m, H m ≠ []) (dec : σ → ℕ → Res (ℕ × ℕ)) (hdec : DecodeErrorsCaught dec)
    (sig : σ) (data : Bytes) (allow : Bool) :
    verify ops Q H dec sig data allow = .ok true ∨ verify ops Q H dec sig data allow = .error .badSignature
      ∨ verify ops Q H dec sig data allow = .error .badDigest :=
  (verify_digest_outcomes C Q hQ dec hdec sig (H data) (hH data) allow).1

/-! ### non-vacuity on the toy instance (group of order 7, key Q = 3•G; digest a0 has leftmost 3 bits 101 = 5) -/

/-- an accepted and a rejected pair: (r, s) = (2, 2) for e = 5 verifies under Q = 3 (it is the signature made in
`C03`), (2, 3) does not; r = 0 and s = 7 are refused; the pair with R = ∞ (e = 1, r = 2, s = 1: u₁ + 3u₂ = 7) is
refused without an exception -/
example : verifies Toy.ops (3 : ZMod 7) 5 2 2 = .ok true ∧ verifies Toy.ops (3 : ZMod 7) 5 2 3 = .ok false
    ∧ verifies Toy.ops (3 : ZMod 7) 5 0 2 = .ok false ∧ verifies Toy.ops (3 : ZMod 7) 5 2 7 = .ok false
    ∧ verifies Toy.ops (3 : ZMod 7) 1 2 1 = .ok false := by decide +kernel

example : verifyDigest Toy.ops (3 : ZMod 7) Util.sigdecodeString [2, 2] [0xa0] true = .ok true
    ∧ verifyDigest Toy.ops (3 : ZMod 7) Util.sigdecodeString [2, 3] [0xa0] true = .error .badSignature
    ∧ verifyDigest Toy.ops (3 : ZMod 7) Util.sigdecodeString [2] [0xa0] true = .error .badSignature
    ∧ verifyDigest Toy.ops (3 : ZMod 7) Util.sigdecodeString [2, 2] [0xa0, 5] false = .error .badDigest := by
  decide +kernel

/-! ### the same, for the model of the real point classes
`OnCurve.ops c` under `OnCurve.Matches c C`, any point object `OnCurve.Valid C Q` as the key (Proofs/EcdsaInstCurve.lean). -/
section OnCurve
open GroupInterface
variable {p : ℕ} [Fact p.Prime] {a b : ℤ}

theorem verifies_iff_fips_on_curve (c : Affine.Crv) (C : Ctx p a b) (M : OnCurve.Matches c C) (Q : Curve.Pt)
    (hQ : OnCurve.Valid C Q) (e r s : ℤ) :
    (verifies (OnCurve.ops c) Q e r s = .ok true ∨ verifies (OnCurve.ops c) Q e r s = .ok false) ∧
    (verifies (OnCurve.ops c) Q e r s = .ok true ↔ Fips c.n C.G (OnCurve.den C Q) OnCurve.xcOf e r s) :=
  verifies_iff_fips (OnCurve.pointOpsCorrect c C M) Q hQ e r s

theorem verify_digest_outcomes_on_curve {σ : Type} (c : Affine.Crv) (C : Ctx p a b) (M : OnCurve.Matches c C)
    (Q : Curve.Pt) (hQ : OnCurve.Valid C Q) (dec : σ → ℕ → Res (ℕ × ℕ)) (hdec : DecodeErrorsCaught dec) (sig : σ)
    (dg : Bytes) (hne : dg ≠ []) (allow : Bool) :
    verifyDigest (OnCurve.ops c) Q dec sig dg allow = .ok true
      ∨ verifyDigest (OnCurve.ops c) Q dec sig dg allow = .error .badSignature
      ∨ verifyDigest (OnCurve.ops c) Q dec sig dg allow = .error .badDigest :=
  (verify_digest_outcomes (OnCurve.pointOpsCorrect c C M) Q hQ dec hdec sig dg hne allow).1

example : ∃ C : Ctx 11 1 6, OnCurve.Matches OnCurve.toyCrv C := OnCurve.toy_matches

end OnCurve

/-! ### the named curves
The 16 rows with cofactor 1, under **p prime, n prime, #E(𝔽_p) = n**.  Neither the last hypothesis nor the restriction to
these rows is needed: `Named.verifies_iff_fips` (Props/Named.lean) has the same conclusion for every row of the table
from p, n prime alone. -/
section Named
open GroupInterface

theorem verifies_iff_fips_named (row : Gen.CurveRow) (hrow : row ∈ [Gen.curve_NIST192p, Gen.curve_NIST224p, Gen.curve_NIST256p, Gen.curve_NIST384p,
      Gen.curve_NIST521p, Gen.curve_SECP256k1, Gen.curve_BRAINPOOLP160r1, Gen.curve_BRAINPOOLP192r1,
      Gen.curve_BRAINPOOLP224r1, Gen.curve_BRAINPOOLP256r1, Gen.curve_BRAINPOOLP320r1, Gen.curve_BRAINPOOLP384r1,
      Gen.curve_BRAINPOOLP512r1, Gen.curve_SECP112r1, Gen.curve_SECP128r1, Gen.curve_SECP160r1])
    [Fact row.p.Prime] (hnp : row.n.Prime)
    (hcard : Nat.card (Jac.Grp ((row.a : ℤ) : ZMod row.p) ((row.b : ℤ) : ZMod row.p)) = row.n) :
    ∃ C : Ctx row.p row.a row.b, C.n = row.n ∧ ∀ (Q : Curve.Pt), OnCurve.Valid C Q → ∀ e r s : ℤ,
      (verifies (OnCurve.ops (OnCurve.crvOfRow row)) Q e r s = .ok true ↔
        Fips row.n C.G (OnCurve.den C Q) OnCurve.xcOf e r s) := by
  obtain ⟨C, M, hn⟩ := OnCurve.matchesRec_of_row row hnp hcard (OnCurve.named_sublist.subset hrow)
  exact ⟨C, hn, fun Q hQ e r s => (verifies_iff_fips_on_curve _ C M.toMatches Q hQ e r s).2⟩

end Named

/-! ### user-built curves whose generator is a legacy affine `Point` (no `mul_add`)
`Public_key.verifies` then computes `u1 * G + u2 * Q` with `Point.__mul__`, `PointJacobi.__mul__` and the mixed
`__add__` / `__radd__` dispatch; keys may be legacy `Point` values (`OnCurve.ValidL`, Proofs/EcdsaInstLegacy.lean). -/
section Legacy
open GroupInterface
variable {p : ℕ} [Fact p.Prime] {a b : ℤ}

theorem verifies_iff_fips_legacy (c : Affine.Crv) (C : Ctx p a b) (M : OnCurve.MatchesL c C) (Q : Curve.Pt)
    (hQ : OnCurve.ValidL C Q) (e r s : ℤ) :
    (verifies (OnCurve.ops c) Q e r s = .ok true ∨ verifies (OnCurve.ops c) Q e r s = .ok false) ∧
    (verifies (OnCurve.ops c) Q e r s = .ok true ↔ Fips c.n C.G (OnCurve.den C Q) OnCurve.xcOf e r s) :=
  verifies_iff_fips (OnCurve.pointOpsCorrect_legacy c C M) Q hQ e r s

example : ∃ C : Ctx 11 1 6, OnCurve.MatchesL OnCurve.toyCrvL C := OnCurve.toy_matchesL

end Legacy

/-! ### evaluated by the kernel on the model of the real point classes (toy curve y² = x³ + x + 6 over 𝔽₁₁, G = (2,7),
n = 13; key Q = 3G = (8,3)) -/
set_option maxRecDepth 4000 in
example :
    let Q : Curve.Pt := .jac ⟨OnCurve.crvOf OnCurve.toyCrv, 8, 3, 1, some 13, false⟩
    verifies (OnCurve.ops OnCurve.toyCrv) Q 5 5 10 = .ok true       -- the honest signature of C03's instance
    ∧ verifies (OnCurve.ops OnCurve.toyCrv) Q 5 5 4 = .ok false
    ∧ verifies (OnCurve.ops OnCurve.toyCrv) Q 5 0 10 = .ok false ∧ verifies (OnCurve.ops OnCurve.toyCrv) Q 5 13 10 = .ok false
    ∧ verifies (OnCurve.ops OnCurve.toyCrv) Q 5 7 1 = .ok false     -- r = −e/d = 7: R = ∞ (the F4 situation), no exception
    ∧ verifyDigest (OnCurve.ops OnCurve.toyCrv) Q Util.sigdecodeDer [48, 6, 2, 1, 5, 2, 1, 10] [0x50] true = .ok true
    -- the same valid pair with a zero-padded INTEGER (00 05): refused
    ∧ verifyDigest (OnCurve.ops OnCurve.toyCrv) Q Util.sigdecodeDer [48, 7, 2, 2, 0, 5, 2, 1, 10] [0x50] true = .error .badSignature := by
  decide +kernel

end C02
