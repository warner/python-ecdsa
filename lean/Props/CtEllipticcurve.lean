import Generated.RestGuards
import Proofs.RestSkel
/-!
# CtEllipticcurve — translator tie of the parts of `ellipticcurve.py` that no other generator covers

`Tie.skel_mod`: the module-level skeleton re-extracted from the working tree by `gen_rest.py` (imports, constants,
dispatch `if`s with the definitions inside them, class-level statements; functions / methods by header) equals the
transcribed one (`Proofs/RestSkel.lean`); `Tie.skel_<function>`: likewise for each function of the module that
`harness/tiecoverage.py` found outside every other generator.
-/
namespace CtEllipticcurve.Tie
open Gen.Rest

theorem skel_mod : skel_mod_ellipticcurve = Rest.Skel.mod_ellipticcurve := rfl
theorem skel_Point_x : skel_ellipticcurve_Point_x = Rest.Skel.ellipticcurve_Point_x := rfl
theorem skel_Point_y : skel_ellipticcurve_Point_y = Rest.Skel.ellipticcurve_Point_y := rfl
theorem skel_Point_curve : skel_ellipticcurve_Point_curve = Rest.Skel.ellipticcurve_Point_curve := rfl
theorem skel_Point_order : skel_ellipticcurve_Point_order = Rest.Skel.ellipticcurve_Point_order := rfl

end CtEllipticcurve.Tie
