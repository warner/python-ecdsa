import Proofs.CurveObjTie
/-!
# C06t — translator tie of the point-object layer used by C06 (group law): `CurveFp`, `PointJacobi.__eq__ / x / y /
scale / to_affine / from_affine / double / __add__ / __radd__ / __neg__`, legacy `Point.__init__ / __eq__ / __neg__ /
__add__ / double`

The theorems are `C06t.Tie.*` in `Proofs/CurveObjTie.lean` (listed in `C06t.expected`).  A change of an early exit, of a
call argument (`-Y`, the literal `1`), of a modulus or of a formula in the source breaks one of them.
-/
namespace C06t

/-- non-vacuity: the tie is about the functions the checks execute — `(3, 6)` doubled on y² = x³ + x + 6 over 𝔽₁₁ -/
example : Curve.pjDouble ⟨⟨11, 1, 6, none⟩, 3, 6, 1, none, false⟩
    = .jac ⟨⟨11, 1, 6, none⟩, 8, 8, 1, none, false⟩ := by decide +kernel

end C06t
