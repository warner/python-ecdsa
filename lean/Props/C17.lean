import Model.Rand
import Proofs.RandLoop
import Proofs.RandUniform
import Proofs.RandUniformLoop
import Proofs.RandSeed
import Proofs.RandSource
/-!
# C17 — secret scalars and nonces drawn from entropy are in range, unbiased, replayable

Model: `Model/Rand.lean` (tied to `util.py` / `keys.py` by the correspondence run of `harness/props/C17.py`).
The entropy source is an arbitrary function `List Nat → Res Bytes` (sizes requested so far ↦ chunk of any
length, or an exception); SHA-256 and the float-derived bit count of `bits_and_bytes` are parameters.

Not provable, hence not claimed: termination of the rejection loops (probability 1 under uniform
entropy, not certainty).  Every statement is of the form "if the call returns …"; `none` (fuel
exhausted) is not an outcome of the code.
-/
namespace C17
open Rand Bits

/-- the request size in the code's terms: `⌊b/8⌋ + 1` bytes, `b = bit_length(order − 2)` with 0 read as 1 -/
theorem request_size (order : Int) :
    upper2 order = (if bitLength (order - 2).toNat = 0 then 1 else bitLength (order - 2).toNat) ∧
    upper256 order = upper2 order / 8 + 1 := ⟨rfl, rfl⟩

/-- `randrange` is a function of the chunks handed out: a returned `k` is `oneDraw` of the first accepted chunk, after `j`
rejected ones; each iteration asks the source afresh for exactly `⌊b/8⌋ + 1` bytes and the history grows by nothing else -/
theorem randrange_deterministic (ent : Entropy) (order : Int) (hist : List Nat) (fuel : Nat) (k : Nat) (hist' : List Nat)
    (h : randrange ent order hist fuel = some (.ok (k, hist'))) :
    ∃ j, j < fuel ∧ hist' = hist ++ List.replicate (j + 1) (upper256 order) ∧
      (∀ i, i < j → ∃ c, ent (hist ++ List.replicate (i + 1) (upper256 order)) = .ok c ∧ oneDraw order c = .ok none) ∧
      ∃ c, ent (hist ++ List.replicate (j + 1) (upper256 order)) = .ok c ∧ oneDraw order c = .ok (some k) := by
  unfold randrange at h
  split at h
  · exact randrangeLoop_ok h
  · cases h

/-- whatever the entropy source does (any chunk lengths, any exceptions), a value returned by
`randrange(order, entropy)` lies in `[1, order - 1]` -/
theorem randrange_range (ent : Entropy) (order : Int) (hist : List Nat) (fuel : Nat) (k : Nat) (hist' : List Nat)
    (h : randrange ent order hist fuel = some (.ok (k, hist'))) : 1 ≤ k ∧ (k : Int) < order := by
  obtain ⟨_, _, _, _, _, _, hd⟩ := randrange_deterministic ent order hist fuel k hist' h
  exact oneDraw_some_range hd

/-- non-vacuity: on the order of NIST P-192 a first chunk with top bits = 2^192 − 1 is rejected, the second is taken -/
example : randrange (streamEntropy (List.replicate 25 255 ++ List.replicate 24 0 ++ [7, 9]))
    6277101735386680763835789423176059013767194773182842284081 [] 5 = some (.ok (1, [25, 25])) := by
  -- the bit count from its two bounds and each draw in arithmetic form: `bit_length` and `bin` do not evaluate on 200 bits
  generalize hn : (6277101735386680763835789423176059013767194773182842284081 : Int) = n
  have hb : upper2 n = 192 := by
    rw [← hn, upper2, bitLength1, bitLength_eq (b := 191) (by decide) (by decide)]
    rfl
  have hu : upper256 n = 25 := by rw [upper256, hb]
  have h := randrangeLoop_complete (ent := streamEntropy (List.replicate 25 255 ++ List.replicate 24 0 ++ [7, 9]))
    (order := n) 1 5 [] 1 (by decide)
  rw [hu] at h
  rw [randrange, if_pos (by rw [← hn]; decide)]
  refine h (fun i hi => ?_) ⟨List.replicate 24 0 ++ [7], rfl, ?_⟩
  · obtain rfl : i = 0 := by omega
    refine ⟨List.replicate 25 255, rfl, ?_⟩
    rw [oneDraw_eq _ _ (by decide), topBits, hb, ← hn]
    decide +kernel
  · rw [oneDraw_eq _ _ (by decide), topBits, hb, ← hn]
    decide +kernel

/-- replayability: two entropy sources that answer the requests of this call alike (same chunks, same exceptions) give
the same outcome — value, history, exception; so the same scripted stream gives the same key and the same nonce -/
theorem randrange_replay (ent₁ ent₂ : Entropy) (order : Int) (hist : List Nat) (fuel : Nat)
    (h : ∀ i, ent₁ (hist ++ List.replicate (i + 1) (upper256 order)) = ent₂ (hist ++ List.replicate (i + 1) (upper256 order))) :
    randrange ent₁ order hist fuel = randrange ent₂ order hist fuel := by
  unfold randrange
  rw [randrangeLoop_congr fuel hist h]

/-- converse of `randrange_deterministic`: the two together say exactly which value is returned -/
theorem randrange_returns (ent : Entropy) (order : Int) (ho : 1 < order) (hist : List Nat) (fuel j k : Nat) (hj : j < fuel)
    (hrej : ∀ i, i < j → ∃ c, ent (hist ++ List.replicate (i + 1) (upper256 order)) = .ok c ∧ oneDraw order c = .ok none)
    (hacc : ∃ c, ent (hist ++ List.replicate (j + 1) (upper256 order)) = .ok c ∧ oneDraw order c = .ok (some k)) :
    randrange ent order hist fuel = some (.ok (k, hist ++ List.replicate (j + 1) (upper256 order))) := by
  unfold randrange
  rw [if_pos ho]
  exact randrangeLoop_complete j fuel hist k hj hrej hacc

/-- **successive draws consume fresh bytes.**  On a scripted stream `s`, a draw started after the requests `hist` is the
draw from scratch on the unread remainder `s.drop (sum hist)` — it cannot see the bytes of earlier draws — and after it
returns the bytes consumed are still within the stream, so the statement chains to the next draw. -/
theorem randrange_fresh_bytes (s : Bytes) (order : Int) (hist : List Nat) (fuel : Nat) (hsum : hist.sum ≤ s.length) :
    randrange (streamEntropy s) order hist fuel =
      relabel hist (randrange (streamEntropy (s.drop hist.sum)) order [] fuel) ∧
    ∀ k hist', randrange (streamEntropy s) order hist fuel = some (.ok (k, hist')) →
      hist.sum < hist'.sum ∧ hist'.sum ≤ s.length := by
  constructor
  · unfold randrange
    split
    · have := randrangeLoop_stream_shift s order hist hsum fuel []
      simpa using this
    · rfl
  · intro k hist' h
    obtain ⟨j, _, hh, _, c, hc, _⟩ := randrange_deterministic _ _ _ _ _ _ h
    have e : hist ++ List.replicate (j + 1) (upper256 order) = (hist ++ List.replicate j (upper256 order)) ++ [upper256 order] := by
      rw [List.replicate_succ', List.append_assoc]
    rw [e, streamEntropy_snoc] at hc
    split at hc
    · cases hc
    · rename_i hle
      rw [hh, e]
      simp only [List.sum_append, List.sum_replicate_nat, List.sum_cons, List.sum_nil] at hle ⊢
      have : 0 < upper256 order := by unfold upper256; omega
      constructor <;> omega

/-- non-vacuity of `randrange_deterministic` / `_replay`: order 2 (`order − 2 = 0`, bit length read as 1), three
rejected one-byte chunks then an accepted one -/
example : randrange (streamEntropy [255, 128, 255, 0]) 2 [] 9 = some (.ok (1, [1, 1, 1, 1])) ∧
    randrange (chunkEntropy [[255], [128], [255], [0]]) 2 [] 9 = some (.ok (1, [1, 1, 1, 1])) := by decide +kernel

/-- **exact uniformity.**  The number of byte strings of the requested length that one iteration maps to a target
`t ∈ [1, n − 1]` is `2^(8·len − b)`, the same for every `t` (first conjunct); `allChunks len` is every byte string of that
length, once (second, third); a chunk of that length is accepted with the value `top b bits + 1 < n` or rejected, never
an error (fourth).  Hence under independent uniform chunks the returned value is exactly uniform on `[1, n − 1]`. -/
theorem randrange_uniform (n : Int) (_hn : 2 ≤ n) :
    (∀ t : Nat, 1 ≤ t → (t : Int) < n →
      ((allChunks (upper256 n)).filter (fun c => decide (oneDraw n c = .ok (some t)))).length
        = 2 ^ (8 * upper256 n - upper2 n)) ∧
    (∀ c : Bytes, c ∈ allChunks (upper256 n) ↔ c.length = upper256 n) ∧
    (allChunks (upper256 n)).Nodup ∧
    (∀ c : Bytes, c.length = upper256 n →
      (∃ t, oneDraw n c = .ok (some t) ∧ t = topBits n c + 1 ∧ 1 ≤ t ∧ (t : Int) < n) ∨
      (oneDraw n c = .ok none ∧ n ≤ (topBits n c + 1 : Nat))) := by
  refine ⟨?_, mem_allChunks _, allChunks_nodup _, oneDraw_total n⟩
  intro t h1 h2
  rw [count_target n t h1 h2, perTarget, Nat.mul_comm]

/-- no modulo bias -/
theorem randrange_unbiased (n : Int) (hn : 2 ≤ n) (t t' : Nat) (h1 : 1 ≤ t) (h2 : (t : Int) < n) (h1' : 1 ≤ t') (h2' : (t' : Int) < n) :
    ((allChunks (upper256 n)).filter (fun c => decide (oneDraw n c = .ok (some t)))).length =
    ((allChunks (upper256 n)).filter (fun c => decide (oneDraw n c = .ok (some t')))).length := by
  rw [(randrange_uniform n hn).1 t h1 h2, (randrange_uniform n hn).1 t' h1' h2']

/-- non-vacuity: n = 2 (b read as 1: 128 of the 256 one-byte chunks give 1, the others are rejected) and n = 5 -/
example : ((allChunks (upper256 2)).filter (fun c => decide (oneDraw 2 c = .ok (some 1)))).length = 128 ∧
    2 ^ (8 * upper256 2 - upper2 2) = 128 ∧
    ((allChunks (upper256 5)).filter (fun c => decide (oneDraw 5 c = .ok (some 4)))).length = 64 := by
  rw [filter_allChunks_oneDraw, filter_allChunks_oneDraw]
  decide +kernel

/-- **exact uniformity of the value returned by the whole rejection loop.**  Over every sequence of `k` chunks of the
requested length (`allSeqs`, each once: second and third conjunct), i.e. `k` independent uniform chunks, the number of
sequences on which `randrange` returns `t` is `loopCount n k`, defined without mentioning `t` (fourth: accepted at the
first draw, or first chunk rejected and then the same count again).  Hence, conditional on terminating within `k` draws,
for every `k`, the returned value is exactly uniform on `[1, n − 1]` (last conjunct). -/
theorem randrange_uniform_loop (n : Int) (hn : 1 < n) (k : Nat) :
    (∀ t : Nat, 1 ≤ t → (t : Int) < n →
      ((allSeqs (upper256 n) k).filter (fun cs => returnsValue (randrange (chunkEntropy cs) n [] k) t)).length = loopCount n k) ∧
    (∀ cs : List Bytes, cs ∈ allSeqs (upper256 n) k ↔ cs.length = k ∧ ∀ c ∈ cs, c.length = upper256 n) ∧
    (allSeqs (upper256 n) k).length = (256 ^ upper256 n) ^ k ∧
    (loopCount n 0 = 0 ∧ ∀ j, loopCount n (j + 1) =
      2 ^ (8 * upper256 n - upper2 n) * (256 ^ upper256 n) ^ j + rejected n * loopCount n j) ∧
    (∀ t t' : Nat, 1 ≤ t → (t : Int) < n → 1 ≤ t' → (t' : Int) < n →
      ((allSeqs (upper256 n) k).filter (fun cs => returnsValue (randrange (chunkEntropy cs) n [] k) t)).length =
      ((allSeqs (upper256 n) k).filter (fun cs => returnsValue (randrange (chunkEntropy cs) n [] k) t')).length) := by
  have key : ∀ t : Nat, 1 ≤ t → (t : Int) < n →
      ((allSeqs (upper256 n) k).filter (fun cs => returnsValue (randrange (chunkEntropy cs) n [] k) t)).length = loopCount n k := by
    intro t h1 h2
    rw [← count_loop n t h1 h2 k]
    congr 1
    apply List.filter_congr
    intro cs hcs
    exact randrange_chunkEntropy cs n hn t k (by rw [((mem_allSeqs _ _ _).1 hcs).1]; exact Nat.le_refl _)
  refine ⟨key, mem_allSeqs _ _, allSeqs_length _ _, ⟨rfl, ?_⟩, ?_⟩
  · intro j
    show perTarget n * _ + _ = _
    rw [perTarget, Nat.mul_comm (upper256 n) 8]
  · intro t t' h1 h2 h1' h2'
    rw [key t h1 h2, key t' h1' h2']

/-- non-vacuity: n = 3 (b = 1, one-byte chunks: top bit 0 ↦ 1, top bit 1 ↦ 2, nothing rejected) and n = 2 (half of the
chunks rejected): sequences of 2 chunks -/
example : loopCount 3 2 = 128 * 256 ∧ rejected 3 = 0 ∧ loopCount 2 2 = 128 * 256 + 128 * 128 ∧ rejected 2 = 128 ∧
    returnsValue (randrange (chunkEntropy [[255], [3]]) 2 [] 2) 1 = true := by
  -- `loopCount` is unfolded on a variable and `rejected` replaced by its value before evaluating: one sweep per table
  have two : ∀ n, loopCount n 2 =
      perTarget n * (256 ^ upper256 n) ^ 1 + rejected n * (perTarget n * (256 ^ upper256 n) ^ 0 + rejected n * 0) := fun _ => rfl
  have h3 : rejected 3 = 0 := by rw [rejected, filter_allChunks_oneDraw]; decide +kernel
  have h2 : rejected 2 = 128 := by rw [rejected, filter_allChunks_oneDraw]; decide +kernel
  refine ⟨?_, h3, ?_, h2, by decide +kernel⟩
  · rw [two, h3]; decide +kernel
  · rw [two, h2]; decide +kernel

/-- `SigningKey.generate` draws the secret exponent with `randrange(curve.order, entropy)`: same value,
same requests, same exceptions; the range check of `from_secret_exponent` (`MalformedPointError`) never fires -/
theorem generate_uses_randrange (ent : Entropy) (order : Int) (hist : List Nat) (fuel : Nat) :
    skGenerate ent order hist fuel = randrange ent order hist fuel ∧
    ∀ d hist', skGenerate ent order hist fuel = some (.ok (d, hist')) → 1 ≤ d ∧ (d : Int) < order := by
  have key : skGenerate ent order hist fuel = randrange ent order hist fuel := by
    unfold skGenerate
    split
    · rename_i h; rw [h]
    · rename_i h; rw [h]
    · rename_i secexp hist' h
      have := randrange_range ent order hist fuel secexp hist' h
      rw [if_pos this, h]
  refine ⟨key, ?_⟩
  intro d hist' h
  rw [key] at h
  exact randrange_range ent order hist fuel d hist' h

/-- `sign_number` without an explicit `k`: the nonce handed to the signing primitive is the value of
`randrange(order, entropy)`, it lies in `[1, order − 1]`, and the `assert` never fails -/
theorem sign_nonce_in_range {σ : Type} (sign : Int → Res σ) (ent : Entropy) (order : Int) (hist : List Nat) (fuel : Nat) :
    signNumber sign ent order none hist fuel =
      (match randrange ent order hist fuel with
       | none => none
       | some (.error e) => some (.error e)
       | some (.ok (k, hist')) => some ((sign k).map (·, hist'))) ∧
    ∀ k hist', randrange ent order hist fuel = some (.ok (k, hist')) → 1 ≤ (k : Int) ∧ (k : Int) < order := by
  refine ⟨?_, ?_⟩
  · unfold signNumber
    simp only
    cases hr : randrange ent order hist fuel with
    | none => rfl
    | some r =>
      cases r with
      | error e => rfl
      | ok p =>
        obtain ⟨k, hist'⟩ := p
        have := randrange_range ent order hist fuel k hist' hr
        simp only
        rw [if_pos ⟨this.1, this.2⟩]
  · intro k hist' h
    have := randrange_range ent order hist fuel k hist' h
    exact ⟨by omega, this.2⟩

/-- non-vacuity: key generation then a nonce from the same stream (fresh bytes: requests [1] then [1, 1]) -/
example : skGenerate (streamEntropy [64, 255, 32]) 7 [] 5 = some (.ok (3, [1])) ∧
    signNumber (fun k => .ok k) (streamEntropy [64, 255, 32]) 7 none [1] 5 = some (.ok (2, [1, 1, 1])) := by decide +kernel

/-- the PRNG is the hash in counter mode over the formatted seed: what has been read so far, followed by the unread
buffer, is `H("prng-0-<seed>") ‖ H("prng-1-<seed>") ‖ …`; a read of `n` bytes returns exactly `n` bytes -/
theorem prng_stream (H : Bytes → Bytes) (seedStr : Bytes) :
    PrngInv H seedStr [] prngInit ∧
    ∀ (fuel n : Nat) (st st' : PrngState) (consumed bs : Bytes), PrngInv H seedStr consumed st →
      prngRead H seedStr fuel n st = some (bs, st') → PrngInv H seedStr (consumed ++ bs) st' ∧ bs.length = n :=
  ⟨prngInv_init H seedStr, fun _ _ _ _ _ _ hinv h => prngRead_inv hinv h⟩

theorem prng_block_input (i : Nat) (seedStr : Bytes) :
    prngInput i seedStr = "prng-".toUTF8.toList ++ (toString i).toUTF8.toList ++ "-".toUTF8.toList ++ seedStr := by
  have h1 : "prng-".toUTF8.toList = [112, 114, 110, 103, 45] := by decide +kernel
  have h2 : "-".toUTF8.toList = [45] := by decide +kernel
  rw [h1, h2]; rfl

/-- non-vacuity with a toy hash (identity): three reads cross a block boundary -/
example : (prngRead id [65] 2 7 prngInit).map (·.1) = some [112, 114, 110, 103, 45, 48, 45] ∧
    (prngRead id [65] 2 9 prngInit).map (·.1) = some [112, 114, 110, 103, 45, 48, 45, 65, 112] := by decide +kernel

/-- `randrange_from_seed__trytryagain`: for every value of the float-derived bit count, a returned value is in `[1, order − 1]` -/
theorem trytryagain_range (H : Bytes → Bytes) (seedStr : Bytes) (order : Int) (bits pfuel fuel : Nat) (g : Nat)
    (h : trytryagain H seedStr order bits pfuel fuel = some (.ok g)) : 1 ≤ g ∧ (g : Int) < order := by
  unfold trytryagain at h
  split at h
  · exact trytryagainLoop_range h
  · cases h

/-- `randrange_from_seed__trytryagain` is a function of (seed, order) and the hash blocks `H("prng-i-<seed>")` only -/
theorem trytryagain_deterministic (H₁ H₂ : Bytes → Bytes) (seedStr : Bytes) (order : Int) (bits pfuel fuel : Nat)
    (hH : ∀ i, H₁ (prngInput i seedStr) = H₂ (prngInput i seedStr)) :
    trytryagain H₁ seedStr order bits pfuel fuel = trytryagain H₂ seedStr order bits pfuel fuel := by
  unfold trytryagain
  rw [trytryagainLoop_congr hH order bits pfuel fuel prngInit]

/-- `randrange_from_seed__overshoot_modulo`: for `order ≥ 2`, whenever the PRNG delivers, the result is
`int(base) mod (order − 1) + 1 ∈ [1, order − 1]` (the `assert` cannot fail), `base` being the first
`2·orderlen(order)` bytes of the PRNG stream -/
theorem overshoot_modulo_range (H : Bytes → Bytes) (seedStr : Bytes) (order fuel : Nat) (ho : 2 ≤ order) :
    (∀ r, overshootModulo H seedStr order fuel = some r →
      ∃ base st, prngRead H seedStr fuel (2 * Util.orderlen order) prngInit = some (base, st) ∧
        r = .ok (beVal base % (order - 1) + 1) ∧ 1 ≤ beVal base % (order - 1) + 1 ∧ beVal base % (order - 1) + 1 < order) := by
  intro r h
  cases hread : prngRead H seedStr fuel (2 * Util.orderlen order) prngInit with
  | none =>
    unfold overshootModulo at h
    rw [hread] at h
    cases h
  | some p =>
    have ⟨heq, hlt⟩ := overshootModulo_eq hread ho
    rw [heq] at h
    exact ⟨p.1, p.2, rfl, (Option.some.inj h).symm, Nat.succ_pos _, hlt⟩

/-- `randrange_from_seed__overshoot_modulo` **always returns** (it has no rejection loop), for every hash whose outputs
are non-empty (SHA-256: 32 bytes), given the two steps of fuel one byte can need; no "if the PRNG delivers" -/
theorem overshoot_modulo_returns (H : Bytes → Bytes) (hH : ∀ x, H x ≠ []) (seedStr : Bytes) (order fuel : Nat)
    (ho : 2 ≤ order) (hf : 2 ≤ fuel) :
    ∃ base st, prngRead H seedStr fuel (2 * Util.orderlen order) prngInit = some (base, st) ∧ base.length = 2 * Util.orderlen order ∧
      overshootModulo H seedStr order fuel = some (.ok (beVal base % (order - 1) + 1)) ∧
      1 ≤ beVal base % (order - 1) + 1 ∧ beVal base % (order - 1) + 1 < order := by
  obtain ⟨base, st, hread⟩ := prngRead_some H seedStr hH fuel hf (2 * Util.orderlen order) prngInit
  have ⟨heq, hlt⟩ := overshootModulo_eq hread ho
  exact ⟨base, st, hread, (prngRead_inv (prngInv_init H seedStr) hread).2, heq, Nat.succ_pos _, hlt⟩

/-- non-vacuity (toy hash = identity): both helpers return on order 251 -/
example : overshootModulo id [65] 251 2 = some (.ok 37) ∧ trytryagain id [65] 251 8 2 9 = some (.ok 113) := by decide +kernel

/-! ## tie to the source text (translator)

`Gen.Rand.*` is regenerated from `util.py` / `keys.py` on every run (harness/translate/gen_rand.py): the integer
decisions of the code — request size, `+ 1`, acceptance tests, asserts, `bits // 8`, `bits % 8`, `(1 << n) - 1`,
`% (order - 1) + 1` — cut out of the AST; the surrounding lines are pinned textually.  These theorems say the
model takes exactly those decisions, so a change of, say, `<` into `<=` breaks a proof here. -/

/-- `randrange`: precondition, request size, the value `int(top bits) + 1` and the acceptance test are the source's -/
theorem source_randrange (ent : Entropy) (order : Int) (hist : List Nat) (fuel : Nat) (c : Bytes) :
    (randrange ent order hist fuel =
      if Gen.Rand.randrange_precondition order = 1 then randrangeLoop ent order fuel hist else some (.error .assertionError)) ∧
    Gen.Rand.randrange_upper_2 order bitLengthInt = (upper2 order : Nat) ∧
    Gen.Rand.randrange_upper_256 (upper2 order : Nat) = (upper256 order : Nat) ∧
    oneDraw order c =
      (intBase2 ((entropyToBits c).take (Gen.Rand.randrange_upper_2 order bitLengthInt).toNat)).bind fun top =>
        if Gen.Rand.randrange_accept (Gen.Rand.randrange_rand_num top) order = 1
        then .ok (some (Gen.Rand.randrange_rand_num top).toNat) else .ok none := by
  refine ⟨ite_iff (src_precondition order) _ _, rfl, ?_, ?_⟩
  · unfold Gen.Rand.randrange_upper_256 upper256
    rw [Int.fdiv_eq_ediv_of_nonneg _ (by omega)]
    omega
  · show Except.bind (intBase2 ((entropyToBits c).take (upper2 order))) _ =
      Except.bind (intBase2 ((entropyToBits c).take (upper2 order))) _
    cases intBase2 ((entropyToBits c).take (upper2 order)) with
    | error e => rfl
    | ok top => exact ite_iff (src_accept top order) _ _

/-- seed helpers and `sign_number`: masks, byte counts, `+ 1`, range tests and asserts are the source's -/
theorem source_seed_helpers (order : Int) (bits v b : Nat) (n : Nat) (k : Int) :
    bitsAndBytes bits = (bits, (Gen.Rand.bits_and_bytes_bytes bits).toNat, (Gen.Rand.bits_and_bytes_extrabits bits).toNat) ∧
    (lsbOfOnes bits : Int) = Gen.Rand.lsb_of_ones bits ∧
    ((order > 1) ↔ Gen.Rand.trytryagain_precondition order = 1) ∧
    ((1 ≤ v + 1 ∧ ((v + 1 : Nat) : Int) < order) ↔ Gen.Rand.trytryagain_accept (Gen.Rand.trytryagain_guess v) order = 1) ∧
    pmod (b : Int) ((n : Int) - 1) + 1 = Gen.Rand.overshoot_number b n ∧
    ((1 ≤ k ∧ k < order) ↔ Gen.Rand.overshoot_assert k order = 1) ∧
    ((1 ≤ k ∧ k < order) ↔ Gen.Rand.sign_number_assert k order = 1) := by
  refine ⟨?_, ?_, src_precondition order, ?_, rfl, src_in_range k order, src_in_range k order⟩
  · unfold bitsAndBytes Gen.Rand.bits_and_bytes_bytes Gen.Rand.bits_and_bytes_extrabits
    rw [Int.fdiv_eq_ediv_of_nonneg _ (by omega), Int.fmod_eq_emod_of_nonneg _ (by omega)]
    congr 2 <;> omega
  · unfold lsbOfOnes Gen.Rand.lsb_of_ones
    rw [Nat.shiftLeft_eq, Int.toNat_natCast, Int.natCast_sub (Nat.mul_pos Nat.one_pos (Nat.two_pow_pos bits))]
    push_cast
    rfl
  · refine Iff.trans ?_ (src_in_range (Gen.Rand.trytryagain_guess v) order)
    unfold Gen.Rand.trytryagain_guess
    omega

end C17
