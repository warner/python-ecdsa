import Model.Ecdh
import Mathlib.Algebra.Group.Basic
import Mathlib.Algebra.Group.Int.Defs
/-!
# C05 — ECDH: both parties derive the same, standard shared secret or get an error

Theorems about `Model/Ecdh.lean` (tied to `src/ecdsa/ecdh.py` by `Props/C05s.lean`, `Props/C05t.lean` and the correspondence
run on call histories).  They hold for every environment `env` and every state; a fact needed of the environment is a hypothesis:

* `LoadersValidate env Valid` — a key returned by `VerifyingKey.from_string/from_der/from_pem` satisfies
  `Valid` (C08's acceptance predicate; on SECP112r2 C08 holds only up to K2);
* `GroupReading env G inp rep` — `*` is scalar multiplication in a commutative group `G`, `== INFINITY` is "is the
  identity" and `.x()` depends on the group element only; discharged for `Model/Curve.lean` in `Props/C05g.lean`
  (C06/C07 on ⟨G⟩ of odd order: N2T holds there).
-/
namespace C05
open Ecdh

variable {Crv Pt Ent : Type} [DecidableEq Crv]

def Agreed (s : State Crv Pt) (sk : SKey Crv Pt) (vk : VKey Crv Pt) : Prop :=
  s.priv = some sk ∧ s.pub = some vk ∧ s.curve = some sk.curve ∧ vk.curve = sk.curve

/-! for the non-vacuity examples: points are integers (the group ℤ), curve objects are numbered, `from_string` accepts
every non-empty string as the point 5 -/
namespace Toy
def env : Env Nat Int Unit where
  fieldP _ := 1009
  mul P k := .ok (k * P)
  isInf P := P == 0
  xOf P := .ok P
  generate c _ := .ok ⟨c, 2, ⟨c, 2⟩⟩
  skFromString c b := if b.isEmpty then .error .malformedPoint else .ok ⟨c, 3, ⟨c, 3⟩⟩
  skFromDer _ := .error .unexpectedDER
  skFromPem _ := .error .unexpectedDER
  vkFromString c b := if b.isEmpty then .error .malformedPoint else .ok ⟨c, 5⟩
  vkFromDer _ := .error .unexpectedDER
  vkFromPem _ := .error .unexpectedDER
def skA : SKey Nat Int := ⟨0, 2, ⟨0, 2⟩⟩
def skB : SKey Nat Int := ⟨0, 3, ⟨0, 3⟩⟩
def fresh : State Nat Int := ⟨none, none, none⟩
end Toy

omit [DecidableEq Crv] in
/-- the model spells the chained comparison `a == b == c` of the source; the theorems say "the same curve object" -/
theorem chain_iff (s : State Crv Pt) (sk : SKey Crv Pt) (vk : VKey Crv Pt) :
    (some sk.curve = s.curve ∧ s.curve = some vk.curve) ↔ (s.curve = some sk.curve ∧ vk.curve = sk.curve) :=
  ⟨fun ⟨h1, h2⟩ => ⟨h1.symm, (Option.some.inj (h1.trans h2)).symm⟩, fun ⟨h1, h2⟩ => ⟨h1.symm, by rw [h1, h2]⟩⟩

theorem state_cases (s : State Crv Pt) :
    (s.priv = none ∨ s.pub = none) ∨
    (∃ sk vk, s.priv = some sk ∧ s.pub = some vk ∧ ¬ (s.curve = some sk.curve ∧ vk.curve = sk.curve)) ∨
    ∃ sk vk, Agreed s sk vk :=
  match hp : s.priv, hq : s.pub with
  | none, _ => .inl (.inl rfl)
  | _, none => .inl (.inr rfl)
  | some sk, some vk =>
    if hc : s.curve = some sk.curve ∧ vk.curve = sk.curve then .inr (.inr ⟨sk, vk, hp, hq, hc⟩)
    else .inr (.inl ⟨sk, vk, rfl, rfl, hc⟩)

theorem getSharedSecret_of_agreed (env : Env Crv Pt Ent) {s : State Crv Pt} {sk : SKey Crv Pt} {vk : VKey Crv Pt}
    (hA : Agreed s sk vk) :
    getSharedSecret env s = match env.mul vk.point sk.d with
      | .error e => .error e
      | .ok R => if env.isInf R then .error .invalidSharedSecret else env.xOf R := by
  unfold getSharedSecret
  simp only [hA.1, hA.2.1]
  exact if_neg (not_not_intro ((chain_iff s sk vk).2 hA.2.2))

theorem secret_refusals (env : Env Crv Pt Ent) (s : State Crv Pt) :
    ((s.priv = none ∨ s.pub = none) → getSharedSecret env s = .error .noKey) ∧
    (∀ sk vk, s.priv = some sk → s.pub = some vk → ¬ (s.curve = some sk.curve ∧ vk.curve = sk.curve) →
      getSharedSecret env s = .error .invalidCurve) := by
  unfold getSharedSecret
  refine ⟨?_, fun sk vk hsk hvk hne => ?_⟩
  · rintro (h | h)
    · simp [h]
    · cases hp : s.priv <;> simp [h]
  · simp only [hsk, hvk]
    exact if_pos (mt (chain_iff s sk vk).1 hne)

theorem secret_value_iff (env : Env Crv Pt Ent) (s : State Crv Pt) (v : Int) :
    getSharedSecret env s = .ok v ↔
      ∃ sk vk R, Agreed s sk vk ∧ env.mul vk.point sk.d = .ok R ∧ env.isInf R = false ∧ env.xOf R = .ok v := by
  constructor
  · intro h
    rcases state_cases s with hm | ⟨sk, vk, h1, h2, hne⟩ | ⟨sk, vk, hA⟩
    · rw [(secret_refusals env s).1 hm] at h; cases h
    · rw [(secret_refusals env s).2 sk vk h1 h2 hne] at h; cases h
    · rw [getSharedSecret_of_agreed env hA] at h
      cases hR : env.mul vk.point sk.d with
      | error e => rw [hR] at h; cases h
      | ok R =>
        rw [hR] at h
        cases hi : env.isInf R with
        | true => simp [hi] at h
        | false => exact ⟨sk, vk, R, hA, hR, hi, by simpa [hi] using h⟩
  · rintro ⟨sk, vk, R, hA, hR, hi, hx⟩
    rw [getSharedSecret_of_agreed env hA, hR]
    simp [hi, hx]

/-- `NoKeyError` and `InvalidCurveError` are raised only in the situations of `secret_refusals` -/
theorem secret_refusals_only (env : Env Crv Pt Ent) (s : State Crv Pt)
    (hmul : ∀ P k e, env.mul P k = .error e → e ≠ .noKey ∧ e ≠ .invalidCurve)
    (hx : ∀ P e, env.xOf P = .error e → e ≠ .noKey ∧ e ≠ .invalidCurve) :
    (getSharedSecret env s = .error .noKey → s.priv = none ∨ s.pub = none) ∧
    (getSharedSecret env s = .error .invalidCurve →
      ∃ sk vk, s.priv = some sk ∧ s.pub = some vk ∧ ¬ (s.curve = some sk.curve ∧ vk.curve = sk.curve)) := by
  rcases state_cases s with hm | ⟨sk, vk, h1, h2, hne⟩ | ⟨sk, vk, hA⟩
  · rw [(secret_refusals env s).1 hm]
    exact ⟨fun _ => hm, fun h => (by cases h)⟩
  · rw [(secret_refusals env s).2 sk vk h1 h2 hne]
    exact ⟨fun h => (by cases h), fun _ => ⟨sk, vk, h1, h2, hne⟩⟩
  · -- agreed: an exception comes from `*`, from the `INFINITY` test or from `.x()`, and none of these is one of the two
    have key : ∀ e, getSharedSecret env s = .error e → e ≠ .noKey ∧ e ≠ .invalidCurve := by
      intro e h
      rw [getSharedSecret_of_agreed env hA] at h
      split at h
      · cases h; exact hmul _ _ _ ‹_›
      · split at h
        · cases h; exact ⟨by decide, by decide⟩
        · exact hx _ e h
    exact ⟨fun h => absurd rfl (key _ h).1, fun h => absurd rfl (key _ h).2⟩

/-- **secret_only_if_agreed** — over every history of calls `ops` on an object in any initial state: if the
next call `generate_sharedsecret()` returns a value, or `generate_sharedsecret_bytes()` returns bytes, then both
keys are present, all three curves are the same object, the product is not at infinity and the value is its
x-coordinate (for bytes: `number_to_string` of it with the field prime of that curve).  The end of a history is an
arbitrary state: this is `secret_value_iff` read through `step`. -/
theorem secret_only_if_agreed (env : Env Crv Pt Ent) (s0 : State Crv Pt) (ops : List (Op Crv Pt Ent)) :
    let s := run env s0 ops
    (∀ v, (step env s .secret).2 = .ok (.int v) →
      ∃ sk vk R, Agreed s sk vk ∧ env.mul vk.point sk.d = .ok R ∧ env.isInf R = false ∧ env.xOf R = .ok v) ∧
    (∀ b, (step env s .secretBytes).2 = .ok (.bytes b) →
      ∃ sk vk R v, Agreed s sk vk ∧ env.mul vk.point sk.d = .ok R ∧ env.isInf R = false ∧ env.xOf R = .ok v ∧
        numberToStringInt v (env.fieldP sk.curve) = .ok b) := by
  intro s
  refine ⟨fun v h => ?_, fun b h => ?_⟩
  · simp only [step] at h
    cases hg : getSharedSecret env s with
    | error e => rw [hg] at h; cases h
    | ok w => rw [hg] at h; cases h; exact (secret_value_iff env s _).1 hg
  · simp only [step, secretBytes] at h
    cases hg : getSharedSecret env s with
    | error e => rw [hg] at h; cases h
    | ok w =>
      obtain ⟨sk, vk, R, hA, hR, hi, hx⟩ := (secret_value_iff env s w).1 hg
      simp only [hg, hA.1] at h
      cases hn : numberToStringInt w (env.fieldP sk.curve) with
      | error e => rw [hn] at h; cases h
      | ok b' => rw [hn] at h; cases h; exact ⟨sk, vk, R, w, hA, hR, hi, hx, hn⟩

/-- non-vacuity: agreed; the curve changed afterwards; the remote key missing -/
example : (step Toy.env (run Toy.env Toy.fresh [.loadPriv Toy.skA, .loadPubBytes [1]]) .secret).2 = .ok (.int 10)
    ∧ (step Toy.env (run Toy.env Toy.fresh [.loadPriv Toy.skA, .loadPubBytes [1], .setCurve (some 1)]) .secret).2
        = .error .invalidCurve
    ∧ (step Toy.env (run Toy.env Toy.fresh [.loadPriv Toy.skA, .loadPubBytes []]) .secret).2 = .error .noKey :=
  ⟨rfl, rfl, rfl⟩

/-- in a state that is not agreed the two calls raise the documented error and leave the object unchanged -/
theorem refused_unless_agreed (env : Env Crv Pt Ent) (s0 : State Crv Pt) (ops : List (Op Crv Pt Ent)) :
    let s := run env s0 ops
    ((s.priv = none ∨ s.pub = none) →
      step env s .secret = (s, .error .noKey) ∧ step env s .secretBytes = (s, .error .noKey)) ∧
    (∀ sk vk, s.priv = some sk → s.pub = some vk → ¬ (s.curve = some sk.curve ∧ vk.curve = sk.curve) →
      step env s .secret = (s, .error .invalidCurve) ∧ step env s .secretBytes = (s, .error .invalidCurve)) := by
  intro s
  have h := secret_refusals env s
  refine ⟨fun hm => ?_, fun sk vk h1 h2 h3 => ?_⟩
  · simp [step, secretBytes, h.1 hm]
  · simp [step, secretBytes, h.2 sk vk h1 h2 h3]

theorem step_of_curve (env : Env Crv Pt Ent) {s : State Crv Pt} {c : Crv} (h : s.curve = some c) (e : Ent) (b : Bytes) :
    step env s (.genPriv e) = viaLoader s (env.generate c e) loadPrivate ∧
    step env s (.loadPrivBytes b) = viaLoader s (env.skFromString c b) loadPrivate ∧
    step env s (.loadPubBytes b) = viaLoader s (env.vkFromString c b) loadPublic := by
  simp only [step, h, and_self]

theorem loadPrivate_same {s : State Crv Pt} {sk : SKey Crv Pt} (h : s.curve = some sk.curve) :
    loadPrivate s sk = ({ s with priv := some sk }, .ok (.vk sk.vk)) := by
  simp [loadPrivate, h]

theorem loadPublic_same {s : State Crv Pt} {vk : VKey Crv Pt} (h : s.curve = some vk.curve) :
    loadPublic s vk = ({ s with pub := some vk }, .ok .none) := by
  simp [loadPublic, h]

theorem loadPrivate_error {s : State Crv Pt} {sk : SKey Crv Pt} {e : PyErr} (h : (loadPrivate s sk).2 = .error e) :
    e = .invalidCurve ∧ (loadPrivate s sk).1 = s := by
  unfold loadPrivate at h ⊢
  cases hc : s.curve with
  | none => simp [hc] at h   -- the key's curve is adopted: no exception
  | some c =>
    simp only [hc] at h ⊢
    split at h
    · rename_i hne
      rw [if_pos hne]
      exact ⟨(Except.error.inj h).symm, rfl⟩
    · cases h

theorem loadPublic_error {s : State Crv Pt} {vk : VKey Crv Pt} {e : PyErr} (h : (loadPublic s vk).2 = .error e) :
    e = .invalidCurve ∧ (loadPublic s vk).1 = s := by
  unfold loadPublic at h ⊢
  cases hc : s.curve with
  | none => simp [hc] at h
  | some c =>
    simp only [hc] at h ⊢
    split at h
    · rename_i hne
      rw [if_pos hne]
      exact ⟨(Except.error.inj h).symm, rfl⟩
    · cases h

/-- `NoCurveError`: `generate_private_key` and `load_private_key_bytes` without a curve, whatever the arguments;
with a curve they raise it only if the key constructor did -/
theorem no_curve_error (env : Env Crv Pt Ent) (s : State Crv Pt) (e : Ent) (b : Bytes) :
    (s.curve = none → step env s (.genPriv e) = (s, .error .noCurve) ∧ step env s (.loadPrivBytes b) = (s, .error .noCurve)) ∧
    (∀ c, s.curve = some c → (step env s (.genPriv e)).2 = .error .noCurve → env.generate c e = .error .noCurve) ∧
    (∀ c, s.curve = some c → (step env s (.loadPrivBytes b)).2 = .error .noCurve → env.skFromString c b = .error .noCurve) := by
  have hv : ∀ r : Res (SKey Crv Pt), (viaLoader s r loadPrivate).2 = .error .noCurve → r = .error .noCurve := by
    intro r h
    cases r with
    | error e' => simp only [viaLoader, Except.error.injEq] at h; rw [h]
    | ok k => cases (loadPrivate_error h).1
  refine ⟨fun h => by simp [step, h], fun c hc h => hv _ ?_, fun c hc h => hv _ ?_⟩
  · simpa only [step, hc] using h
  · simpa only [step, hc] using h

/-- what C08 proves of the public-key constructors -/
def LoadersValidate (env : Env Crv Pt Ent) (Valid : VKey Crv Pt → Prop) : Prop :=
  (∀ c b vk, env.vkFromString c b = .ok vk → Valid vk) ∧
  (∀ b vk, env.vkFromDer b = .ok vk → Valid vk) ∧
  (∀ b vk, env.vkFromPem b = .ok vk → Valid vk)

/-- what a call can do to the object.  The last clause names no particular `Valid`, so that `error_keeps_state` and
`step_pub` share the one case analysis of `step_effect` -/
def Effect (env : Env Crv Pt Ent) (s : State Crv Pt) (op : Op Crv Pt Ent) (x : State Crv Pt × Res (Out Crv Pt)) : Prop :=
  x.1 = s ∨ (∃ c, x = ({ s with curve := c }, .ok .none)) ∨ (∃ k, x = loadPrivate s k) ∨
  ∃ k, x = loadPublic s k ∧ (op = .loadPub k ∨ ∀ Valid, LoadersValidate env Valid → Valid k)

theorem Effect.viaLoader {env : Env Crv Pt Ent} {s : State Crv Pt} {op : Op Crv Pt Ent} {K : Type} (r : Res K)
    {load : State Crv Pt → K → State Crv Pt × Res (Out Crv Pt)} (h : ∀ k, r = .ok k → Effect env s op (load s k)) :
    Effect env s op (viaLoader s r load) := by
  cases r with
  | error e => exact .inl rfl
  | ok k => exact h k rfl

theorem step_effect (env : Env Crv Pt Ent) (s : State Crv Pt) (op : Op Crv Pt Ent) : Effect env s op (step env s op) := by
  have priv : ∀ r : Res (SKey Crv Pt), Effect env s op (viaLoader s r loadPrivate) :=
    fun r => .viaLoader r fun k _ => .inr (.inr (.inl ⟨k, rfl⟩))
  have pub : ∀ r : Res (VKey Crv Pt), (∀ k, r = .ok k → ∀ Valid, LoadersValidate env Valid → Valid k) →
      Effect env s op (viaLoader s r loadPublic) :=
    fun r h => .viaLoader r fun k hk => .inr (.inr (.inr ⟨k, rfl, .inr (h k hk)⟩))
  cases op with
  | setCurve c => exact .inr (.inl ⟨c, rfl⟩)
  | loadPriv sk => exact .inr (.inr (.inl ⟨sk, rfl⟩))
  | loadPub vk => exact .inr (.inr (.inr ⟨vk, rfl, .inl rfl⟩))
  | genPriv e =>
    simp only [step]
    split
    · exact .inl rfl
    · exact priv _
  | loadPrivBytes b =>
    simp only [step]
    split
    · exact .inl rfl
    · exact priv _
  | loadPrivDer b => exact priv _
  | loadPrivPem b => exact priv _
  | loadPubBytes b =>
    simp only [step]
    split
    · exact .inl rfl
    · exact pub _ fun k hk V hV => hV.1 _ b k hk
  | loadPubDer b => exact pub _ fun k hk V hV => hV.2.1 b k hk
  | loadPubPem b => exact pub _ fun k hk V hV => hV.2.2 b k hk
  | getPub => simp only [step]; split <;> exact .inl rfl
  | secret => simp only [step]; split <;> exact .inl rfl
  | secretBytes => simp only [step]; split <;> exact .inl rfl

/-- a call that raises leaves the object as it was (so histories with caught exceptions are histories of the
successful calls) -/
theorem error_keeps_state (env : Env Crv Pt Ent) (s : State Crv Pt) (op : Op Crv Pt Ent) (e : PyErr)
    (h : (step env s op).2 = .error e) : (step env s op).1 = s := by
  rcases step_effect env s op with h0 | ⟨c, hc⟩ | ⟨k, hk⟩ | ⟨k, hk, _⟩
  · exact h0
  · rw [hc] at h; cases h
  · rw [hk] at h ⊢; exact (loadPrivate_error h).2
  · rw [hk] at h ⊢; exact (loadPublic_error h).2

theorem loadPublic_pub (s : State Crv Pt) (k vk : VKey Crv Pt) (h : (loadPublic s k).1.pub = some vk) :
    s.pub = some vk ∨ k = vk := by
  unfold loadPublic at h
  cases hc : s.curve with
  | none => simp [hc] at h; exact Or.inr h
  | some c =>
    simp only [hc] at h
    split at h
    · exact Or.inl h
    · simp at h; exact Or.inr h

theorem loadPrivate_pub (s : State Crv Pt) (k : SKey Crv Pt) : (loadPrivate s k).1.pub = s.pub := by
  unfold loadPrivate
  cases hc : s.curve <;> simp only <;> split <;> rfl

theorem step_pub (env : Env Crv Pt Ent) (Valid : VKey Crv Pt → Prop) (hv : LoadersValidate env Valid)
    (s : State Crv Pt) (op : Op Crv Pt Ent) (vk : VKey Crv Pt) (h : (step env s op).1.pub = some vk) :
    s.pub = some vk ∨ op = .loadPub vk ∨ Valid vk := by
  rcases step_effect env s op with h0 | ⟨c, hc⟩ | ⟨k, hk⟩ | ⟨k, hk, hsrc⟩
  · rw [h0] at h; exact .inl h
  · rw [hc] at h; exact .inl h
  · rw [hk, loadPrivate_pub] at h; exact .inl h
  · rw [hk] at h
    rcases loadPublic_pub s k vk h with h | rfl
    · exact .inl h
    · rcases hsrc with rfl | hV
      · exact .inr (.inl rfl)
      · exact .inr (.inr (hV Valid hv))

/-- **remote_validated** — over every history: the remote public key an `ECDH` object holds (and will use) is
one it held initially, one the caller passed in *as an object* (`load_received_public_key(vk)` occurs in the
history), or it passed public-key validation.  In particular a key that entered as bytes, DER or PEM is `Valid`. -/
theorem remote_validated (env : Env Crv Pt Ent) (Valid : VKey Crv Pt → Prop) (hv : LoadersValidate env Valid)
    (s0 : State Crv Pt) (ops : List (Op Crv Pt Ent)) (vk : VKey Crv Pt)
    (h : (run env s0 ops).pub = some vk) :
    s0.pub = some vk ∨ Op.loadPub vk ∈ ops ∨ Valid vk := by
  induction ops generalizing s0 with
  | nil => exact Or.inl h
  | cons op ops ih =>
    rcases ih (step env s0 op).1 h with h1 | h1 | h1
    · rcases step_pub env Valid hv s0 op vk h1 with h2 | h2 | h2
      · exact Or.inl h2
      · exact Or.inr (Or.inl (by rw [h2]; exact List.mem_cons_self))
      · exact Or.inr (Or.inr h2)
    · exact Or.inr (Or.inl (List.mem_cons_of_mem _ h1))
    · exact Or.inr (Or.inr h1)

/-- non-vacuity (`Valid` = "is the point 5") -/
example : LoadersValidate Toy.env (fun vk => vk.point = 5)
    ∧ (run Toy.env Toy.fresh [.setCurve (some 0), .loadPubBytes [7]]).pub = some ⟨0, 5⟩ := by
  refine ⟨⟨?_, ?_, ?_⟩, by decide⟩
  · intro c b vk h
    simp only [Toy.env] at h
    split at h
    · cases h
    · cases h; rfl
  · intro b vk h; cases h
  · intro b vk h; cases h

/-- at the point of use: a secret is computed from a remote key that is `Valid` unless the caller supplied it as an object -/
theorem secret_uses_validated_key (env : Env Crv Pt Ent) (Valid : VKey Crv Pt → Prop) (hv : LoadersValidate env Valid)
    (c : Option Crv) (ops : List (Op Crv Pt Ent)) (v : Int)
    (h : (step env (run env ⟨c, none, none⟩ ops) .secret).2 = .ok (.int v)) :
    ∃ sk vk R, Agreed (run env ⟨c, none, none⟩ ops) sk vk ∧ env.mul vk.point sk.d = .ok R ∧ env.xOf R = .ok v ∧
      (Op.loadPub vk ∈ ops ∨ Valid vk) := by
  obtain ⟨sk, vk, R, hA, hR, _, hx⟩ := (secret_only_if_agreed env ⟨c, none, none⟩ ops).1 v h
  refine ⟨sk, vk, R, hA, hR, hx, ?_⟩
  rcases remote_validated env Valid hv ⟨c, none, none⟩ ops vk hA.2.1 with h | h | h
  · cases h
  · exact Or.inl h
  · exact Or.inr h

/-- **shared_secret_symmetric** (group level): x(d_A•(d_B•G)) = x(d_B•(d_A•G)), and both are x((d_A d_B)•G) -/
theorem shared_secret_symmetric {G α : Type} [AddCommGroup G] (x : G → α) (g : G) (dA dB : Int) :
    x (dA • (dB • g)) = x (dB • (dA • g)) ∧ x (dA • (dB • g)) = x ((dA * dB) • g) := by
  have h1 : dA • (dB • g) = (dA * dB) • g := (mul_zsmul g dA dB).symm
  have h2 : dB • (dA • g) = (dA * dB) • g := by rw [← mul_zsmul, Int.mul_comm]
  rw [h1, h2]; exact ⟨rfl, rfl⟩

/-- `inp P g`: the key point `P` (what a `VerifyingKey` holds) denotes `g`; `rep R g`: a result `R` of `*` denotes `g`.
Proved for `Model/Curve.lean` in `Props/C05g.lean`. -/
structure GroupReading (env : Env Crv Pt Ent) (G : Type) [AddCommGroup G] (inp rep : Pt → G → Prop) : Prop where
  mul_ok : ∀ P g k, inp P g → ∃ R, env.mul P k = .ok R ∧ rep R (k • g)
  inf_iff : ∀ R g, rep R g → (env.isInf R = true ↔ g = 0)
  x_den : ∀ R R' g, rep R g → rep R' g → env.xOf R = env.xOf R'

theorem secret_in_group (env : Env Crv Pt Ent) {G : Type} [AddCommGroup G] (inp rep : Pt → G → Prop)
    (gr : GroupReading env G inp rep) (s : State Crv Pt) (sk : SKey Crv Pt) (vk : VKey Crv Pt)
    (hA : Agreed s sk vk) (q : G) (hq : inp vk.point q) (T : Pt) (hT : rep T (sk.d • q)) :
    getSharedSecret env s = if env.isInf T then .error .invalidSharedSecret else env.xOf T := by
  obtain ⟨R, hR, hRr⟩ := gr.mul_ok vk.point q sk.d hq
  have hinf : env.isInf R = env.isInf T :=
    Bool.eq_iff_iff.2 ((gr.inf_iff R _ hRr).trans (gr.inf_iff T _ hT).symm)
  rw [getSharedSecret_of_agreed env hA, hR]
  simp only [hinf, gr.x_den R T _ hRr hT]

/-- **both_parties_agree** — A holds (d_A, remote key Q_B), B holds (d_B, remote key Q_A), all on one curve
object; Q_A, Q_B are *any* representations of d_A•g, d_B•g (they travelled through some encoding).  Then the two
objects return the same thing: the same integer, namely x of any representation `T` of (d_A d_B)•g, and the same
bytes — or both raise `InvalidSharedSecretError`, exactly when (d_A d_B)•g is the identity. -/
theorem both_parties_agree (env : Env Crv Pt Ent) {G : Type} [AddCommGroup G] (inp rep : Pt → G → Prop)
    (gr : GroupReading env G inp rep)
    (sA sB : State Crv Pt) (skA skB : SKey Crv Pt) (vkA vkB : VKey Crv Pt) (g : G)
    (hA : Agreed sA skA vkB) (hB : Agreed sB skB vkA) (hc : skA.curve = skB.curve)
    (hQA : inp vkA.point (skA.d • g)) (hQB : inp vkB.point (skB.d • g))
    (T : Pt) (hT : rep T ((skA.d * skB.d) • g)) :
    step env sA .secret = (sA, (step env sB .secret).2) ∧
    step env sA .secretBytes = (sA, (step env sB .secretBytes).2) ∧
    getSharedSecret env sA = (if env.isInf T then .error .invalidSharedSecret else env.xOf T) ∧
    (getSharedSecret env sA = .error .invalidSharedSecret ↔ (skA.d * skB.d) • g = 0 ∨ env.xOf T = .error .invalidSharedSecret) := by
  have eA := secret_in_group env inp rep gr sA skA vkB hA _ hQB T (by rw [← mul_zsmul]; exact hT)
  have eB := secret_in_group env inp rep gr sB skB vkA hB _ hQA T (by rw [← mul_zsmul, Int.mul_comm]; exact hT)
  have hinf := gr.inf_iff T _ hT
  have hAB : getSharedSecret env sA = getSharedSecret env sB := by rw [eA, eB]
  refine ⟨?_, ?_, eA, ?_⟩
  · simp only [step, hAB]
    cases getSharedSecret env sB <;> rfl
  · simp only [step, secretBytes, hAB, hA.1, hB.1, hc]
    cases getSharedSecret env sB with
    | error e => rfl
    | ok v => simp only; cases numberToStringInt v (env.fieldP skB.curve) <;> rfl
  · rw [eA]
    cases hi : env.isInf T
    · have : ¬ ((skA.d * skB.d) • g = 0) := fun h => by simp [hinf.2 h] at hi
      simp [this]
    · simp [hinf.1 hi]

/-- non-vacuity: G = ℤ, an integer denotes itself; d_A = 2, d_B = 3 and generator 1 agree on 6 -/
theorem toy_reading : GroupReading Toy.env Int (fun P g => P = g) (fun P g => P = g) where
  mul_ok P g k h := ⟨k * P, rfl, by subst h; simp⟩
  inf_iff P g h := by subst h; simp [Toy.env]
  x_den P Q g h h' := by subst h; subst h'; rfl

example : let sA : State Nat Int := run Toy.env Toy.fresh [.loadPriv Toy.skA, .loadPub Toy.skB.vk]
    let sB : State Nat Int := run Toy.env Toy.fresh [.loadPriv Toy.skB, .loadPub Toy.skA.vk]
    Agreed sA Toy.skA Toy.skB.vk ∧ Agreed sB Toy.skB Toy.skA.vk ∧
    (Toy.skA.vk.point = Toy.skA.d • (1 : Int)) ∧ (Toy.skB.vk.point = Toy.skB.d • (1 : Int)) ∧
    ((6 : Int) = (Toy.skA.d * Toy.skB.d) • (1 : Int)) ∧
    (step Toy.env sA .secret).2 = .ok (.int 6) ∧ (step Toy.env sB .secret).2 = .ok (.int 6) := by
  refine ⟨⟨rfl, rfl, rfl, rfl⟩, ⟨rfl, rfl, rfl, rfl⟩, ?_, ?_, ?_, rfl, rfl⟩ <;> simp [Toy.skA, Toy.skB]

/-- **infinity_refused** — in every state, if the product `Q * d` is at infinity the call raises
`InvalidSharedSecretError`; it never returns a value (`secret_value_iff` has `isInf R = false`) -/
theorem infinity_refused (env : Env Crv Pt Ent) (s : State Crv Pt) (sk : SKey Crv Pt) (vk : VKey Crv Pt) (R : Pt)
    (hA : Agreed s sk vk) (hR : env.mul vk.point sk.d = .ok R) (hi : env.isInf R = true) :
    step env s .secret = (s, .error .invalidSharedSecret) ∧ step env s .secretBytes = (s, .error .invalidSharedSecret) := by
  have : getSharedSecret env s = .error .invalidSharedSecret := by
    rw [getSharedSecret_of_agreed env hA, hR]
    exact if_pos hi
  simp [step, secretBytes, this]

/-- non-vacuity: d = 0 -/
example : Agreed (run Toy.env Toy.fresh [.loadPriv ⟨0, 0, ⟨0, 0⟩⟩, .loadPub Toy.skB.vk]) ⟨0, 0, ⟨0, 0⟩⟩ Toy.skB.vk
    ∧ (step Toy.env (run Toy.env Toy.fresh [.loadPriv ⟨0, 0, ⟨0, 0⟩⟩, .loadPub Toy.skB.vk]) .secret).2
        = .error .invalidSharedSecret :=
  ⟨⟨rfl, rfl, rfl, rfl⟩, rfl⟩

/-- the facts about `number_to_string` / `orderlen` / `beFixed` used below; this file imports little of Mathlib and takes
them as a structure, `Props/C05b.lean` plugs them in -/
structure NumberToStringFacts : Prop where
  n2s : ∀ num order : Nat, num < 256 ^ Util.orderlen order →
    Util.numberToString num order = .ok (beFixed (Util.orderlen order) num)
  lt_pow : ∀ r n : Nat, r < n → r < 256 ^ Util.orderlen n
  len : ∀ l n : Nat, (beFixed l n).length = l
  val : ∀ l n : Nat, n < 256 ^ l → beVal (beFixed l n) = n
  uniq : ∀ n l : Nat, 1 ≤ n → n < 256 ^ l → 256 ^ (l - 1) ≤ n → Util.orderlen n = l

/-- **secret_bytes_of_facts** — whenever `generate_sharedsecret()` returns `v` with `0 ≤ v < p` (p = the field prime of
the agreed curve; C06: `x()` is reduced), `generate_sharedsecret_bytes()` returns exactly the big-endian bytes of
`v`, left-padded with zeros to `L` bytes, where `L` is the byte length of `p`: `256^(L-1) ≤ p < 256^L`
(= ⌈bitlen p / 8⌉); in particular the length does not depend on `v` and `v` is recovered by `beVal`. -/
theorem secret_bytes_of_facts (F : NumberToStringFacts) (env : Env Crv Pt Ent) (s : State Crv Pt) (v : Int)
    (sk : SKey Crv Pt) (hs : s.priv = some sk)
    (hv : getSharedSecret env s = .ok v) (h0 : 0 ≤ v) (hp : v < (env.fieldP sk.curve : Int)) :
    let p := env.fieldP sk.curve
    let L := Util.orderlen p
    step env s .secretBytes = (s, .ok (.bytes (beFixed L v.toNat))) ∧
    (beFixed L v.toNat).length = L ∧ beVal (beFixed L v.toNat) = v.toNat ∧
    (∀ l, 256 ^ (l - 1) ≤ p → p < 256 ^ l → L = l) := by
  intro p L
  have hlt : v.toNat < p := by omega
  have hfit := F.lt_pow _ _ hlt
  refine ⟨?_, F.len _ _, F.val _ _ hfit, fun l h1 h2 => F.uniq p l (by omega) h2 h1⟩
  have hneg : ¬ v < 0 := by omega
  -- `secretBytes` finds the secret and the key, `v` is not negative, and `number_to_string` fits
  simp only [step, secretBytes, hv, hs, numberToStringInt, if_neg hneg, F.n2s _ _ hfit, L, p]

end C05
