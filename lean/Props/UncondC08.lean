import Proofs.UncondBase
import Props.C08
/-!
# UncondC08 — C08: public-key acceptance on the named curves with NO primality hypothesis

For every curve of `NamedPrimes.unconditionalCurves` (all 17 curves of the table: p and n carry kernel-checked Pocklington certificates, the
order of the base point is checked by kernel evaluation) the headline statements of C08 hold without any hypothesis about the
curve, except `#E(𝔽_p) = n` where stated.
-/
namespace UncondC08
open Uncond Named NamedPrimes Ecdsa GroupInterface Jac
open Keys KeysP Asn1Spec
variable {r : Gen.CurveRow}

/-- `VerifyingKey.from_string` with validation accepts exactly the encodings of reduced on-curve points passing the code's
own subgroup test (the clause is K2 for h ≠ 1) -/
theorem from_string_accepts_iff_partial (hr : r ∈ unconditionalCurves) (s : Bytes) (k : VK) :
    VK.fromString KeysWire.modelExt r s true = .ok k ↔
      k.curve = r ∧ Encodes (Util.orderlen r.p) s k.x k.y ∧
        k.x < r.p ∧ k.y < r.p ∧ onCurve r k.x k.y = true ∧ (r.h ≠ 1 → KeysWire.subgroupOkModel r k.x k.y = true) :=
  C08.from_string_accepts_iff_model_partial r (mem_table hr) (primeP hr) s k

/-- with #E(𝔽_p) = n (cofactor 1): accepted ⇔ encoding of a reduced point of ⟨G⟩ -/
theorem from_string_accepts_iff_subgroup (hr : r ∈ unconditionalCurves) (hh : r.h = 1) :
    haveI := factP hr
    Nat.card (Jac.Grp ((r.a : ℤ) : ZMod r.p) ((r.b : ℤ) : ZMod r.p)) = r.n → ∀ (s : Bytes) (k : VK),
    (VK.fromString KeysWire.modelExt r s true = .ok k ↔
      k.curve = r ∧ Encodes (Util.orderlen r.p) s k.x k.y ∧ k.x < r.p ∧ k.y < r.p ∧
        InSubgroup r (checked_of_mem (mem_table hr)) k.x k.y) := by
  haveI := factP hr
  intro hcard s k
  exact C08.from_string_accepts_iff_subgroup_cofactor_one r (mem_table hr) (primeN hr) hh hcard s k

theorem from_string_accepts_subgroup_points (hr : r ∈ unconditionalCurves) :
    haveI := factP hr
    ∀ (s : Bytes) (x y : Nat), KeysP.Encodes (Util.orderlen r.p) s x y → x < r.p → y < r.p →
      KeysP.InSubgroup r (checked_of_mem (mem_table hr)) x y →
      Keys.VK.fromString KeysWire.modelExt r s true = .ok ⟨r, x, y⟩ := by
  haveI := factP hr
  intro s x y henc hx hy hsub
  exact C08.from_string_accepts_subgroup_points r (mem_table hr) (primeN hr) s x y henc hx hy hsub

end UncondC08
