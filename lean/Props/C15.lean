import Model.NumberTheory
import Proofs.NTInv
import Proofs.NTInvFallback
import Proofs.NTJacobi
import Proofs.NTGuards
import Proofs.NTSqrt
import Proofs.NTCip
import Proofs.NTCipPoly
/-!
# C15 — modular inverse, modular square root, Jacobi symbol

The model is `Model/NumberTheory.lean` (`NT.*`) over the pieces regenerated from `src/ecdsa/numbertheory.py`
(`Gen.NT.inverse_mod`, `Gen.NT.jacobi_*`, …).
-/
namespace C15
open NT NTProofs NumberTheorySymbols

/-! ## inverse_mod (the live variant: `if a == 0: return 0; return pow(a, -1, m)`) -/

/-- for a positive modulus and `gcd(a, m) = 1` — `a` of any sign and size — the result `i` satisfies
`a·i ≡ 1 (mod m)` and `0 ≤ i < m` (for `m = 1` this is `i = 0`) -/
theorem inverse_mod_spec (a m : Int) (hm : 1 ≤ m) (hg : Int.gcd a m = 1) :
    ∃ i, inverseMod a m = .ok i ∧ 0 ≤ i ∧ i < m ∧ (a * i) % m = 1 % m := by
  rw [inverseMod_eq]
  by_cases ha : a = 0
  · subst ha
    rw [eq_one_of_gcd_zero hm hg]
    exact ⟨0, rfl, le_refl _, by decide, by decide⟩
  · obtain ⟨i, h1, h2, h3, -⟩ := powInv_coprime a m (by omega) hg
    exact ⟨i, by rw [if_neg ha, h1], (h3 (by omega)).1, (h3 (by omega)).2,
      Int.emod_eq_emod_iff_emod_sub_eq_zero.mpr (Int.emod_eq_zero_of_dvd h2)⟩

/-- the remaining inputs, exactly as the code behaves: `a = 0` returns 0 for every `m` (even `m = 0`); a base that
is not invertible, or `m = 0`, raises `ValueError` (from `pow`); a negative modulus gives the inverse in `(m, 0]` -/
theorem inverse_mod_other_inputs (a m : Int) :
    inverseMod 0 m = .ok 0 ∧
    (a ≠ 0 → m = 0 → inverseMod a m = .error .valueError) ∧
    (a ≠ 0 → m ≠ 0 → Int.gcd a m ≠ 1 → inverseMod a m = .error .valueError) ∧
    (a ≠ 0 → m < 0 → Int.gcd a m = 1 → ∃ i, inverseMod a m = .ok i ∧ m < i ∧ i ≤ 0 ∧ m ∣ a * i - 1) := by
  refine ⟨by rw [inverseMod_eq, if_pos rfl], fun ha hm => ?_, fun ha _ hg => ?_, fun ha hm hg => ?_⟩
  · rw [inverseMod_eq, if_neg ha, powInv_error a m (Or.inl hm)]
  · rw [inverseMod_eq, if_neg ha, powInv_error a m (Or.inr hg)]
  · obtain ⟨i, h1, h2, -, h4⟩ := powInv_coprime a m (by omega) hg
    exact ⟨i, by rw [inverseMod_eq, if_neg ha, h1], (h4 hm).1, (h4 hm).2, h2⟩

/-- the pre-3.8 fallback variant (`while low > 1: …`, loop condition and body translated from the source) returns the
same value as the live variant whenever the property applies (`m ≥ 1`, `gcd(a, m) = 1`) -/
theorem inverse_mod_fallback_eq (a m : Int) (hm : 1 ≤ m) (hg : Int.gcd a m = 1) :
    inverseModFallback a m = inverseMod a m := by
  obtain ⟨i, h1, h2, h3, h4⟩ := inverseModFallback_spec a m hm hg
  obtain ⟨j, g1, g2, g3, g4⟩ := inverse_mod_spec a m hm hg
  have g4' : m ∣ a * j - 1 := Int.dvd_of_emod_eq_zero (Int.emod_eq_emod_iff_emod_sub_eq_zero.mp g4)
  rw [h1, g1, inverse_unique a m i j hg h2 h3 g2 g3 h4 g4']

/-- non-vacuity: negative and oversized arguments on a 61-bit modulus -/
example : Int.gcd (-3) 2305843009213693951 = 1 ∧ inverseMod (-3) 2305843009213693951 = .ok 768614336404564650 ∧
    inverseMod (2305843009213693951 * 5 + 3) 7 = .ok 1 ∧ inverseMod 6 9 = .error .valueError ∧ inverseMod 3 (-7) = .ok (-2) := by
  decide +kernel


/-- for every integer `a` and every odd `n ≥ 3` the code's `jacobi(a, n)` is the Jacobi symbol (assumption: no
`RecursionError`, see `jacobi_recursion_depth_tight`: the recursion is at most `bitlen(n) + 2` deep).  Mathlib's
`jacobiSym a n` is *by definition* the product of the Legendre symbols `legendreSym q a` over the prime
factorisation `q ∈ n.primeFactorsList` (with multiplicity) — the wording of the property (`jacobi_is_product`). -/
theorem jacobi_eq_jacobiSym (a : Int) (n : Nat) (hn3 : 3 ≤ n) (hodd : n % 2 = 1) :
    jacobi a n = .ok (jacobiSym a n) :=
  jacobi_eq a n hn3 hodd

/-- **recursion depth.**  Python's `jacobi` is RECURSIVE; `NT.jacobiF d a n` is the model with at most `d` nested calls
(`PyErr.other` when more would be needed).  `2·⌊log₂ n⌋ + 3` nested calls always suffice. -/
theorem jacobi_recursion_depth (a : Int) (n : Nat) (hn3 : 3 ≤ n) (hodd : n % 2 = 1) :
    jacobiF (2 * Nat.log2 n + 3) a n = .ok (jacobiSym a n) :=
  jacobiF_eq a n hn3 hodd _ (by omega)

/-- **tight recursion depth**: `⌊log₂ n⌋ + 3` nested calls always suffice — for an `n` of `k` bits that is at most `k + 2`
frames, ONE frame per bit: `n + (odd part of a mod n)` at least halves in every recursive call (`jacobiF_eq_of_pot`); the
bound is sharp up to the constant (`n_k = n_{k-1} + 2·n_{k-2}` forces ≈ log₂ n frames).  ASSUMPTION of
`jacobi_eq_jacobiSym`, `sqrt_*` (and everything built on them): CPython's recursion limit (default 1000, minus the caller's
frames) is not hit.  That holds for every modulus in use here (≤ 521 bits: ≤ 523 frames) and for every modulus below ≈ 900
bits; from ≈ 1000-bit moduli on a `RecursionError` is possible for adversarial `a` and is NOT modelled. -/
theorem jacobi_recursion_depth_tight (a : Int) (n : Nat) (hn3 : 3 ≤ n) (hodd : n % 2 = 1) :
    jacobiF (Nat.log2 n + 3) a n = .ok (jacobiSym a n) :=
  jacobiF_eq a n hn3 hodd _ (by omega)

/-- non-vacuity / sharpness witness: a 9-bit modulus that needs more than 6 nested calls (so the constant cannot drop below
`log₂ n − 2`), while `log₂ n + 3 = 11` suffice -/
example : jacobiF 6 282 341 = .error .other ∧ jacobiF 11 282 341 = .ok (jacobiSym 282 341) := by
  constructor
  · decide +kernel
  · exact jacobi_recursion_depth_tight 282 341 (by decide) (by decide)

/-- the definition of `jacobiSym` spelled out: product of Legendre symbols over the prime factorisation -/
theorem jacobi_is_product (a : Int) (n : Nat) (hn3 : 3 ≤ n) (hodd : n % 2 = 1) :
    jacobi a n = .ok (n.primeFactorsList.pmap (fun q pq => @legendreSym q ⟨pq⟩ a) fun _ pf => Nat.prime_of_mem_primeFactorsList pf).prod :=
  jacobi_eq a n hn3 hodd

/-- even `n` or `n < 3`: `AssertionError` (this version of the code has `assert`s, no `JacobiError`) -/
theorem jacobi_assertions (a n : Int) (h : n < 3 ∨ n % 2 = 0) : jacobi a n = .error .assertionError := by
  rw [jacobi, jacobiF]
  rcases h with h | h
  · rw [show Gen.NT.jacobi_assert1 a n = false from decide_eq_false (by omega)]; rfl
  · have : Gen.NT.jacobi_assert2 a n = false :=
      decide_eq_false (by rw [Int.fmod_eq_emod_of_nonneg n (by decide)]; omega)
    rw [this]
    cases Gen.NT.jacobi_assert1 a n <;> rfl

/-- non-vacuity: a composite modulus above 1000 and a negative / oversized argument -/
example : jacobi (-7) 1001 = .ok 0 ∧ jacobi 1234567 1003 = .ok (-1) ∧ jacobi 5 21 = .ok 1 ∧ jacobi 3 4 = .error .assertionError := by
  decide +kernel

theorem sqrt_zero (p : Int) (hp : 1 < p) : squareRootModPrime 0 p = .ok 0 := by
  unfold squareRootModPrime
  have : ¬ p ≤ 0 := by omega
  simp [hp]; omega

theorem sqrt_p2 (a : Int) (h0 : 0 ≤ a) (h1 : a < 2) :
    ∃ r, squareRootModPrime a 2 = .ok r ∧ 0 ≤ r ∧ r < 2 ∧ (r * r) % 2 = a % 2 := by
  have : a = 0 ∨ a = 1 := by omega
  rcases this with rfl | rfl
  · exact ⟨0, by decide +kernel, by decide, by decide, by decide⟩
  · exact ⟨1, by decide +kernel, by decide, by decide, by decide⟩

/-- the documented precondition: `AssertionError` outside `0 ≤ a < p`, `1 < p` -/
theorem sqrt_assertions (a p : Int) (h : a < 0 ∨ p ≤ a ∨ p ≤ 1) : squareRootModPrime a p = .error .assertionError := by
  unfold squareRootModPrime
  by_cases c : 0 ≤ a ∧ a < p
  · have : ¬ 1 < p := by omega
    simp [c, this]
  · simp [c]

/-- every odd prime, **every residue class of p including 1 mod 8**: a non-residue raises `SquareRootError` -/
theorem sqrt_nonresidue (p : Nat) (hp : p.Prime) (hp2 : p ≠ 2) (a : Int) (h0 : 0 < a) (h1 : a < p)
    (hn : ¬ IsSquare (a : ZMod p)) : squareRootModPrime a p = .error .squareRoot := by
  have := Fact.mk hp
  rw [sqrt_unfold hp2 a h0 h1, if_pos (legendreSym.eq_neg_one_iff p |>.mpr hn)]

/-- p ≡ 3 (mod 4) (this covers 3 and 7 mod 8): a residue gets a root `r`, `r·r ≡ a`, `0 ≤ r < p` -/
theorem sqrt_3mod4 (p : Nat) (hp : p.Prime) (h34 : p % 4 = 3) (a : Int) (h0 : 0 < a) (h1 : a < p)
    (hs : IsSquare (a : ZMod p)) :
    ∃ r, squareRootModPrime a p = .ok r ∧ 0 ≤ r ∧ r < p ∧ (r * r) % p = a % p := by
  have := Fact.mk hp
  obtain ⟨hp2, c1, k, -, e2, e1⟩ := exponents_3mod4 h34
  have hE := pow_half_eq_one h0 h1 hs
  rw [e2] at hE
  rw [sqrt_unfold hp2 a h0 h1, if_neg (legendreSym_ne_neg_one hs), if_pos c1, e1]
  refine ⟨_, rfl, (powMod_range hp.pos a _).1, (powMod_range hp.pos a _).2, ?_⟩
  rw [← ZMod.intCast_eq_intCast_iff', Int.cast_mul, cast_powMod hp.pos]
  calc (a : ZMod p) ^ (k + 1) * (a : ZMod p) ^ (k + 1) = (a : ZMod p) * (a : ZMod p) ^ (2 * k + 1) := by ring
    _ = a := by rw [hE, mul_one]

/-- p ≡ 5 (mod 8), both sub-branches (`d = 1` and `d = p − 1`); the `RuntimeError("Shouldn't get here.")` is
unreachable because the result is `.ok` -/
theorem sqrt_5mod8 (p : Nat) (hp : p.Prime) (h58 : p % 8 = 5) (a : Int) (h0 : 0 < a) (h1 : a < p)
    (hs : IsSquare (a : ZMod p)) :
    ∃ r, squareRootModPrime a p = .ok r ∧ 0 ≤ r ∧ r < p ∧ (r * r) % p = a % p := by
  have := Fact.mk hp
  obtain ⟨hp2, c1, c2, k, -, e2, e1, e3, e4⟩ := exponents_5mod8 h58
  have hE := pow_half_eq_one h0 h1 hs
  have h2 := two_pow_half_eq_neg_one h58
  rw [e2] at hE h2
  rw [sqrt_unfold hp2 a h0 h1, if_neg (legendreSym_ne_neg_one hs), if_neg c1, if_pos c2, e1, e3, e4]
  set x : ZMod p := (a : ZMod p) with hx
  -- `d = a^((p-1)/4)` squares to 1, so it is `±1`
  have hd : (x ^ (2 * k + 1)) * (x ^ (2 * k + 1)) = 1 := by rw [← hE]; ring
  have hdr := powMod_range hp.pos a (2 * k + 1)
  dsimp only
  rcases mul_self_eq_one_iff.mp hd with hd1 | hd1
  · have hdI : powMod a (2 * k + 1) p = 1 :=
      (cast_eq_one_iff hp.two_le hdr.1 hdr.2).mp (by rw [cast_powMod hp.pos, ← hx, hd1])
    rw [if_pos hdI]
    refine ⟨_, rfl, (powMod_range hp.pos a _).1, (powMod_range hp.pos a _).2, ?_⟩
    rw [← ZMod.intCast_eq_intCast_iff', Int.cast_mul, cast_powMod hp.pos, ← hx]
    calc x ^ (k + 1) * x ^ (k + 1) = x * x ^ (2 * k + 1) := by ring
      _ = x := by rw [hd1, mul_one]
  · have hdI : powMod a (2 * k + 1) p = p - 1 :=
      (cast_eq_neg_one_iff hp.two_le hdr.1 hdr.2).mp (by rw [cast_powMod hp.pos, ← hx, hd1])
    rw [if_neg (by rw [hdI]; exact fun h => by omega), if_pos hdI]
    refine ⟨_, rfl, Int.emod_nonneg _ (by omega), Int.emod_lt_of_pos _ (by omega), ?_⟩
    rw [← ZMod.intCast_eq_intCast_iff', Int.cast_mul, ZMod.intCast_mod, Int.cast_mul, Int.cast_mul, cast_powMod hp.pos,
      Int.cast_mul, ← hx]
    simp only [Int.cast_ofNat]
    calc 2 * x * (4 * x) ^ k * (2 * x * (4 * x) ^ k) = x * ((2 : ZMod p) ^ (4 * k + 2) * x ^ (2 * k + 1)) := by
          rw [show (4 * x) ^ k = (2 : ZMod p) ^ (2 * k) * x ^ k by
            rw [mul_pow, show (4 : ZMod p) = 2 ^ 2 by norm_num, ← pow_mul]]
          ring
      _ = x := by rw [h2, hd1]; ring

/-! ### the p ≡ 1 (mod 8) branch (polynomial arithmetic; used for P-224 point decompression) -/

/-- **the list-based `polynomial_*_mod` helpers compute in the quotient ring**: in ANY commutative ring `K` in which
`p = 0`, for any `t : K` that is a root of the monic `polymod` (`NTCip.evalL l t = Σ lᵢ tⁱ`):
`polynomial_reduce_mod` preserves the value at `t`, `polynomial_multiply_mod` returns a list whose value is the product,
`polynomial_exp_mod` one whose value is the power; none of them raises; lengths and coefficient ranges as stated. -/
theorem poly_ops_are_quotient_ring {K : Type*} [CommRing K] {p : Int} (hpK : ((p : Int) : K) = 0) (hp0 : p ≠ 0) (t : K)
    (polymod : List Int) (hmonic : polymod.getLast? = some 1) (hlen : 2 ≤ polymod.length)
    (hroot : NTCip.evalL polymod t = 0) :
    (∀ poly, ∃ q, polyReduceMod poly polymod p = .ok q ∧ NTCip.evalL q t = NTCip.evalL poly t ∧
      q.length = min poly.length (polymod.length - 1) ∧ (0 < p → NTCip.InRange p poly → NTCip.InRange p q)) ∧
    (∀ m1 m2, ∃ q, polyMulMod m1 m2 polymod p = .ok q ∧ NTCip.evalL q t = NTCip.evalL m1 t * NTCip.evalL m2 t ∧
      q.length = min (m1.length + m2.length - 1) (polymod.length - 1) ∧ (0 < p → NTCip.InRange p q)) ∧
    (∀ base e, 0 ≤ e → e < p → ∃ q, polyExpMod base e polymod p = .ok q ∧
      NTCip.evalL q t = NTCip.evalL base t ^ e.toNat) :=
  NTCip.poly_ops_are_quotient_ring hpK hp0 t polymod hmonic hlen hroot

/-- the same read in `𝔽_p[x]` itself (`NTCip.toPoly p l = Σ lᵢ Xⁱ ∈ (ZMod p)[X]`): the helpers return the canonical
representative `… %ₘ f` of the product / power modulo the monic `f = toPoly polymod`, coefficients in `[0, p)` -/
theorem poly_ops_mod_by_monic {p : Nat} [Fact (1 < p)] (polymod : List Int) (hmonic : polymod.getLast? = some 1)
    (hlen : 2 ≤ polymod.length) :
    (∀ m1 m2, ∃ q, polyMulMod m1 m2 polymod p = .ok q ∧
      NTCip.toPoly p q = (NTCip.toPoly p m1 * NTCip.toPoly p m2) %ₘ NTCip.toPoly p polymod ∧
      q.length < polymod.length ∧ NTCip.InRange p q) ∧
    (∀ base (e : Int), 0 ≤ e → e < p → NTCip.Reduced p polymod base → ∃ q, polyExpMod base e polymod p = .ok q ∧
      NTCip.toPoly p q = (NTCip.toPoly p base ^ e.toNat) %ₘ NTCip.toPoly p polymod ∧
      q.length < polymod.length ∧ NTCip.InRange p q) :=
  ⟨fun m1 m2 => NTCip.polyMulMod_modByMonic m1 m2 polymod hmonic hlen,
   fun base e h0 h1 hb => NTCip.polyExpMod_modByMonic base polymod e hmonic hlen h0 h1 hb⟩

/-- p ≡ 1 (mod 8): a residue gets a root.  A suitable `b` with `b² − 4a` a non-residue exists in the scanned range (so
`RuntimeError("No b found.")` is unreachable), `x^((p+1)/2) mod (x² − b·x + a)` has no linear term (the `assert` holds,
no `IndexError`) and its constant term squares to `a` (Frobenius in `𝔽_p[x]/(x² − bx + a)`: `tᵖ = b − t`, `tᵖ⁺¹ = a`). -/
theorem sqrt_1mod8 (p : Nat) (hp : p.Prime) (h18 : p % 8 = 1) (a : Int) (h0 : 0 < a) (h1 : a < p)
    (hs : IsSquare (a : ZMod p)) :
    ∃ r, squareRootModPrime a p = .ok r ∧ 0 ≤ r ∧ r < p ∧ (r * r) % p = a % p := by
  have := Fact.mk hp
  have hp2 : p ≠ 2 := by omega
  rw [sqrt_unfold hp2 a h0 h1, if_neg (legendreSym_ne_neg_one hs), if_neg (by omega), if_neg (by omega)]
  exact NTCip.sqrtSearch_root (by omega) a h0 h1 hs

/-- **all odd primes, all `0 ≤ a < p`**: a quadratic residue gets `r` with `r·r ≡ a (mod p)`, `0 ≤ r < p`; a non-residue
raises `SquareRootError`; nothing else (`RuntimeError`, `AssertionError`, `IndexError`, budget) can happen -/
theorem sqrt_spec (p : Nat) (hp : p.Prime) (hp2 : p ≠ 2) (a : Int) (h0 : 0 ≤ a) (h1 : a < p) :
    (IsSquare (a : ZMod p) → ∃ r, squareRootModPrime a p = .ok r ∧ 0 ≤ r ∧ r < p ∧ (r * r) % p = a % p) ∧
    (¬ IsSquare (a : ZMod p) → squareRootModPrime a p = .error .squareRoot) := by
  rcases eq_or_lt_of_le h0 with rfl | hpos
  · exact ⟨fun _ => ⟨0, sqrt_zero p (by exact_mod_cast hp.one_lt), le_refl _, h1, rfl⟩,
      fun h => absurd (by rw [Int.cast_zero]; exact IsSquare.zero) h⟩
  · refine ⟨fun hs => ?_, fun hn => sqrt_nonresidue p hp hp2 a hpos h1 hn⟩
    have hodd : p % 2 = 1 := hp.eq_two_or_odd.resolve_left hp2
    by_cases h34 : p % 4 = 3
    · exact sqrt_3mod4 p hp h34 a hpos h1 hs
    by_cases h58 : p % 8 = 5
    · exact sqrt_5mod8 p hp h58 a hpos h1 hs
    · exact sqrt_1mod8 p hp (by omega) a hpos h1 hs

/-- non-vacuity: residues and a non-residue in each class, both sub-branches of 5 mod 8 (d = 1: a = 4; d = p-1: a = 5) -/
example : squareRootModPrime 2 7 = .ok 4 ∧ squareRootModPrime 3 7 = .error .squareRoot ∧
    squareRootModPrime 4 29 = .ok 27 ∧ squareRootModPrime 5 29 = .ok 18 ∧ squareRootModPrime 2 29 = .error .squareRoot ∧
    squareRootModPrime 3 17 = .error .squareRoot ∧ squareRootModPrime 2 17 = .ok 6 ∧
    squareRootModPrime 2 1553 = .ok 189 := by decide +kernel

/-- `square_root_mod_prime`: the model is the same control flow over the guards and integer expressions that
`gen_rest.py` extracts from the source on every run -/
theorem sqrt_guard_tie (a p : Int) : squareRootModPrime a p = NTGuards.sqrtG a p := by
  open Gen.Rest in
  simp only [NTGuards.sqrtG, numbertheory_square_root_mod_prime_assert0, numbertheory_square_root_mod_prime_assert1,
    numbertheory_square_root_mod_prime_if0, numbertheory_square_root_mod_prime_if1, numbertheory_square_root_mod_prime_if2,
    numbertheory_square_root_mod_prime_if3, numbertheory_square_root_mod_prime_if4, numbertheory_square_root_mod_prime_if5,
    numbertheory_square_root_mod_prime_if6, numbertheory_square_root_mod_prime_ret4, numbertheory_square_root_mod_prime_e0,
    numbertheory_square_root_mod_prime_e1, Bool.not_eq_true', Bool.eq_false_iff, ne_eq, Bool.and_eq_true,
    decide_eq_true_eq]
  rfl

/-- `jacobi`: the pieces the model is built from (`gen_nt.py`) coincide with the independent extraction of `gen_rest.py` -/
theorem jacobi_guard_tie (a n a1 e s : Int) :
    Gen.NT.jacobi_assert1 a n = Gen.Rest.numbertheory_jacobi_assert0 n ∧
    Gen.NT.jacobi_assert2 a n = Gen.Rest.numbertheory_jacobi_assert1 n ∧
    Gen.NT.jacobi_loop_cond a1 = Gen.Rest.numbertheory_jacobi_while0 a1 ∧
    Gen.NT.jacobi_loop_body a1 e = (Gen.Rest.numbertheory_jacobi_e0 a1, Gen.Rest.numbertheory_jacobi_e1 e) ∧
    (Int.fmod a n = Gen.Rest.numbertheory_jacobi_let0 a n) ∧ (Int.fmod n a1 = Gen.Rest.numbertheory_jacobi_e2 n a1) ∧
    (-s = Gen.Rest.numbertheory_jacobi_let5 s) :=
  ⟨rfl, rfl, rfl, rfl, rfl, rfl, rfl⟩

end C15
