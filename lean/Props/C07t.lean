import Proofs.CurveObjTie
/-!
# C07t — translator tie of the scalar-multiplication layer used by C07: `PointJacobi._naf / _maybe_precompute /
_mul_precompute / __mul__ / __rmul__ / mul_add`, legacy `Point.__mul__ / __rmul__` and `leftmost_bit`

The theorems are `C07t.Tie.*` in `Proofs/CurveObjTie.lean` (listed in `C07t.expected`): the control skeletons, and the
model functions restated with the generated tests / expressions (`other % (order * 2)`, `other % 4 >= 2`,
`(other ± 1) // 2`, `i < order`, the 9-way digit dispatch, `3 * e`, the bit tests …).
-/
namespace C07t

/-- non-vacuity: `naf 7 = [-1, 0, 0, 1]` (7 = 8 − 1), through the tied step function -/
example : Curve.naf 7 = [-1, 0, 0, 1] := by decide +kernel

end C07t
