import Proofs.Legacy
import Proofs.GroupObj0
import Proofs.Toy
import Proofs.StepsTie
/-!
# C06 — point addition, doubling, negation, equality and affine conversion implement the curve group

Objects of the statements
* `Gen.k_*` — the seven Jacobian kernels, REGENERATED from `/repo/src/ecdsa/ellipticcurve.py` on every run (exact integer
  text, Python `%` = `Int.fmod`);  `Curve.*` — the hand-written object layer over them (Model/Curve.lean).
* 𝔾 = `Jac.Grp a b` = Mathlib's group of nonsingular affine points of y² = x³ + ax + b over `ZMod p` (the textbook
  chord-and-tangent law).
* `Jac.IRep p a b H t g` — the integer triple `t` represents `g ∈ H` in the code's own reading (Y ≡ 0 or Z ≡ 0 is the
  identity; integer zero tests agree with the field, true for |c| < p);  `Jac.PJRep / AffRep / PtRep` — a stored
  `PointJacobi` / legacy `Point` / any point value with coordinates in [0, p) denoting `g`.
* Domain: p an odd prime (`[Fact p.Prime]`, `p ≠ 2`), all a, b (nothing is assumed about Δ: Mathlib's group is the group
  of nonsingular points), all integer triples.

* `Jac.PJRep0 / PtRep0` (section 3b) — the same, but a stored `PointJacobi` may ITSELF be the identity (Y = 0 or Z = 0):
  the library never produces such objects but accepts them, and C06 says "including the identity … in any internal
  representation".

**What is partial.**  Theorems named `…_partial` carry the hypothesis `Jac.NoOrder2 H` (N2T): the operands denote
elements of a subgroup H without an element of order two.  Where N2T is available:
* H = ⊤ (every point of the curve) when x³+ax+b has no root mod p — `Jac.noOrder2_top_of_no_root`; this is PROVED only
  for the toy curve used in the examples (Proofs/Toy.lean);
* H = ⊤ from the SEC 2 / FIPS fact #E(𝔽_p) = n with n odd, when that fact is a hypothesis anyway
  (`GroupInterface.noOrder2_top_of_card`, `Ctx.ofCard`); root-freeness of x³+ax+b is NOT proved for the named curves;
* H = ⟨G⟩ for a base point with n • G = 0, n odd, with no further assumption (`GroupInterface.Ctx.n2t`): so on a NAMED
  curve (all 17, SECP112r2 included) the theorems below speak, unconditionally in #E, about the points of ⟨G⟩.
The FULL statement (for every point of every curve) is FALSE for the code: open known finding K1,
`two_torsion_counterexample` below.  Everything else is unconditional.
Domain of the object-level statements: stored coordinates reduced to [0, p) (kernel level: |c| < p); what the code does
with unreduced constructor arguments is covered by the correspondence only (harness ASSUMPTIONS).
-/
namespace C06
open WeierstrassCurve WeierstrassCurve.Jacobian Curve Jac

variable {p : ℕ} [hp : Fact p.Prime] {a b : ℤ} {H : AddSubgroup (Grp (a : ZMod p) (b : ZMod p))}

/-! ## 1. every generated formula is Mathlib's formula (kernels ↔ `WeierstrassCurve.Jacobian`) -/

/-- `_add_with_z_1` (generic branch) = (−2) • `addXYZ` -/
theorem kernel_z_1_eq_smul (hp2 : p ≠ 2) (X1 Y1 X2 Y2 : ℤ)
    (hP : (shortW (a : ZMod p) (b : ZMod p)).Equation ![(X1 : ZMod p), (Y1 : ZMod p), 1])
    (hQ : (shortW (a : ZMod p) (b : ZMod p)).Equation ![(X2 : ZMod p), (Y2 : ZMod p), 1])
    (hne : ¬((X2 : ZMod p) = X1 ∧ (Y2 : ZMod p) = Y1)) :
    cast3 p (Gen.k_add_with_z_1 X1 Y1 X2 Y2 p a) =
      (-2 : ZMod p) • (shortW (a : ZMod p) (b : ZMod p)).addXYZ ![(X1 : ZMod p), (Y1 : ZMod p), 1]
        ![(X2 : ZMod p), (Y2 : ZMod p), 1] := by
  rcases k_add_with_z_1_cases (two_ne_zero_of hp2) X1 Y1 X2 Y2 a with ⟨hs, _⟩ | ⟨_, hc⟩
  · exact absurd hs hne
  · rw [hc]; exact addZ1F_eq_smul _ _ _ _ _ _ _ _ rfl rfl hP hQ

/-- `_add_with_z_eq` (generic branch) = (−Z₁⁻¹) • `addXYZ` -/
theorem kernel_z_eq_eq_smul (X1 Y1 Z1 X2 Y2 : ℤ) (hZ : (Z1 : ZMod p) ≠ 0)
    (hP : (shortW (a : ZMod p) (b : ZMod p)).Equation ![(X1 : ZMod p), (Y1 : ZMod p), (Z1 : ZMod p)])
    (hQ : (shortW (a : ZMod p) (b : ZMod p)).Equation ![(X2 : ZMod p), (Y2 : ZMod p), (Z1 : ZMod p)])
    (hne : ¬((X2 : ZMod p) = X1 ∧ (Y2 : ZMod p) = Y1)) :
    cast3 p (Gen.k_add_with_z_eq X1 Y1 Z1 X2 Y2 p a) =
      (-(Z1 : ZMod p)⁻¹) • (shortW (a : ZMod p) (b : ZMod p)).addXYZ
        ![(X1 : ZMod p), (Y1 : ZMod p), (Z1 : ZMod p)] ![(X2 : ZMod p), (Y2 : ZMod p), (Z1 : ZMod p)] := by
  rcases k_add_with_z_eq_cases (p := p) X1 Y1 Z1 X2 Y2 a with ⟨hs, _⟩ | ⟨_, hc⟩
  · exact absurd hs hne
  · rw [hc]; exact addZeqF_eq_smul _ _ _ _ _ _ _ hZ hP hQ

/-- `_add_with_z2_1` (generic branch) = (−2·Z₁) • `addXYZ` -/
theorem kernel_z2_1_eq_smul (hp2 : p ≠ 2) (X1 Y1 Z1 X2 Y2 : ℤ)
    (hP : (shortW (a : ZMod p) (b : ZMod p)).Equation ![(X1 : ZMod p), (Y1 : ZMod p), (Z1 : ZMod p)])
    (hQ : (shortW (a : ZMod p) (b : ZMod p)).Equation ![(X2 : ZMod p), (Y2 : ZMod p), 1])
    (hne : ¬((X2 : ZMod p) * Z1 ^ 2 = X1 ∧ (Y2 : ZMod p) * Z1 ^ 3 = Y1)) :
    cast3 p (Gen.k_add_with_z2_1 X1 Y1 Z1 X2 Y2 p a) =
      (-2 * (Z1 : ZMod p)) • (shortW (a : ZMod p) (b : ZMod p)).addXYZ
        ![(X1 : ZMod p), (Y1 : ZMod p), (Z1 : ZMod p)] ![(X2 : ZMod p), (Y2 : ZMod p), 1] := by
  rcases k_add_with_z2_1_cases (two_ne_zero_of hp2) X1 Y1 Z1 X2 Y2 a with ⟨hs, _⟩ | ⟨_, hc⟩
  · exact absurd hs hne
  · rw [hc]; exact addZ21F_eq_smul _ _ _ _ _ _ _ _ rfl hP hQ

/-- `_add_with_z_ne` (generic branch) = (−2·Z₁·Z₂) • `addXYZ` -/
theorem kernel_z_ne_eq_smul (hp2 : p ≠ 2) (X1 Y1 Z1 X2 Y2 Z2 : ℤ)
    (hP : (shortW (a : ZMod p) (b : ZMod p)).Equation ![(X1 : ZMod p), (Y1 : ZMod p), (Z1 : ZMod p)])
    (hQ : (shortW (a : ZMod p) (b : ZMod p)).Equation ![(X2 : ZMod p), (Y2 : ZMod p), (Z2 : ZMod p)])
    (hne : ¬((X2 : ZMod p) * Z1 ^ 2 = X1 * Z2 ^ 2 ∧ (Y2 : ZMod p) * Z1 ^ 3 = Y1 * Z2 ^ 3)) :
    cast3 p (Gen.k_add_with_z_ne X1 Y1 Z1 X2 Y2 Z2 p a) =
      (-2 * (Z1 : ZMod p) * (Z2 : ZMod p)) • (shortW (a : ZMod p) (b : ZMod p)).addXYZ
        ![(X1 : ZMod p), (Y1 : ZMod p), (Z1 : ZMod p)] ![(X2 : ZMod p), (Y2 : ZMod p), (Z2 : ZMod p)] := by
  rcases k_add_with_z_ne_cases (two_ne_zero_of hp2) X1 Y1 Z1 X2 Y2 Z2 a with ⟨hs, _⟩ | ⟨_, hc⟩
  · exact absurd hs hne
  · rw [hc]; exact addNeF_eq_smul _ _ _ _ _ _ _ _ hP hQ

/-- `_double` (generic branch, Z ≠ 1) EQUALS Mathlib's `dblXYZ`; same-point tests of the four addition kernels
fall through to it -/
theorem kernel_double_eq (X1 Y1 Z1 : ℤ) (hZ : Z1 ≠ 1) (hY : Y1 ≠ 0) (hZ0 : Z1 ≠ 0) (hy : (Y1 : ZMod p) ≠ 0) :
    cast3 p (Gen.k_double X1 Y1 Z1 p a) =
      (shortW (a : ZMod p) (b : ZMod p)).dblXYZ ![(X1 : ZMod p), (Y1 : ZMod p), (Z1 : ZMod p)] := by
  rcases k_double_cases (p := p) X1 Y1 Z1 a hZ with ⟨h0, _⟩ | ⟨_, _, _, hc⟩
  · rcases h0 with h0 | h0 | h0
    · exact absurd h0 hY
    · exact absurd h0 hZ0
    · exact absurd h0 hy
  · rw [hc]; exact dblF_eq _ _ _ _ _

/-- `_double_with_z_1` EQUALS `dblXYZ` at Z = 1 -/
theorem kernel_double_z1_eq (X1 Y1 : ℤ) (hy : (Y1 : ZMod p) ≠ 0) :
    cast3 p (Gen.k_double_with_z_1 X1 Y1 p a) =
      (shortW (a : ZMod p) (b : ZMod p)).dblXYZ ![(X1 : ZMod p), (Y1 : ZMod p), 1] := by
  rcases k_double_with_z_1_cases (p := p) X1 Y1 a with ⟨h0, _⟩ | ⟨_, hc⟩
  · exact absurd h0 hy
  · rw [hc]; exact dblZ1F_eq _ _ _ _ _ rfl

/-! ## 2. the group law on representations -/

/-- FULL statement (false for the code — K1): for every curve and all valid triples,
`⟦_add P Q⟧ = ⟦P⟧ + ⟦Q⟧`.  PROVED: the same under N2T (`hH`), through all seven dispatch cases of `_add`
(either operand the identity, the first passed through with `Y2 % p`; Z₁ = Z₂ = 1, Z₁ = Z₂, Z₁ = 1, Z₂ = 1, general)
including the reduced same-point tests that fall through to `_double`. -/
theorem add_correct_partial (hp2 : p ≠ 2) (hH : NoOrder2 H) {X1 Y1 Z1 X2 Y2 Z2 : ℤ} {g h}
    (hP : IRep p a b H (X1, Y1, Z1) g) (hQ : IRep p a b H (X2, Y2, Z2) h) :
    IRep p a b H (Gen.k_add X1 Y1 Z1 X2 Y2 Z2 p a) (g + h) :=
  k_add_correct hp2 hH hP hQ

/-- the code's own reading of an integer triple as a function (DESIGN's ⟦X,Y,Z⟧): 0 if Y ≡ 0 or Z ≡ 0 -/
noncomputable def den (p : ℕ) [Fact p.Prime] (a b : ℤ) (t : ℤ × ℤ × ℤ) : Grp (a : ZMod p) (b : ZMod p) :=
  open Classical in
  if (t.2.1 : ZMod p) = 0 ∨ (t.2.2 : ZMod p) = 0 then 0
  else Point.toAffine (shortW (a : ZMod p) (b : ZMod p)) (cast3 p t)

/-- `t` is a valid triple for the subgroup H: it represents some element of H -/
def Valid (p : ℕ) [Fact p.Prime] (a b : ℤ) (H : AddSubgroup (Grp (a : ZMod p) (b : ZMod p))) (t : ℤ × ℤ × ℤ) : Prop :=
  ∃ g, IRep p a b H t g

theorem irep_den {t : ℤ × ℤ × ℤ} {g} (h : IRep p a b H t g) : den p a b t = g := by
  unfold den
  rcases h.rep.cases with ⟨h0, hg⟩ | hgood
  · rw [if_pos (by simpa [cast3] using h0), hg]
  · rw [if_neg (by simpa [cast3, not_or] using And.intro hgood.y_ne hgood.z_ne)]
    exact hgood.toAffine_eq

theorem add_correct_den_partial (hp2 : p ≠ 2) (hH : NoOrder2 H) {X1 Y1 Z1 X2 Y2 Z2 : ℤ}
    (hP : Valid p a b H (X1, Y1, Z1)) (hQ : Valid p a b H (X2, Y2, Z2)) :
    Valid p a b H (Gen.k_add X1 Y1 Z1 X2 Y2 Z2 p a) ∧
      den p a b (Gen.k_add X1 Y1 Z1 X2 Y2 Z2 p a) = den p a b (X1, Y1, Z1) + den p a b (X2, Y2, Z2) := by
  obtain ⟨g, hg⟩ := hP
  obtain ⟨h, hh⟩ := hQ
  have := k_add_correct hp2 hH hg hh
  exact ⟨⟨_, this⟩, by rw [irep_den this, irep_den hg, irep_den hh]⟩

/-- `P + Q` on objects (`PointJacobi.__add__`; second operand INFINITY, a `PointJacobi` or a legacy `Point`):
never raises, and the result denotes `⟦P⟧ + ⟦Q⟧` (INFINITY exactly when the sum is 0) -/
theorem add_objects_correct_partial (hp2 : p ≠ 2) (hH : NoOrder2 H) {P : PJ} {other : Pt} {g h}
    (hP : PJRep p a b H P g) (hQ : PtRep p a b H other h) :
    ∃ R, pjAdd P other = .ok R ∧ PtRep p a b H R (g + h) :=
  pjAdd_correct hp2 hH hP hQ

/-- FULL: `⟦_double P⟧ = 2⟦P⟧` for every valid triple.  PROVED under N2T. -/
theorem double_correct_partial (hH : NoOrder2 H) {X1 Y1 Z1 : ℤ} {g}
    (h : IRep p a b H (X1, Y1, Z1) g) : IRep p a b H (Gen.k_double X1 Y1 Z1 p a) (g + g) :=
  k_double_correct hH h

theorem double_object_correct_partial (hH : NoOrder2 H) {P : PJ} {g} (hP : PJRep p a b H P g) :
    PtRep p a b H (pjDouble P) (g + g) :=
  pjDouble_correct hH hP

/-- `-P` (unconditional): denotes `−⟦P⟧`, and the stored coordinates stay in [0, p) -/
theorem neg_correct {P : PJ} {g} (hP : PJRep p a b H P g) : PJRep p a b H (pjNeg P) (-g) :=
  pjNeg_correct hP

/-- `-P` on ANY point value, the identity included: `-INFINITY` is INFINITY, `-P` for a `PointJacobi`,
`Point.__neg__` for a legacy point (that case is why N2T is needed: it stores `p - y`) -/
theorem pt_neg_correct_partial (hH : NoOrder2 H) {A : Pt} {g} (hA : PtRep p a b H A g) :
    ∃ R, ptNeg A = .ok R ∧ PtRep p a b H R (-g) := by
  cases A with
  | infinity =>
    have : g = 0 := hA
    exact ⟨.infinity, rfl, by simp [PtRep, this]⟩
  | jac P => exact ⟨.jac (pjNeg P), rfl, pjNeg_correct hA⟩
  | aff Q =>
    obtain ⟨N, e, hN, _⟩ := affNeg_correct hH hA
    exact ⟨.aff N, by simp [ptNeg, e], hN⟩

/-- FULL: `P == Q ↔ ⟦P⟧ = ⟦Q⟧` for all points.  PROVED under N2T (needed only when `other` is a legacy affine point,
to know its y ≠ 0); `other` = INFINITY / `PointJacobi` / legacy `Point`. -/
theorem eq_iff_partial (hH : NoOrder2 H) {P : PJ} {other : Pt} {g h}
    (hP : PJRep p a b H P g) (hQ : PtRep p a b H other h) : pjEq P other = true ↔ g = h :=
  pjEq_iff hH hP hQ

theorem equivalence_of_iff {G : Type*} {rep : Pt → G → Prop}
    (E : ∀ {A B : Pt} {g h : G}, rep A g → rep B h → (ptEq A B = true ↔ g = h)) {A B C : Pt} {g h k : G}
    (hA : rep A g) (hB : rep B h) (hC : rep C k) :
    ptEq A A = true ∧ (ptEq A B = true → ptEq B A = true) ∧
      (ptEq A B = true → ptEq B C = true → ptEq A C = true) :=
  ⟨(E hA hA).mpr rfl, fun h1 => (E hB hA).mpr ((E hA hB).mp h1).symm,
    fun h1 h2 => (E hA hC).mpr (((E hA hB).mp h1).trans ((E hB hC).mp h2))⟩

/-- hence `==` is an equivalence relation on point values (reflexive, symmetric, transitive) -/
theorem eq_equivalence_partial (hH : NoOrder2 H) {A B C : Pt} {g h k}
    (hA : PtRep p a b H A g) (hB : PtRep p a b H B h) (hC : PtRep p a b H C k) :
    ptEq A A = true ∧ (ptEq A B = true → ptEq B A = true) ∧
      (ptEq A B = true → ptEq B C = true → ptEq A C = true) :=
  equivalence_of_iff (ptEq_iff hH) hA hB hC

/-- `x()`, `y()` (unconditional): never raise on a stored point, return the canonical residues in [0, p−1], and these
are the affine coordinates of `⟦P⟧` -/
theorem xy_canonical {P : PJ} {g} (hP : PJRep p a b H P g) :
    ∃ x y, pjX P = .ok x ∧ pjY P = .ok y ∧ 0 ≤ x ∧ x < p ∧ 0 ≤ y ∧ y < p ∧
      ∃ hn : (shortW (a : ZMod p) (b : ZMod p)).toAffine.Nonsingular (x : ZMod p) (y : ZMod p),
        g = Affine.Point.some _ _ hn := by
  obtain ⟨x, y, ex, ey, rx, ry, hn⟩ := pjXY_correct hP
  exact ⟨x, y, ex, ey, rx.1, rx.2, ry.1, ry.2, hn⟩

/-- `scale()` (unconditional): Z becomes 1, coordinates reduced, same element, same order/generator flags -/
theorem scale_preserves {P : PJ} {g} (hP : PJRep p a b H P g) :
    ∃ S, pjScale P = .ok S ∧ PJRep p a b H S g ∧ S.z = 1 ∧ S.curve = P.curve ∧ S.order = P.order ∧
      S.generator = P.generator :=
  pjScale_correct hP

/-- `to_affine()` (unconditional): a legacy `Point` with canonical coordinates denoting the same element; the
constructor's `contains_point` assertion cannot fail -/
theorem to_affine_correct {P : PJ} {g} (hP : PJRep p a b H P g) :
    ∃ A, pjToAffine P = .ok (.aff A) ∧ AffRep p a b H A g ∧ A.order = P.order :=
  pjToAffine_correct hP

/-- mixing representations: `+` and `==` on any two point values (INFINITY, `PointJacobi`, legacy `Point`, on either
side, through Python's `__radd__` / reflected `__eq__`) -/
theorem mixed_affine_jacobi_partial (hp2 : p ≠ 2) (hH : NoOrder2 H) {A B : Pt} {g h}
    (hA : PtRep p a b H A g) (hB : PtRep p a b H B h) :
    (∃ R, ptAdd A B = .ok R ∧ PtRep p a b H R (g + h)) ∧ (ptEq A B = true ↔ g = h) :=
  ⟨ptAdd_correct hp2 hH hA hB, ptEq_iff hH hA hB⟩

/-! ## 3. the legacy affine class -/

theorem legacy_add_correct_partial (hp2 : p ≠ 2) (hH : NoOrder2 H) {A : AffPt} {other : Pt} {g h}
    (hA : AffRep p a b H A g) (hQ : PtRep p a b H other h) :
    ∃ R, affAdd A other = .ok R ∧ PtRep p a b H R (g + h) :=
  affAdd_correct hp2 hH hA hQ

theorem legacy_double_correct_partial (hp2 : p ≠ 2) (hH : NoOrder2 H) {A : AffPt} {g}
    (hA : AffRep p a b H A g) : ∃ R, affDouble A = .ok R ∧ PtRep p a b H R (g + g) :=
  affDouble_correct hp2 hH hA

/-- N2T is needed: `Point.__neg__` stores `p - y`, which is p (not canonical) when y = 0 -/
theorem legacy_neg_correct_partial (hH : NoOrder2 H) {A : AffPt} {g} (hA : AffRep p a b H A g) :
    ∃ N, affNeg A = .ok N ∧ AffRep p a b H N (-g) ∧ N.order = none :=
  affNeg_correct hH hA

theorem legacy_eq_correct_partial (hH : NoOrder2 H) {A : AffPt} {other : Pt} {g h}
    (hA : AffRep p a b H A g) (hQ : PtRep p a b H other h) : affEq A other = true ↔ g = h :=
  affEq_iff hH hA hQ

/-! ## 3b. identity-valued `PointJacobi` objects (Y = 0 or Z = 0): "including the identity" at object level -/

/-- `P == Q` on ALL objects: an identity-valued `PointJacobi` equals exactly the other identity-valued
objects and INFINITY (e.g. `(0,0,1) == (5,0,1)`, `(0,0,0) ≠ G`); otherwise equality of the denoted elements -/
theorem eq_iff_all_partial (hH : NoOrder2 H) {P : PJ} {other : Pt} {g h}
    (hP : PJRep0 p a b H P g) (hQ : PtRep0 p a b H other h) : pjEq P other = true ↔ g = h :=
  pjEq_iff0 hH hP hQ

/-- `==` is an equivalence relation on ALL point values, identity-valued objects included -/
theorem eq_equivalence_all_partial (hH : NoOrder2 H) {A B C : Pt} {g h k}
    (hA : PtRep0 p a b H A g) (hB : PtRep0 p a b H B h) (hC : PtRep0 p a b H C k) :
    ptEq A A = true ∧ (ptEq A B = true → ptEq B A = true) ∧
      (ptEq A B = true → ptEq B C = true → ptEq A C = true) :=
  equivalence_of_iff (ptEq_iff0 hH) hA hB hC

/-- `P + Q` on ALL objects (the `self == INFINITY` / `other == INFINITY` pass-through of `__add__`, and through
`__radd__` for INFINITY / legacy points on the left) -/
theorem add_all_correct_partial (hp2 : p ≠ 2) (hH : NoOrder2 H) {A B : Pt} {g h}
    (hA : PtRep0 p a b H A g) (hB : PtRep0 p a b H B h) :
    (∃ R, ptAdd A B = .ok R ∧ PtRep0 p a b H R (g + h)) ∧ (ptEq A B = true ↔ g = h) :=
  ⟨ptAdd_correct0 hp2 hH hA hB, ptEq_iff0 hH hA hB⟩

/-- `double()`, `-P`, `scale()`, `to_affine()` on ALL `PointJacobi` objects: an identity-valued object doubles to
INFINITY, negates to an identity-valued object, scales without raising (`inverse_mod(0, p) = 0`) and converts to INFINITY -/
theorem unary_all_correct_partial (hH : NoOrder2 H) {P : PJ} {g} (hP : PJRep0 p a b H P g) :
    PtRep p a b H (pjDouble P) (g + g) ∧ PJRep0 p a b H (pjNeg P) (-g) ∧
      (∃ S, pjScale P = .ok S ∧ PJRep0 p a b H S g ∧ S.z = 1) ∧
      (∃ R, pjToAffine P = .ok R ∧ PtRep p a b H R g) := by
  obtain ⟨S, e, hS, z, _⟩ := pjScale_correct0 hP
  exact ⟨pjDouble_correct0 hH hP, pjNeg_correct0 hP, ⟨S, e, hS, z⟩, pjToAffine_correct0 hP⟩

theorem infinity_iff_zero {R : Pt} {k} (hR : PtRep p a b H R k) : R = .infinity ↔ k = 0 := by
  cases R with
  | infinity => exact ⟨fun _ => hR, fun _ => rfl⟩
  | jac J => exact ⟨fun e => Pt.noConfusion e, fun e => absurd e (good_ne_zero (PJRep.good hR))⟩
  | aff A => exact ⟨fun e => Pt.noConfusion e, fun e => absurd e (AffRep.ne_zero hR)⟩

/-- representation independence of `double`, unary minus, `==` and `to_affine` (for `+` see section 4): operands with
equal denotations — any scaling, identity held as INFINITY or as an identity-valued object — give results with equal
denotations, hence `==` results, and `to_affine()` gives the same value -/
theorem representation_independence_unary_partial (hH : NoOrder2 H) {P P' : PJ} {Q Q' : Pt} {g h}
    (hP : PJRep0 p a b H P g) (hP' : PJRep0 p a b H P' g) (hQ : PtRep0 p a b H Q h) (hQ' : PtRep0 p a b H Q' h) :
    ptEq (pjDouble P) (pjDouble P') = true ∧ pjEq (pjNeg P) (.jac (pjNeg P')) = true ∧
      pjEq P Q = pjEq P' Q' ∧
      (∃ R R', pjToAffine P = .ok R ∧ pjToAffine P' = .ok R' ∧ ptEq R R' = true ∧
        (R = .infinity ↔ R' = .infinity)) := by
  refine ⟨(ptEq_iff hH (pjDouble_correct0 hH hP) (pjDouble_correct0 hH hP')).mpr rfl,
    (pjEq_iff0 hH (pjNeg_correct0 hP) (show PtRep0 p a b H (.jac (pjNeg P')) (-g) from pjNeg_correct0 hP')).mpr rfl,
    ?_, ?_⟩
  · rw [Bool.eq_iff_iff, pjEq_iff0 hH hP hQ, pjEq_iff0 hH hP' hQ']
  · obtain ⟨R, e, hR⟩ := pjToAffine_correct0 hP
    obtain ⟨R', e', hR'⟩ := pjToAffine_correct0 hP'
    exact ⟨R, R', e, e', (ptEq_iff hH hR hR').mpr rfl, by rw [infinity_iff_zero hR, infinity_iff_zero hR']⟩

/-- identity-valued operands of `==` on the toy curve, evaluated: `(0,0,0) == G` is False, `(0,0,1) == (5,0,1)` is True, both orders -/
theorem f13_witnesses :
    pjEq ⟨toyC, 0, 0, 0, none, false⟩ (.jac toyG) = false ∧ pjEq toyG (.jac ⟨toyC, 0, 0, 0, none, false⟩) = false ∧
    pjEq ⟨toyC, 0, 0, 1, none, false⟩ (.jac ⟨toyC, 5, 0, 1, none, false⟩) = true ∧
    pjEq ⟨toyC, 5, 0, 1, none, false⟩ (.jac ⟨toyC, 0, 0, 1, none, false⟩) = true ∧
    pjEq ⟨toyC, 3, 6, 0, none, false⟩ .infinity = true := by decide

/-! ## 4. representation independence -/

theorem xy_unique {P P' : PJ} {g} (hP : PJRep p a b H P g) (hP' : PJRep p a b H P' g) :
    pjX P = pjX P' ∧ pjY P = pjY P' :=
  pjXY_unique hP hP'

/-- no result depends on the representation of the operands: operands with equal denotations (any scaling, Jacobi or
affine or INFINITY) give sums that are `==`, are INFINITY together, and have identical `x()`, `y()` -/
theorem representation_independence_partial (hp2 : p ≠ 2) (hH : NoOrder2 H) {P P' : PJ} {Q Q' : Pt} {g h}
    (hP : PJRep p a b H P g) (hP' : PJRep p a b H P' g) (hQ : PtRep p a b H Q h) (hQ' : PtRep p a b H Q' h) :
    ∃ R R', pjAdd P Q = .ok R ∧ pjAdd P' Q' = .ok R' ∧ ptEq R R' = true ∧
      (R = .infinity ↔ R' = .infinity) ∧
      (∀ J J', R = .jac J → R' = .jac J' → pjX J = pjX J' ∧ pjY J = pjY J') := by
  obtain ⟨R, e, hR⟩ := pjAdd_correct hp2 hH hP hQ
  obtain ⟨R', e', hR'⟩ := pjAdd_correct hp2 hH hP' hQ'
  refine ⟨R, R', e, e', (ptEq_iff hH hR hR').mpr rfl, ?_, ?_⟩
  · rw [infinity_iff_zero hR, infinity_iff_zero hR']
  · rintro J J' rfl rfl
    exact xy_unique hR hR'

/-! ## 4b. tie of the straight-line arithmetic of the object layer to the generated text -/

/-- `contains_point`, the cross-multiplied comparison of `__eq__`, and the arithmetic of `scale`, `x`, `y` in the model
are the definitions GENERATED from the current source (`Generated/Steps.lean`) -/
theorem object_arithmetic_is_generated :
    (∀ c x y, containsPoint c x y = Gen.s_contains_point x y c.p c.a c.b) ∧
    (∀ p x1 y1 z1 x2 y2 z2, coordsEq p x1 y1 z1 x2 y2 z2 = Gen.s_eq_coords x1 y1 z1 x2 y2 z2 p) ∧
    (∀ (P : PJ) zi, P.z ≠ 1 → inverseMod P.z P.curve.p = .ok zi →
      pjScale P = .ok { P with x := (Gen.s_scale_coords P.x P.y zi P.curve.p).1,
                               y := (Gen.s_scale_coords P.x P.y zi P.curve.p).2, z := 1 } ∧
      pjX P = .ok (Gen.s_x_coord P.x zi P.curve.p) ∧ pjY P = .ok (Gen.s_y_coord P.y zi P.curve.p)) :=
  ⟨StepsTie.containsPoint_tie, StepsTie.coordsEq_tie,
    fun P zi hz hi => ⟨StepsTie.pjScale_tie P zi hz hi, StepsTie.pjX_tie P zi hz hi, StepsTie.pjY_tie P zi hz hi⟩⟩

/-! ## 5. K1 is real: the full statement fails on a curve with a point of order two -/

/-- p = 11, a = 0, b = 1: (0, 1) and (2, 3) are points of the curve, their sum in the textbook group is NOT the
identity (it is (10, 0), of order two), yet the model — like the code, replayed by the check — returns INFINITY -/
theorem two_torsion_counterexample :
    ∃ (hP : (shortW ((0 : ℤ) : ZMod 11) ((1 : ℤ) : ZMod 11)).toAffine.Nonsingular ((0 : ℤ) : ZMod 11) ((1 : ℤ) : ZMod 11))
      (hQ : (shortW ((0 : ℤ) : ZMod 11) ((1 : ℤ) : ZMod 11)).toAffine.Nonsingular ((2 : ℤ) : ZMod 11) ((3 : ℤ) : ZMod 11)),
      Affine.Point.some _ _ hP + Affine.Point.some _ _ hQ ≠ 0 ∧
      pjAdd ⟨⟨11, 0, 1, none⟩, 0, 1, 1, none, false⟩ (.jac ⟨⟨11, 0, 1, none⟩, 2, 3, 1, none, false⟩)
        = .ok .infinity := by
  refine ⟨nonsingular_of (by decide) (by decide) (by decide), nonsingular_of (by decide) (by decide) (by decide),
    ?_, by decide⟩
  intro h0
  have := eq_neg_of_add_eq_zero_right h0
  rw [Affine.Point.neg_some, Affine.Point.some.injEq] at this
  exact absurd this.1 (by decide)

/-! ## non-vacuity: the hypotheses are satisfiable on y² = x³ + x + 6 over F₁₁ (no 2-torsion) -/

example : ∃ R g h, PJRep 11 1 6 ⊤ toyG g ∧ PJRep 11 1 6 ⊤ toyQ h ∧
    pjAdd toyG (.jac toyQ) = .ok R ∧ PtRep 11 1 6 ⊤ R (g + h) := by
  obtain ⟨g, hg⟩ := toyG_rep
  obtain ⟨h, hh⟩ := toyQ_rep
  obtain ⟨R, e, hR⟩ := add_objects_correct_partial (by decide) toy_n2t hg (show PtRep 11 1 6 ⊤ (.jac toyQ) h from hh)
  exact ⟨R, g, h, hg, hh, e, hR⟩

example : ∃ g, IRep 11 1 6 ⊤ (Gen.k_add 2 7 1 2 7 1 11 1) (g + g) := by
  obtain ⟨g, hg⟩ := toyG_rep
  exact ⟨g, add_correct_partial (by decide) toy_n2t hg.irep hg.irep⟩

example : pjAdd toyG (.jac toyQ) = .ok (.jac ⟨toyC, 6, 6, 2, none, false⟩) := by decide
example : pjEq toyG (.jac ⟨toyC, 8, 1, 2, none, false⟩) = true := by decide   -- (2,7) rescaled by Z = 2
example : ∃ x y, pjX toyG = .ok x ∧ pjY toyG = .ok y := by
  obtain ⟨g, hg⟩ := toyG_rep
  obtain ⟨x, y, ex, ey, _⟩ := xy_canonical hg
  exact ⟨x, y, ex, ey⟩


example : ∃ g, AffRep 11 1 6 ⊤ ⟨toyC, 2, 7, none⟩ g ∧
    (∃ R, affDouble ⟨toyC, 2, 7, none⟩ = .ok R ∧ PtRep 11 1 6 ⊤ R (g + g)) ∧
    (∃ N, affNeg ⟨toyC, 2, 7, none⟩ = .ok N ∧ AffRep 11 1 6 ⊤ N (-g)) := by
  obtain ⟨g, hg⟩ := toyG_rep
  obtain ⟨A, e, hA, _⟩ := to_affine_correct hg
  have eA : A = ⟨toyC, 2, 7, none⟩ := by
    have : pjToAffine toyG = .ok (.aff ⟨toyC, 2, 7, none⟩) := by decide
    rw [this] at e; cases e; rfl
  subst eA
  obtain ⟨N, eN, hN, _⟩ := legacy_neg_correct_partial toy_n2t hA
  exact ⟨g, hA, legacy_double_correct_partial (by decide) toy_n2t hA, N, eN, hN⟩

example : ∃ g, PJRep 11 1 6 ⊤ toyG g ∧ PJRep 11 1 6 ⊤ ⟨toyC, 8, 1, 2, none, false⟩ g := by
  obtain ⟨g, hg⟩ := toyG_rep
  refine ⟨g, hg, ?_⟩
  have h := good_smul hg.good (u := ((2 : ℤ) : ZMod 11)) (by decide)
  refine ⟨toyC_on, (toy_inRange3 (by decide)), ?_⟩
  convert h using 2
  simp only [toyG, cast3_mk, Matrix.cons_val_zero, Matrix.cons_val_one, Matrix.cons_val_two, Matrix.head_cons,
    Matrix.tail_cons]
  decide


example : ∃ g, PJRep0 11 1 6 ⊤ ⟨toyC, 0, 0, 1, none, false⟩ 0 ∧ PJRep0 11 1 6 ⊤ ⟨toyC, 3, 6, 0, none, false⟩ 0 ∧
    PJRep0 11 1 6 ⊤ toyG g ∧
    (∃ R, pjAdd ⟨toyC, 0, 0, 1, none, false⟩ (.jac toyG) = .ok R ∧ PtRep0 11 1 6 ⊤ R (0 + g)) ∧
    (pjEq ⟨toyC, 3, 6, 0, none, false⟩ .infinity = true) := by
  obtain ⟨g, hg⟩ := toyG_rep
  have z1 : PJRep0 11 1 6 ⊤ ⟨toyC, 0, 0, 1, none, false⟩ 0 :=
    pjRep0_zero toyC_on (toy_inRange3 (by decide)) (Or.inl rfl)
  have z2 : PJRep0 11 1 6 ⊤ ⟨toyC, 3, 6, 0, none, false⟩ 0 :=
    pjRep0_zero toyC_on (toy_inRange3 (by decide)) (Or.inr rfl)
  exact ⟨g, z1, z2, hg.rep0, (add_all_correct_partial (by decide) toy_n2t (A := .jac _) (B := .jac toyG) z1 hg.rep0).1,
    (eq_iff_all_partial toy_n2t z2 (show PtRep0 11 1 6 ⊤ .infinity 0 from rfl)).mpr rfl⟩

end C06
