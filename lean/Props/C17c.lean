import Props.C03
import Props.C17
/-!
# C17c — the entropy-driven signature is a function of the bytes the caller's source handed out (C17 × C03)

`SigningKey.sign_digest(digest, entropy=ent)` draws its nonce with `randrange(order, ent)` (`sign_number`, pinned in
`Generated/RandSlices` and `Generated/EcdsaInt`).  The two halves live in two models: `Rand.randrange` (what is asked of the
source and what comes back, C17) and `Ecdsa.signDigest`, which takes the nonce source as a parameter `Int → Res Int` (C01–C03).
This file composes them:

* `sign_digest_entropy_eq_explicit` — the outcome IS that of `sign_digest(digest, k=k)` for the `k` that `randrange` returned:
  the signature is a function of the consumed bytes and of nothing else; there is no second draw, from this or any other source;
* `entropy_signature_is_standard` — hence (C03) the standard `(r, s)` of that nonce, or `RSZeroError` when that nonce gives
  `r = 0` or `s = 0` (an unusable nonce is REPORTED, never silently replaced: round-8 seed C17-mut53-1 retried with
  `os.urandom`), or `BadDigestError` for an over-long digest with truncation disabled;
* `entropy_signature_replay` — two sources that answer the requests of this call alike give the same outcome, whatever it is;
* `entropy_failure_propagates` — an exception of the source, or one raised while drawing, is the outcome.
-/
namespace C17c
open Ecdsa

variable {P : Type} {𝔾 : Type} [AddCommGroup 𝔾]
variable {ops : PointOps P} {G : 𝔾} {den : P → 𝔾} {xc : 𝔾 → Option ℤ} {valid : P → Prop}

/-- the nonce source `sign_number` uses when no `k` is given: the value of `randrange(order, ent)` on the request history `hist`
(`fuel` bounds the rejected chunks explored; a draw still running after `fuel` chunks is no outcome at all: `.other`) -/
def entropyRand (ent : Rand.Entropy) (hist : List Nat) (fuel : Nat) : ℤ → Res ℤ := fun order =>
  match Rand.randrange ent order hist fuel with
  | some (.ok (k, _)) => .ok (k : ℤ)
  | some (.error e) => .error e
  | none => .error .other

theorem sign_digest_entropy_eq_explicit {β : Type} (ops : PointOps P) (d : ℤ) (dg : Bytes) (ent : Rand.Entropy)
    (hist : List Nat) (fuel : Nat) (k : ℕ) (hist' : List Nat)
    (h : Rand.randrange ent ops.order hist fuel = some (.ok (k, hist')))
    (rand' : ℤ → Res ℤ) (enc : ℤ → ℤ → ℤ → Res β) (allow : Bool) :
    signDigest ops d dg none (entropyRand ent hist fuel) enc allow = signDigest ops d dg (some (k : ℤ)) rand' enc allow := by
  unfold signDigest signNumber entropyRand
  simp only [h]

theorem entropy_signature_is_standard {β : Type} (C : PointOpsCorrect ops G den xc valid) (d : ℤ) (dg : Bytes) (hne : dg ≠ [])
    (ent : Rand.Entropy) (hist : List Nat) (fuel : Nat) (k : ℕ) (hist' : List Nat)
    (h : Rand.randrange ent ops.order hist fuel = some (.ok (k, hist')))
    (enc : ℤ → ℤ → ℤ → Res β) (allow : Bool) :
    (1 ≤ (k : ℤ) ∧ (k : ℤ) < ops.order) ∧
    ∃ x, xc ((k : ℤ) • G) = some x ∧
      signDigest ops d dg none (entropyRand ent hist fuel) enc allow =
        (if allow = false ∧ dg.length > baselen ops then .error .badDigest
         else
           let e := C03.digestInt ops.order dg allow
           let r := x % ops.order
           let s := invZ ops.order k * (e + r * d) % ops.order
           if r = 0 ∨ s = 0 then .error .rsZero else enc r s ops.order) := by
  have hk := C17.randrange_range ent ops.order hist fuel k hist' h
  have hk' : 1 ≤ (k : ℤ) ∧ (k : ℤ) < ops.order := ⟨by exact_mod_cast hk.1, hk.2⟩
  refine ⟨hk', ?_⟩
  obtain ⟨x, hx, hs⟩ := C03.sign_digest_eq_standard_flag C d (k : ℤ) hk' dg hne (fun _ => .error .other) enc allow
  exact ⟨x, hx, by rw [sign_digest_entropy_eq_explicit ops d dg ent hist fuel k hist' h (fun _ => .error .other) enc allow, hs]⟩

theorem entropy_signature_replay {β : Type} (ops : PointOps P) (d : ℤ) (dg : Bytes) (ent₁ ent₂ : Rand.Entropy)
    (hist : List Nat) (fuel : Nat)
    (hsame : ∀ i, ent₁ (hist ++ List.replicate (i + 1) (Rand.upper256 ops.order)) =
                  ent₂ (hist ++ List.replicate (i + 1) (Rand.upper256 ops.order)))
    (enc : ℤ → ℤ → ℤ → Res β) (allow : Bool) :
    signDigest ops d dg none (entropyRand ent₁ hist fuel) enc allow =
      signDigest ops d dg none (entropyRand ent₂ hist fuel) enc allow := by
  have : entropyRand ent₁ hist fuel ops.order = entropyRand ent₂ hist fuel ops.order := by
    unfold entropyRand
    rw [C17.randrange_replay ent₁ ent₂ ops.order hist fuel hsame]
  unfold signDigest signNumber
  simp only [this]

theorem entropy_failure_propagates {β : Type} (ops : PointOps P) (d : ℤ) (dg : Bytes) (number : ℤ) (ent : Rand.Entropy)
    (hist : List Nat) (fuel : Nat) (e : PyErr) (allow : Bool)
    (hnum : truncateAndConvertDigest dg (baselen ops) ops.order allow = .ok number)
    (h : Rand.randrange ent ops.order hist fuel = some (.error e))
    (enc : ℤ → ℤ → ℤ → Res β) :
    signDigest ops d dg none (entropyRand ent hist fuel) enc allow = .error e := by
  unfold signDigest signNumber entropyRand
  simp only [h, hnum, bind, Except.bind]

/-! ### non-vacuity: the toy group of order 7 (C03's instance), the scripted stream of C17's example -/

/-- the hypotheses are met and the composed model really signs: after the key draw (one request of one byte) the stream
`[64, 255, 32]` yields the nonce 2 on the second chunk it is asked for; digest `05`, d = 3 → (2, 2), the same as `k = 2` given
explicitly -/
example : Rand.randrange (Rand.streamEntropy [64, 255, 32]) Toy.ops.order [1] 5 = some (.ok (2, [1, 1, 1])) ∧
    signDigest Toy.ops 3 [5] none (entropyRand (Rand.streamEntropy [64, 255, 32]) [1] 5) (fun r s _ => .ok (r, s)) false = .ok (2, 2) ∧
    signDigest Toy.ops 3 [5] (some 2) (fun _ => .error .other) (fun r s _ => .ok (r, s)) false = .ok (2, 2) := by
  decide +kernel

/-- an unusable nonce is reported: the same stream with d = 1 and digest `05` gives s = 2⁻¹(5 + 2·1) = 0 (mod 7) → `RSZeroError` -/
example : signDigest Toy.ops 1 [5] none (entropyRand (Rand.streamEntropy [64, 255, 32]) [1] 5) (fun r s _ => .ok (r, s)) false =
    .error .rsZero := by
  decide +kernel

end C17c
