import Proofs.UncondBase
import Props.C05x
/-!
# UncondC05 — C05: ECDH exchange agrees on the named curves with NO primality hypothesis

For every curve of `NamedPrimes.unconditionalCurves` (all 17 curves of the table: p and n carry kernel-checked Pocklington certificates, the
order of the base point is checked by kernel evaluation) the headline statements of C05 hold without any hypothesis about the
curve, except `#E(𝔽_p) = n` where stated.
Generated from `Props/Uncond.lean` by harness/tools/primecerts/mkuncond_split.py.
-/
namespace UncondC05
open Uncond Named NamedPrimes Ecdsa GroupInterface Jac

variable {r : Gen.CurveRow}

theorem exchange_agrees (hr : r ∈ unconditionalCurves) (dA dB : Nat) (hA : 1 ≤ dA ∧ dA < r.n) (hB : 1 ≤ dB ∧ dB < r.n)
    (encA encB : Keys.PointEnc) :
    haveI := factP hr
    C05x.ExchangeAgrees r (mem_table hr) dA dB encA encB := by
  haveI := factP hr
  exact C05x.named_exchange_agrees r (mem_table hr) (primeN hr) dA dB hA hB encA encB

end UncondC05
