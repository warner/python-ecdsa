import Proofs.Asn1
import Proofs.Audit
import Proofs.Basic
import Proofs.Bits
import Proofs.CertAffine
import Proofs.CurveObjSkel
import Proofs.CurveObjTie
import Proofs.DerBits
import Proofs.DerDigits
import Proofs.DerEnc
import Proofs.DerInt
import Proofs.DerLen
import Proofs.DerNum
import Proofs.DerOid
import Proofs.DerSkel
import Proofs.DerSpec
import Proofs.DerTie
import Proofs.DerTieFn
import Proofs.DerTlv
import Proofs.EcdhSimp
import Proofs.EcdhTie
import Proofs.EcdhTieProofs
import Proofs.EcdsaBits
import Proofs.EcdsaCodec
import Proofs.EcdsaDecode
import Proofs.EcdsaEntry
import Proofs.EcdsaGroup
import Proofs.EcdsaInstCard
import Proofs.EcdsaInstCurve
import Proofs.EcdsaInstLegacy
import Proofs.EcdsaInstNamed
import Proofs.EcdsaInstNt
import Proofs.EcdsaInstOrd
import Proofs.EcdsaInstRecover
import Proofs.EcdsaInstToy
import Proofs.EcdsaInstToyRec
import Proofs.EcdsaKeys
import Proofs.EcdsaNt
import Proofs.EcdsaRecover
import Proofs.EcdsaRecover2
import Proofs.EcdsaRecoverBase
import Proofs.EcdsaRoundTrip
import Proofs.EcdsaSign
import Proofs.EcdsaToy
import Proofs.EcdsaToy2
import Proofs.EcdsaTruncate
import Proofs.EcdsaVerify
import Proofs.GroupInterface
import Proofs.GroupObj
import Proofs.GroupObj0
import Proofs.InvMod
import Proofs.JacBase
import Proofs.JacCast
import Proofs.JacField
import Proofs.JacRep
import Proofs.KeysBytes
import Proofs.KeysDer
import Proofs.KeysDerRT
import Proofs.KeysEcdh
import Proofs.KeysInstPub
import Proofs.KeysPem
import Proofs.KeysPoint
import Proofs.KeysString
import Proofs.KeysTie
import Proofs.Legacy
import Proofs.LegacyMul
import Proofs.MulAdd
import Proofs.MulAll
import Proofs.MulNaf
import Proofs.MulTable
import Proofs.NTCip
import Proofs.NTCip1
import Proofs.NTCip2
import Proofs.NTCipPoly
import Proofs.NTExtra
import Proofs.NTExtraLambda
import Proofs.NTExtraLfrp
import Proofs.NTExtraOrder
import Proofs.NTFact
import Proofs.NTGcd
import Proofs.NTGuards
import Proofs.NTInv
import Proofs.NTInvFallback
import Proofs.NTJacobi
import Proofs.NTMR
import Proofs.NTNext
import Proofs.NTPow
import Proofs.NTPrime
import Proofs.NTReview
import Proofs.NTSmallExact
import Proofs.NTSqrt
import Proofs.NTTable
import Proofs.Naf
import Proofs.NamedChecks
import Proofs.NamedCurves
import Proofs.NamedPrimeCerts
import Proofs.PointObjAbs
import Proofs.PointObjKeys
import Proofs.PointObjMulAdd
import Proofs.PointObjOps
import Proofs.PointObjSim
import Proofs.PrimeCert
import Proofs.RWInv
import Proofs.RWLive
import Proofs.RWSafe
import Proofs.RWShare
import Proofs.RWSim
import Proofs.RWTerm
import Proofs.RandLoop
import Proofs.RandSeed
import Proofs.RandSource
import Proofs.RandUniform
import Proofs.RandUniformLoop
import Proofs.RestSkel
import Proofs.RfcMain
import Proofs.RfcRetry
import Proofs.RfcSource
import Proofs.RfcSpec
import Proofs.StepsTie
import Proofs.Threads
import Proofs.ThreadsKeys
import Proofs.ThreadsOps
import Proofs.ThreadsRep
import Proofs.ThreadsSpec
import Proofs.ThreadsValue
import Proofs.Toy
import Proofs.UncondBase
import Proofs.UtilNum
import Proofs.UtilSig
import Proofs.UtilSkel
import Proofs.UtilTie
import Proofs.UtilTieFn
